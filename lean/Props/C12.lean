/-
  C12 — numbers rendered as text or JSON numbers read back exactly.

  Statement (properties.jsonl): rendering any signed, unsigned or finite floating-point value
  as text or as a JSON number yields a plain decimal literal that is a valid JSON number, and
  casting that literal back to the original type returns exactly the original value
  (bit-identical for floats, including negative zero).  Booleans render as true/false in text
  and 1/0 as numbers and read back unchanged; non-finite floats never produce a number that
  marshals.

  Integers and booleans: proved outright for the regenerated tables and the ported
  strconv (Proofs.IntText): every value of every integer type, no bound.
  Floats: `float_partial` — shortest-digit generation and correctly rounded parsing are
  strconv's; they enter as the parameter `Ext` with the round-trip law as an explicit
  hypothesis (DESIGN.md §3.1 b, §6).  What is proved is that jsonline's part — the verb 'f',
  precision -1, the formatting bit size, the parsing bit size, the narrowing conversion, the
  dispatch — composes that law into an exact round trip.
-/
import Proofs.CasterFacts
import Proofs.LineFloats

namespace Jl.C12
open Jl Cast

private theorem widen (t u : IntTy) (v : Int) (hv : t.inRange v)
    (hsub : ∀ x, t.inRange x → u.inRange x) : u.wrap v = v :=
  wrap_of_inRange u v (hsub v hv)

/-- ToString of an integer of any type is its decimal text (strconv.FormatInt / FormatUint /
    Itoa, base 10 — the verbs and the base are read from the source on every run). -/
theorem toString_int (ext : Ext) (t : IntTy) (v : Int) (hv : t.inRange v) :
    castNamed genTables ext "ToString" (.int t v) = .ok (.str (IntText.formatInt v)) :=
  toString_of_int ext t v hv

theorem toNumber_int (ext : Ext) (t : IntTy) (v : Int) (hv : t.inRange v) :
    castNamed genTables ext "ToNumber" (.int t v) = .ok (.num (IntText.formatInt v)) :=
  toNumber_of_int ext t v hv

/-- Fuel 23: `castTo` starts at 24 (Model/Cast.lean) and the dispatch branch spends one. -/
theorem castTo_int (ext : Ext) (t : IntTy) (x : Dyn) :
    castTo genTables ext (.int t) x = callNamed genTables ext 23 (casterOfInt t) x :=
  LineInts.castTo_int ext t x

/-- Integers: the rendered text, cast back to the original type, is exactly the original
    value — for every value of all ten types, via text and via json.Number. -/
theorem int_text_reads_back (ext : Ext) (t : IntTy) (v : Int) (hv : t.inRange v) :
    (∃ s, castNamed genTables ext "ToString" (.int t v) = .ok (.str s) ∧
          castTo genTables ext (.int t) (.str s) = .ok (.int t v)) ∧
    (∃ s, castNamed genTables ext "ToNumber" (.int t v) = .ok (.num s) ∧
          castTo genTables ext (.int t) (.num s) = .ok (.int t v)) := by
  refine ⟨⟨_, toString_int ext t v hv, ?_⟩, ⟨_, toNumber_int ext t v hv, ?_⟩⟩
  · rw [CasterFacts.castTo_cast ext (ty := .int t) rfl, cast_text_source ext t v, if_pos hv]
  · rw [CasterFacts.castTo_cast ext (ty := .int t) rfl, cast_num_source ext t v, if_pos hv]

/-- The text is the canonical decimal literal of the value (no sign for non-negative values,
    no leading zeros, no exponent, no prefix): `canonicalDecimal` reads it back. -/
theorem int_text_is_canonical (v : Int) :
    CastSpec.canonicalDecimal (IntText.formatInt v) = some v :=
  IntText.canonicalDecimal_formatInt v

/-- Two different integers never render as the same text, whatever their types. -/
theorem int_text_distinguishes_values (ext : Ext) (t u : IntTy) (v w : Int) (hv : t.inRange v)
    (hw : u.inRange w) (s : Bytes)
    (h1 : castNamed genTables ext "ToString" (.int t v) = .ok (.str s))
    (h2 : castNamed genTables ext "ToString" (.int u w) = .ok (.str s)) : v = w := by
  rw [toString_int ext t v hv] at h1
  rw [toString_int ext u w hw] at h2
  injection h1 with h1; injection h1 with h1
  injection h2 with h2; injection h2 with h2
  exact IntText.formatInt_injective (h1.trans h2.symm)

/-- Conversely no second spelling reads back as the same value under the canonical reader. -/
theorem canonical_text_is_unique (s : Bytes) (v : Int) :
    CastSpec.canonicalDecimal s = some v ↔ s = IntText.formatInt v :=
  ⟨IntText.eq_formatInt_of_canonicalDecimal, fun h => h ▸ IntText.canonicalDecimal_formatInt v⟩

/-- The decimal text of an integer is a JSON number token (the scanner of Model.JsonRead consumes
    exactly it). -/
theorem int_text_is_json_number (v : Int) :
    Json.scanNumber (IntText.formatInt v) = some (IntText.formatInt v, []) := by
  have h := JsonLex.scanNumber_complete (JsonLex.jnumber_formatInt v) IntText.numberEnds_nil
  rwa [List.append_nil] at h

/-- Booleans render as true/false in text and read back unchanged. -/
theorem bool_text (ext : Ext) (b : Bool) :
    castNamed genTables ext "ToString" (.bool b) = .ok (.str (IntText.formatBool b)) ∧
    castTo genTables ext .bool (.str (IntText.formatBool b)) = .ok (.bool b) := by
  refine ⟨castNamed_clause (v := .bool b) CasterFacts.toString_value_clauses.1 ext, ?_⟩
  rw [CasterFacts.castTo_cast ext (ty := .bool) rfl, CasterFacts.toBool_str_eq]
  cases b <;> rfl

/-- Booleans render as 1/0 as numbers. -/
theorem bool_number (ext : Ext) (b : Bool) :
    castNamed genTables ext "ToNumber" (.bool b) = .ok (.num (if b then [0x31] else [0x30])) :=
  CasterFacts.toNumber_bool ext b

/-- The law assumed of strconv for floats (shortest formatting with verb 'f', precision -1,
    and correctly rounded parsing): the text parses back to the same value at the same bit
    size.  For float32 the parse result is a float64 holding a float32 value. -/
structure FloatLaw (ext : Ext) : Prop where
  rt64 : ∀ b, Float.isFinite Float.f64 b = true →
    ∃ s, ext.fmtFloat b 64 = some s ∧ ext.parseFloat s 64 = some (some b)
  rt32 : ∀ b, Float.isFinite Float.f32 b = true →
    ∃ s, ext.fmtFloat (Float.f32to64 b) 32 = some s ∧
      ∃ r, ext.parseFloat s 32 = some (some r) ∧ Float.f64to32 r = b

/-- Floats, partial: *given* strconv's round-trip law, text rendering followed by the cast
    back is the identity on every finite float64 and float32 bit pattern (so −0, subnormals
    and values beyond 2^53 included).  What this fixes about jsonline: verb, precision and bit
    sizes of the FormatFloat/ParseFloat calls, the float32 narrowing, the dispatch. -/
theorem float_partial (ext : Ext) (law : FloatLaw ext) :
    (∀ b, Float.isFinite Float.f64 b = true →
      ∃ s, castNamed genTables ext "ToString" (.f64 b) = .ok (.str s) ∧
           castTo genTables ext .f64 (.str s) = .ok (.f64 b) ∧
           castNamed genTables ext "ToNumber" (.f64 b) = .ok (.num s) ∧
           castTo genTables ext .f64 (.num s) = .ok (.f64 b)) ∧
    (∀ b, Float.isFinite Float.f32 b = true →
      ∃ s, castNamed genTables ext "ToString" (.f32 b) = .ok (.str s) ∧
           castTo genTables ext .f32 (.str s) = .ok (.f32 b) ∧
           castNamed genTables ext "ToNumber" (.f32 b) = .ok (.num s) ∧
           castTo genTables ext .f32 (.num s) = .ok (.f32 b)) := by
  constructor
  · intro b hb
    obtain ⟨s, hf, hp⟩ := law.rt64 b hb
    exact ⟨s, LineFloats.float_text_rt ext .f64 hf hp rfl⟩
  · intro b hb
    obtain ⟨s, hf, r, hp, hr⟩ := law.rt32 b hb
    exact ⟨s, LineFloats.float_text_rt ext .f32 hf hp hr⟩

example : castNamed genTables Ext.empty "ToString" (.int .i8 (-128)) =
    .ok (.str [0x2D, 0x31, 0x32, 0x38]) := by
  rw [toString_int _ _ _ (by decide)]; simp [IntText.formatInt, IntText.natDigits, IntText.digitChar]

/-! ### On the emitted BYTES: float columns through one line, given strconv's law (`Proofs/LineFloats`)

  `LineFloats.float_line` characterises `jlLine` for one column declared numeric / string / auto with raw type float64 /
  float32 on both sides completely, by the answers of the standard-library parameter (`ParseFloat` of the member's
  text, `FormatFloat` of the value, json.Marshal's spelling). -/

open Jl.Template Jl.LineFloats Jl.JsonQuote in
/-- numeric(T) on both sides, the member a number literal that `ParseFloat` reads as a FINITE `T`: given the law of
    strconv (`LineFloats.FloatLaw`; `float_law_same` below gives it from `C12.FloatLaw`) and that the rendering of a finite value is
    a JSON number, the line is accepted, `{"k":<shortest rendering>}` is written, and fed back that line is accepted,
    holds the SAME bit pattern in the column and is written back byte for byte. -/
theorem float_line_fixed_point (ext : Ext) (law : LineFloats.FloatLaw ext) (hnumOK : FmtNumberOK ext)
    (k : Bytes) (hk : sanitize k = k) (T : FT) (lit : Bytes) (r : Nat) (line : Bytes)
    (hline : Json.unmarshal line = (.cons k (.num lit) .nil, true))
    (hp : ext.parseFloat lit T.bits = some (some r))
    (hfin : Float.isFinite T.fmt (T.narrow r) = true) :
    ∃ out, ext.fmtFloat (T.widen (T.narrow r)) T.bits = some out ∧ JsonWrite.isValidNumber out = true ∧
      getRow ⟨genTables, ext⟩ (withCol [] k .numeric T.ty) line =
        .ok ([(k, .cell (T.dyn (T.narrow r)) .numeric T.ty)], none) ∧
      jlLine ⟨genTables, ext⟩ (withCol [] k .numeric T.ty) (withCol [] k .numeric T.ty) line =
        .ok (LineTime.objText k out ++ [0x0A], none) ∧
      getRow ⟨genTables, ext⟩ (withCol [] k .numeric T.ty) (LineTime.objText k out) =
        .ok ([(k, .cell (T.dyn (T.narrow r)) .numeric T.ty)], none) ∧
      jlLine ⟨genTables, ext⟩ (withCol [] k .numeric T.ty) (withCol [] k .numeric T.ty)
        (LineTime.objText k out) = .ok (LineTime.objText k out ++ [0x0A], none) :=
  numeric_line_fixed_point_law ext law hnumOK k hk T lit r line hline hp hfin

theorem float_law_same (ext : Ext) (law : FloatLaw ext) : LineFloats.FloatLaw ext := ⟨law.rt64, law.rt32⟩

open Jl.Template Jl.LineFloats in
/-- "Non-finite values never produce a number that marshals", on the line: a NaN or ±Inf held by a numeric(T) or
    auto(T) column is never written, whatever the standard-library parameter leaves unanswered — GIVEN that it answers
    as the library does on non-finite values (`NonFiniteLaw`: `FormatFloat` says NaN / +Inf / -Inf, json.Marshal
    refuses).  Under string(T) such a value IS written, as the string "NaN" (`LineFloats.nonfinite_string_written`). -/
theorem nonfinite_never_written_on_a_line (ext : Ext) (nf : NonFiniteLaw ext) (k : Bytes) {fi fo : Format}
    (hfi : FloatFmt fi) (hfo : fo = .numeric ∨ fo = .auto) (T : FT) (lit : Bytes) (r : Nat)
    (line : Bytes) (jv : JV)
    (hline : Json.unmarshal line = (.cons k jv .nil, true)) (hjv : LineInts.IsCarrierJV jv lit)
    (hp : ext.parseFloat lit T.bits = some (some r))
    (hinf : Float.isFinite T.fmt (T.narrow r) = false) (b : Bytes) :
    jlLine ⟨genTables, ext⟩ (withCol [] k fi T.ty) (withCol [] k fo T.ty) line ≠ .ok (b, none) := by
  have hfo' : FloatFmt fo := by
    rcases hfo with rfl | rfl
    · exact .inl rfl
    · exact .inr (.inr rfl)
  rw [float_line ext k hfi hfo' T lit line jv hline hjv]
  simp only [lineSpec, hp]
  rcases hfo with rfl | rfl
  · cases hs : ext.fmtFloat (T.widen (T.narrow r)) T.bits with
    | none => simp [marshalSpec, hs]
    | some s =>
      obtain ⟨hne, hnum⟩ := nonFinite_text (nf.fmt T _ s hinf hs)
      simp [marshalSpec_numeric_invalid ext T _ s hs hne hnum]
  · cases ho : ext.jsonFloat (T.narrow r) T.bits with
    | none => simp [marshalSpec, jsonText, ho]
    | some o =>
      cases nf.json T _ o hinf ho
      simp [marshalSpec_auto_refused ext T _ ho]

open Jl.Template Jl.LineFloats in
/-- A literal out of the type's range (1e400 under float64, 1e39 under float32: `ParseFloat` answers with an error) is
    rejected, nothing written — never an infinity or a clamped value. -/
theorem out_of_range_literal_rejected (ext : Ext) (k : Bytes) (T : FT) (lit : Bytes) (line : Bytes)
    (hline : Json.unmarshal line = (.cons k (.num lit) .nil, true))
    (hp : ext.parseFloat lit T.bits = some none) :
    jlLine ⟨genTables, ext⟩ (withCol [] k .numeric T.ty) (withCol [] k .numeric T.ty) line =
      .ok ([], some .unsupportedImport) :=
  by rw [float_line ext k (.inl rfl) (.inl rfl) T lit line _ hline (.inl rfl)]
     simp only [lineSpec, hp, LineInts.rejClass]; rfl

end Jl.C12
