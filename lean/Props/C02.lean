/-
  C02 — untemplated read-then-write is lossless and order-preserving at all depths.

  Statement (properties.jsonl): for any line that is a valid JSON object whose objects have
  unique member names, reading it and writing it back without a template yields an object
  equal to the input: the same members in the same order at every nesting depth (including
  objects inside arrays), identical strings, booleans and nulls, and every number literal
  preserved character for character.  Writing is a fixed point.

  Model: Model.JsonRead (reader), Model.Value.ofJV (what handledelim builds), Model.RowPrint
  (writer).  Main theorem: what the reader delivers for a printed row is exactly the tree of
  that row (`read_of_written`); with it, the byte-level statement `lossless_and_fixed_point`.
-/
import Model.Template
import Proofs.IntTextJson
import Proofs.JsonPrint
import Proofs.RoundTrip
import Proofs.Order
import Proofs.RowTieMarshal
import Proofs.RowTieText
import Proofs.FlowTieExport
import Proofs.FlowTieImport

namespace Jl.C02
open Jl Jl.Value

/-- Number literals are read verbatim: the scanner returns exactly the bytes it consumed. -/
theorem number_literal_verbatim (s l r : Bytes) (h : Json.scanNumber s = some (l, r)) : l ++ r = s :=
  IntText.scanNumber_lit h

/-- … and a number literal is written verbatim (json.Number marshals as its own text when it
    is a valid number). -/
theorem number_written_verbatim (env : Env) (l : Bytes) (h1 : l ≠ []) (h2 : JsonWrite.isValidNumber l = true) :
    RowPrint.marshalDyn env (.num l) = .ok l :=
  JsonPrint.marshalDyn_num env h2

/-- The reader's number scanner and the writer's number validation accept the same texts. -/
theorem reader_writer_agree_on_numbers (s : Bytes) :
    JsonWrite.isValidNumber s = true ↔ Json.scanNumber s = some (s, []) :=
  IntText.isValidNumber_iff_scanNumber s

/-- An object read under a key without a declared column becomes an Auto cell holding the
    parsed row itself (not a map): its member order is the text's order. -/
theorem undeclared_object_kept_as_row (env : Env) (o : List (Bytes × Val)) (k : Bytes) (x : Dyn)
    (h : lookup o k = none) :
    parseMember env o k x = .ok (upsert o k (.cell x .auto .none), none) := by
  simp [parseMember, h, Cells.autoCell]

/-- Reading what was written gives back the written row's tree: one member per visible cell,
    in print order at every depth, strings and keys after `sanitize` (the identity on
    well-formed UTF-8), numbers by their literal text. -/
theorem read_of_written (env : Env) (h : JsonPrint.FloatTextOK env.ext) (ms : Members) (bs : Bytes)
    (hb : RowPrint.marshalRow env ms = .ok bs) :
    Json.unmarshal bs = (JsonPrint.treeMembers env ms, true) :=
  JsonPrint.unmarshal_marshalRow env h ms bs hb

/-- Well-formed UTF-8 strings survive the writer and the reader unchanged; a second trip
    changes nothing for any string. -/
theorem strings_survive (s : Bytes) :
    (Utf8.valid s = true → JsonQuote.sanitize s = s) ∧
    JsonQuote.sanitize (JsonQuote.sanitize s) = JsonQuote.sanitize s :=
  ⟨JsonQuote.sanitize_valid s, JsonQuote.sanitize_idem s⟩

/-! ### The whole property, byte level (`Proofs/RoundTrip.lean`)

`jlLine env [] [] line` is what the untemplated importer → exporter does with one line. `t` is the
ordered tree the reader delivers for the text; `UniqueKeys t`: no member name occurs twice in an object,
at any depth. No hypothesis on the cast tables, on the stdlib parameters or on the strings: the
untemplated path never casts and never prints a float, and every string the decoder returns is
well-formed UTF-8 (ill-formed input bytes have already become U+FFFD in `t`). -/

/-- Lossless and a byte-level fixed point: for every accepted line whose member names are unique at
    every depth, the line written denotes the same ordered tree, and feeding it back yields exactly
    the same bytes (and the line holds no raw newline). -/
theorem lossless_and_fixed_point (env : Env) (line : Bytes) (t : JVMembers)
    (hread : Json.unmarshal line = (t, true)) (hu : RoundTrip.UniqueKeys t) :
    ∃ out, Jl.Template.jlLine env [] [] line = .ok (out ++ [0x0A], none) ∧ Json.unmarshal out = (t, true) ∧
      Jl.Template.jlLine env [] [] out = .ok (out ++ [0x0A], none) ∧ (0x0A : UInt8) ∉ out := by
  have hp := RoundTrip.unmarshal_printTree t (RoundTrip.reader_tree_of_read hread)
  exact ⟨_, RoundTrip.jlLine_untemplated env line t hread hu, hp,
    RoundTrip.jlLine_untemplated env _ t hp hu,
    -- `out` is `printTree t` in every environment, so "no newline" is read off the environment with
    -- `Ext.empty`, whose float speller never answers: `FloatTextOK` holds there vacuously
    (JsonPrint.marshalRow_valid ⟨env.T, Ext.empty⟩ (fun _ _ _ h => by cases h) _ _
      (RoundTrip.marshalRow_rowOfTree _ t (RoundTrip.reader_numbers hread))).2⟩

/-- The output is a function of the tree alone (`printTree`): insignificant white space and escape
    spellings of the input do not matter, everything the tree records does. -/
theorem output_is_print_of_tree (env : Env) (line : Bytes) (t : JVMembers)
    (hread : Json.unmarshal line = (t, true)) (hu : RoundTrip.UniqueKeys t) :
    Jl.Template.jlLine env [] [] line = .ok (RoundTrip.printTree t ++ [0x0A], none) :=
  RoundTrip.jlLine_untemplated env line t hread hu

/-- The domain restriction is needed: with a repeated name the second value is imported into the
    first occurrence's cell, so a member is lost (`RoundTrip.Dup.dup_imports_first`): a row
    never holds a name twice, whereas `rowOfTree t` lists every member of `t`. -/
theorem unique_names_needed (env : Env) (line : Bytes) (t : JVMembers)
    (h : Jl.Template.getRow env [] line = .ok (RoundTrip.rowOfTree t, none)) :
    ((RoundTrip.pairsOf t).map Prod.fst).Nodup := by
  rw [← RoundTrip.keys_rowOfTree]
  exact Order.getRow_keys_nodup env [] line _ h

/-- Every string the reader returns is well-formed UTF-8 and every number literal a valid JSON number,
    for ANY input bytes (rejected lines included). -/
theorem reader_delivers_clean_tree (line : Bytes) : RoundTrip.ReaderTree (Json.unmarshal line).1 :=
  RoundTrip.reader_tree_ok line


/-! ### Reader and writer are the source's (Proofs/RowTieMarshal, RowTieText, FlowTieExport, FlowTieImport)

The property speaks of lines WRITTEN and READ BACK; the code doing both is read from `row.go`,
`exporter.go` and `importer.go` on every run. -/

/-- As written today: `row.MarshalJSON` is the model's `marshalVal`, `Exporter.Export` the model's
    `exportLine` (one `Write`, the separator of `Gen.Sites`), `Importer.GetRow` the model's
    `getRow`, and `UnmarshalJSON` reads numbers as literals, wants `{`, the members until `}` and
    then only the end of the input. -/
theorem reader_and_writer_are_the_source :
    (∀ (env : Value.Env) (ms : Members),
      RowTie.marshalRowG Gen.rowFacts.marshal (RowPrint.marshalVal env) ms.toList =
        some (RowPrint.marshalVal env (.row ms))) ∧
    (∀ (env : Value.Env) (t : Template.Tmpl) (v : Dyn),
      FlowTie.exportG Gen.flowTable.exporterExport env t v = some (Template.exportLine env t v)) ∧
    (∀ (env : Value.Env) (t : Template.Tmpl) (line : Bytes),
      FlowTie.getRowG Gen.flowTable.getRow Gen.flowTable.createRowEmpty env t line =
        some (Template.getRow env t line)) ∧
    Gen.rowFacts.unmarshal = [.newDecoder true, .openDelim 0x7B, .members "parseobject", .onlyEOF] :=
  ⟨RowTie.marshal_as_modelled, FlowTie.export_is_exportLine, FlowTie.getRow_is_getRow,
   RowTie.unmarshal_as_modelled.1⟩

end Jl.C02
