/-
  C09 — integer casts return the exact value or an error, never a wrapped one.

  Statement (properties.jsonl): casting any supported value to any signed or unsigned integer
  type returns either an error or a result whose numeric value equals the source value
  (truncated toward zero for fractional floats); it never wraps, saturates or invents a value
  for out-of-range, infinite or NaN input.  Every integral source value that fits the target
  succeeds, and the verdict and result do not depend on which Go type or decimal text carried
  the value.

  The theorems are about `genTables`, the tables extract/ regenerates from /repo/pkg/cast on
  every run, interpreted by Model.Cast; `CastSpec.intCastViolation` is the statement of the
  property on one (target, source, result) triple and is also the oracle applied to the
  implementation's results.  The theorems about casters and getters hold for every `Ext` (stdlib
  parameters play no role in these branches); `emitted_line_ints_exact`, which prints a line, assumes
  `JsonPrint.FloatTextOK ext`.
-/
import Proofs.CastInt
import Proofs.LineInts
import Proofs.GettersExact

namespace Jl.C09
open Jl Cast

/-- Integer sources of every type and value: exact value when it fits, error otherwise. -/
theorem int_source_exact_or_error (ext : Ext) (tgt src : IntTy) (v : Int) (hv : src.inRange v) :
    castNamed genTables ext (casterOfInt tgt) (.int src v) =
      if tgt.inRange v then .ok (.int tgt v) else .err .cast :=
  cast_int_source ext tgt src v hv

/-- … hence the property's oracle never fires on an integer source. -/
theorem int_source_no_violation (ext : Ext) (tgt src : IntTy) (v : Int) (hv : src.inRange v) :
    CastSpec.intCastViolation tgt (.int src v)
      (castNamed genTables ext (casterOfInt tgt) (.int src v)) = none :=
  GettersExact.int_cast_no_violation ext tgt _ fun _ _ h => by cases h; exact hv

/-- The verdict and result do not depend on which integer Go type carried the value. -/
theorem carrier_independent (ext : Ext) (tgt s₁ s₂ : IntTy) (v : Int)
    (h₁ : s₁.inRange v) (h₂ : s₂.inRange v) :
    castNamed genTables ext (casterOfInt tgt) (.int s₁ v) =
      castNamed genTables ext (casterOfInt tgt) (.int s₂ v) := by
  rw [int_source_exact_or_error ext tgt s₁ v h₁, int_source_exact_or_error ext tgt s₂ v h₂]

/-- float64 sources, every bit pattern: NaN and ±Inf are rejected; a finite value is either
    rejected or converted to its truncation toward zero, which then fits the target; an
    integral value that fits is never rejected. -/
theorem float64_source (ext : Ext) (tgt : IntTy) (b : Nat) :
    CastSpec.intCastViolation tgt (.f64 b)
      (castNamed genTables ext (casterOfInt tgt) (.f64 b)) = none :=
  GettersExact.int_cast_no_violation ext tgt _ nofun

/-- float32 sources, every bit pattern. -/
theorem float32_source (ext : Ext) (tgt : IntTy) (b : Nat) :
    CastSpec.intCastViolation tgt (.f32 b)
      (castNamed genTables ext (casterOfInt tgt) (.f32 b)) = none :=
  GettersExact.int_cast_no_violation ext tgt _ nofun

/-- Booleans cast to 1 / 0 of the requested type. -/
theorem bool_source (ext : Ext) (tgt : IntTy) (b : Bool) :
    CastSpec.intCastViolation tgt (.bool b)
      (castNamed genTables ext (casterOfInt tgt) (.bool b)) = none :=
  GettersExact.int_cast_no_violation ext tgt _ nofun

/-- Text sources (string; json.Number delegates to the same branch): the caster parses with
    strconv.ParseInt / ParseUint in base 0 with the target's own bit size — the shape and the
    arguments are re-checked against the source on every run. -/
theorem text_source_shape (tgt : IntTy) :
    textBranchSpec genTables tgt (findClause (casterOf genTables (casterOfInt tgt)) .str) ∧
    numBranchSpec tgt (findClause (casterOf genTables (casterOfInt tgt)) .num) := by
  obtain ⟨_, h1, k1⟩ := int_casters_ok tgt .str
  obtain ⟨_, h2, k2⟩ := int_casters_ok tgt .num
  exact ⟨findClause_casterOf h1 ▸ of_decide_eq_true k1, findClause_casterOf h2 ▸ of_decide_eq_true k2⟩

/-- Canonical decimal text (the image of strconv.FormatInt, i.e. `0 | -?[1-9][0-9]*`) carried
    by a string: exactly the value when it fits, the cast failure otherwise — for every value
    of any size, with the ported strconv parser (Proofs.IntText). -/
theorem text_source_exact_or_error (ext : Ext) (tgt : IntTy) (v : Int) :
    castNamed genTables ext (casterOfInt tgt) (.str (IntText.formatInt v)) =
      if tgt.inRange v then .ok (.int tgt v) else .err .cast :=
  cast_text_source ext tgt v

/-- … and by a json.Number. -/
theorem number_source_exact_or_error (ext : Ext) (tgt : IntTy) (v : Int) :
    castNamed genTables ext (casterOfInt tgt) (.num (IntText.formatInt v)) =
      if tgt.inRange v then .ok (.int tgt v) else .err .cast :=
  cast_num_source ext tgt v

/-- Carrier independence across Go integer types, decimal text and json.Number. -/
theorem carrier_independent_text (ext : Ext) (tgt src : IntTy) (v : Int) (h : src.inRange v) :
    castNamed genTables ext (casterOfInt tgt) (.str (IntText.formatInt v)) =
      castNamed genTables ext (casterOfInt tgt) (.int src v) ∧
    castNamed genTables ext (casterOfInt tgt) (.num (IntText.formatInt v)) =
      castNamed genTables ext (casterOfInt tgt) (.int src v) := by
  rw [text_source_exact_or_error, number_source_exact_or_error, int_source_exact_or_error ext tgt src v h]
  exact ⟨rfl, rfl⟩

/-- The oracle never fires on canonical decimal text. -/
theorem text_source_no_violation (ext : Ext) (tgt : IntTy) (v : Int) :
    CastSpec.intCastViolation tgt (.str (IntText.formatInt v))
      (castNamed genTables ext (casterOfInt tgt) (.str (IntText.formatInt v))) = none :=
  GettersExact.int_cast_no_violation ext tgt _ nofun

/-! Non-vacuity: the guards are not trivially `true` (values at the bounds are accepted),
    and inputs a bare conversion would wrap (2^63, NaN, …) are rejected. -/
example : castNamed genTables Ext.empty "ToInt64" (.f64 0x43DFFFFFFFFFFFFF) =
    .ok (.int .i64 9223372036854774784) := by decide +kernel      -- largest float64 below 2^63
example : castNamed genTables Ext.empty "ToInt64" (.f64 0x43E0000000000000) = .err .cast := by
  decide +kernel                                           -- 2^63
example : castNamed genTables Ext.empty "ToInt8" (.f64 0x7FF8000000000001) = .err .cast := by
  decide +kernel                                           -- NaN
example : castNamed genTables Ext.empty "ToUint8" (.f64 0x406FF00000000000) = .ok (.int .u8 255) := by
  decide +kernel                                           -- 255.5 truncates

/-! ### On the emitted BYTES: integer columns through one line (`Proofs/LineInts`)

  `jlLine ti to line` = importer `GetRow`, exporter `CreateRow`, `row.MarshalJSON` over the regenerated
  tables.  The input member is the canonical decimal text of `v`, carried as a JSON number literal (a
  `json.Number` for the code) or as a JSON string; the column is declared numeric / string / timestamp /
  auto (`LineInts.IntFmt`) with an integer raw type `T` on both sides. -/

open Jl.Template Jl.LineInts Jl.JsonQuote in
/-- Exact value or the line is rejected — never a wrapped one — for every `Ext`: either `v` fits `T` (and
    int64 under a timestamp exporter) and exactly `{"k":<decimal of v>}` (quoted under a string column) and a
    newline is written; or it does not and the line ends in an error with NOTHING written. -/
theorem int_line_exact_or_rejected (ext : Ext) (k : Bytes) (hk : sanitize k = k) {fi fo : Format}
    (hfi : IntFmt fi) (hfo : IntFmt fo) (t : IntTy) (v : Int) (line : Bytes) (jv : JV)
    (hline : Json.unmarshal line = (.cons k jv .nil, true))
    (hjv : IsCarrierJV jv (IntText.formatInt v)) :
    (t.inRange v ∧ (fo = .timestamp → IntTy.i64.inRange v) ∧
      jlLine ⟨genTables, ext⟩ (withCol [] k fi (.int t)) (withCol [] k fo (.int t)) line =
        .ok (LineTime.objText k (cellText fo v) ++ [0x0A], none) ∧
      Json.unmarshal (LineTime.objText k (cellText fo v)) = (.cons k (cellJV fo v) .nil, true) ∧
      LineSpec.lookupJV (.cons k (cellJV fo v) .nil) k = some (cellJV fo v)) ∨
    ((¬ t.inRange v ∨ (fo = .timestamp ∧ ¬ IntTy.i64.inRange v)) ∧
      ∃ e, jlLine ⟨genTables, ext⟩ (withCol [] k fi (.int t)) (withCol [] k fo (.int t)) line =
        .ok ([], some e)) :=
  LineInts.int_line_exact_or_rejected ext k hk hfi hfo t v line jv hline hjv

open Jl.Template Jl.LineInts Jl.JsonQuote in
/-- Read the other way: whatever was written for an ACCEPTED line carries under `k` exactly `v`, and `v`
    fits `T`. -/
theorem int_line_accepted_is_exact (ext : Ext) (k : Bytes) (hk : sanitize k = k) {fi fo : Format}
    (hfi : IntFmt fi) (hfo : IntFmt fo) (t : IntTy) (v : Int) (line : Bytes) (jv : JV)
    (hline : Json.unmarshal line = (.cons k jv .nil, true))
    (hjv : IsCarrierJV jv (IntText.formatInt v)) (b : Bytes)
    (hb : jlLine ⟨genTables, ext⟩ (withCol [] k fi (.int t)) (withCol [] k fo (.int t)) line =
      .ok (b, none)) :
    t.inRange v ∧ ∃ body tree, b = body ++ [0x0A] ∧ Json.unmarshal body = (tree, true) ∧
      LineSpec.lookupJV tree k = some (cellJV fo v) := by
  rcases C09.int_line_exact_or_rejected ext k hk hfi hfo t v line jv hline hjv with
    ⟨hv, _, hw, hu, hl⟩ | ⟨_, e, he⟩
  · exact ⟨hv, (LineLevel.read_back hw hu hl).2 b hb⟩
  · cases he.symm.trans hb

open Jl.Template Jl.LineInts in
/-- "By decimal text or by json.Number": the number literal and the string of the same canonical decimal
    give the SAME outcome of the line (same bytes, or both rejected). -/
theorem carrier_independent_on_the_line (ext : Ext) (k : Bytes) {fi fo : Format} (hfi : IntFmt fi)
    (hfo : IntFmt fo) (t : IntTy) (v : Int) (line₁ line₂ : Bytes)
    (h₁ : Json.unmarshal line₁ = (.cons k (.num (IntText.formatInt v)) .nil, true))
    (h₂ : Json.unmarshal line₂ = (.cons k (.str (IntText.formatInt v)) .nil, true)) :
    jlLine ⟨genTables, ext⟩ (withCol [] k fi (.int t)) (withCol [] k fo (.int t)) line₁ =
      jlLine ⟨genTables, ext⟩ (withCol [] k fi (.int t)) (withCol [] k fo (.int t)) line₂ :=
  (int_line ext k hfi hfo t v line₁ _ h₁ (.inl rfl)).trans (int_line ext k hfi hfo t v line₂ _ h₂ (.inr rfl)).symm

open Jl.Template Jl.LineInts Jl.JsonQuote in
/-- Templates with ANY number of columns (distinct names): on an accepted line, every column declared with an
    integer raw type `T` on both sides whose input member (the last of its name) is the canonical decimal of
    `v` holds a `v` that fits `T`, and the member written under it is exactly `v` — whatever the other columns
    and members are.  `FloatTextOK` only because other columns may print floats.  In the statement: `normDup` resolves
    repeated member names (the last value), `IsCarrierJV jv lit` is "the number `lit` or the string `"lit"`",
    `sanitize k` is `k` as it reads back after printing (U+FFFD for a byte that is not UTF-8; the condition on `Order.inputKeys`,
    the member names of the input, says no other name in sight prints like `k`), `cellJV f v` the member read back
    from what a cell of format `f` prints for `v`. -/
theorem emitted_line_ints_exact (ext : Ext) (ti to : Tmpl) (line b : Bytes)
    (h : jlLine ⟨genTables, ext⟩ ti to line = .ok (b, none)) (hx : JsonPrint.FloatTextOK ext)
    (hti : (OMap.keys ti).Nodup) (hto : (OMap.keys to).Nodup) :
    ∃ body tree, b = body ++ [0x0A] ∧ Json.unmarshal body = (tree, true) ∧
      ∀ k ci co t v jv, OMap.lookup ti k = some ci → OMap.lookup to k = some co →
        IntFmt (Cells.format ci) → Cells.rawType ci = .int t →
        IntFmt (Cells.format co) → Cells.rawType co = .int t →
        (∀ k' ∈ OMap.keys to ++ OMap.keys ti ++ Order.inputKeys line,
          sanitize k' = sanitize k → k' = k) →
        LineSpec.lookupJV (LineSpec.normDup (Json.unmarshal line).1) k = some jv →
        IsCarrierJV jv (IntText.formatInt v) →
        t.inRange v ∧ (Cells.format co = .timestamp → IntTy.i64.inRange v) ∧
          LineSpec.lookupJV tree (sanitize k) = some (cellJV (Cells.format co) v) :=
  LineInts.emitted_line_ints_pointwise ext ti to line b h hx hti hto

open Jl.Template Jl.LineInts in
/-- …and a line holding an out-of-range integer under such a column of the importer is never accepted,
    whatever the exporter's template. -/
theorem out_of_range_line_never_accepted (ext : Ext) (ti to : Tmpl) (line : Bytes)
    (hti : (OMap.keys ti).Nodup) (k : Bytes) (ci : Val) (hci : OMap.lookup ti k = some ci)
    (hf : IntFmt (Cells.format ci)) (t : IntTy) (hty : Cells.rawType ci = .int t)
    (jv : JV) (v : Int) (hjv : IsCarrierJV jv (IntText.formatInt v))
    (hlast : LineSpec.lookupJV (LineSpec.normDup (Json.unmarshal line).1) k = some jv)
    (hv : ¬ t.inRange v) (b : Bytes) :
    jlLine ⟨genTables, ext⟩ ti to line ≠ .ok (b, none) :=
  fun h => by
    obtain ⟨c, hc⟩ := LineLevel.accepted_imported _ ti to line b h hti hci hlast hjv.scalar
    exact hv (imported_int ext hf t v hjv (hty ▸ hc)).1

/-! ### The typed getters of a row (Proofs/GettersExact)

`Row.GetInt8 … GetUint64` go through the same casters; the property read on them: the value when
it fits the getter's type, the zero value otherwise, never a wrapped one. -/

open Jl.GettersExact in
/-- An integer getter on a cell carrying the integer `v` (a Go integer of any of the ten types,
    canonical decimal text in a string or a json.Number, a float whose value is `v`): `v` when it fits, else 0. -/
theorem getter_exact_or_zero (ext : Ext) (t : IntTy) (row : List (Bytes × Val)) (k : Bytes)
    (raw : Dyn) (v : Int) (hk : (Value.lookup row k).map Cells.raw = some raw)
    (hc : Carries raw v) :
    Getters.typedGet ⟨genTables, ext⟩ (getterOfInt t) row k =
      some (if t.inRange v then .ok (.int t v) else .ok (.int t 0)) :=
  int_getter_exact_or_zero ext t row k raw v hk hc

open Jl.GettersExact in
/-- …and on a float64 of any bit pattern: the truncation when the float fits (`FloatFits`: finite,
    the truncation in range, not a fraction below MIN such as -128.5 for int8), else 0. -/
theorem getter_float64 (ext : Ext) (t : IntTy) (b : Nat) (row : List (Bytes × Val)) (k : Bytes)
    (hk : (Value.lookup row k).map Cells.raw = some (.f64 b)) :
    Getters.typedGet ⟨genTables, ext⟩ (getterOfInt t) row k =
      some (.ok (.int t (if FloatFits t (Float.toFVal Float.f64 b)
                         then truncOf (Float.toFVal Float.f64 b) else 0))) :=
  int_getter_float64 ext t b row k hk

open Jl.GettersExact in
/-- The oracle the correspondence check applies to the getters never fires on the regenerated
    tables: whatever the cell holds (any Go value whose integers lie in their own type's range),
    a non-zero answer of an integer getter is the carried value, in range. -/
theorem getter_never_wraps (ext : Ext) (t : IntTy) (row : List (Bytes × Val)) (k : Bytes)
    (raw : Dyn) (hk : (Value.lookup row k).map Cells.raw = some raw) (hraw : IntCarrierOK raw)
    (r : Int) (hr : r ≠ 0)
    (h : Getters.typedGet ⟨genTables, ext⟩ (getterOfInt t) row k = some (.ok (.int t r))) :
    CastSpec.intCastViolation t raw (.ok (.int t r)) = none := by
  have hc := typedGet_int_nonzero hr h
  rw [getOrNil_of_lookup hk] at hc
  exact hc ▸ int_cast_no_violation ext t raw hraw

/-- The contrast the documentation announces: on the row `{"v": 300}` `GetInt8` answers 0 while an
    `int8` field filled by `MapTo` receives 44 (reflect's silent conversion). -/
example :
    Getters.typedGet ⟨genTables, Ext.empty⟩ "GetInt8"
        [([0x76], .cell (.int .int 300) .auto .none)] [0x76] = some (.ok (.int .i8 0)) ∧
    MapTo.mapTo genTables Ext.empty [([0x76], .cell (.int .int 300) .auto .none)]
        (.pointerToStruct [⟨[0x56], .int .i8, true, .int .i8 7⟩]) =
      .ok (.pointerToStruct [⟨[0x56], .int .i8, true, .int .i8 44⟩]) := by
  refine ⟨by decide +kernel, by rfl⟩

end Jl.C09
