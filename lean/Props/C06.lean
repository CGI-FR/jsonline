/-
  C06 — a row behaves as a map that remembers first-insertion order.

  Statement (properties.jsonl): after any sequence of sets, value replacements, positional
  sets, imports (by key, by position, of maps and slices) and JSON unmarshals, a row's length
  equals its number of distinct keys, iteration and in-range positional access enumerate keys
  in order of first insertion, lookups return the most recently stored value, and
  serialisation follows the same order.  Replacing or re-importing an existing key never
  moves, duplicates or drops it.

  Model: `LRow` (Model.Row) keeps the code's two structures — key list and map — and every
  mutator is written as row.go writes it.  Specification: `OMap`, an association list with
  replace-in-place / append.  All theorems quantify over every history (`List RowOp`), every
  cell behaviour (`CellOps`), every key and value.
-/
import Proofs.Row
import Proofs.RowKeeps
import Proofs.RowSteps
import Proofs.RowTie
import Proofs.RowTieAll

namespace Jl.C06
open Jl LRow
variable {C V E : Type}

/-- Every reachable row (any history from the empty row) is coherent and is, abstractly, the
    insertion-ordered map obtained by running the same history on the specification. -/
theorem refines_omap (ops : CellOps C V E) (hist : List (RowOp C V)) :
    (LRow.empty.run ops hist).abs = OMap.run ops [] hist ∧ (LRow.empty.run ops hist).Inv :=
  run_refines ops hist LRow.empty inv_empty

/-- Same from any coherent row (e.g. a template clone). -/
theorem refines_omap_from (ops : CellOps C V E) (r : LRow C) (h : r.Inv) (hist : List (RowOp C V)) :
    (r.run ops hist).abs = OMap.run ops r.abs hist ∧ (r.run ops hist).Inv :=
  run_refines ops hist r h

/-- Each single step agrees with the specification on state *and* on the reported error. -/
theorem step_agrees (ops : CellOps C V E) (r : LRow C) (h : r.Inv) (op : RowOp C V) :
    (r.step ops op).1.abs = (OMap.step ops r.abs op).1 ∧
    (r.step ops op).2 = (OMap.step ops r.abs op).2 ∧ (r.step ops op).1.Inv :=
  step_refines ops r h op

/-! `Len`, iteration and positional access on ONE coherent row, in the words of its abstraction; the
    statements over histories below are these at a reachable row. -/

theorem len_of_inv (r : LRow C) (hi : r.Inv) :
    r.len = r.abs.length ∧ r.l.Nodup ∧ ∀ k, r.has k = true ↔ k ∈ r.l := by
  refine ⟨?_, hi.1, fun k => (hi.2 k).symm⟩
  rw [LRow.len, ← abs_keys r hi, OMap.keys, List.length_map]

theorem iter_of_inv (r : LRow C) (hi : r.Inv) : r.iter = r.abs.map fun kc => (kc.1, some kc.2) :=
  LRow.iter_of_isSome r fun k hk => (hi.2 k).mp hk

theorem positional_of_inv (r : LRow C) (hi : r.Inv) (i : Int) :
    r.getValueAt i = OMap.lookup r.abs (OMap.keyAt r.abs i) := by
  rw [keyAt_abs r hi, abs_lookup r hi]; rfl

/-- `Len` = number of distinct keys: the key list has no duplicate and lists exactly the
    keys of the map. -/
theorem len_distinct (ops : CellOps C V E) (hist : List (RowOp C V)) :
    let r := LRow.empty.run ops hist
    r.len = (OMap.run ops [] hist).length ∧ r.l.Nodup ∧ ∀ k, r.has k = true ↔ k ∈ r.l := by
  obtain ⟨ha, hi⟩ := refines_omap ops hist
  exact ha ▸ len_of_inv _ hi

/-- Iteration enumerates exactly the specification's entries, in its order. -/
theorem iter_is_spec (ops : CellOps C V E) (hist : List (RowOp C V)) :
    (LRow.empty.run ops hist).iter =
      (OMap.run ops [] hist).map fun kc => (kc.1, some kc.2) := by
  obtain ⟨ha, hi⟩ := refines_omap ops hist
  exact ha ▸ iter_of_inv _ hi

/-- Positional access reads the key at that position of the specification's key order
    (and the empty key outside the range, as the code does). -/
theorem positional_is_spec (ops : CellOps C V E) (hist : List (RowOp C V)) (i : Int) :
    let r := LRow.empty.run ops hist
    r.getValueAt i = OMap.lookup (OMap.run ops [] hist) (OMap.keyAt (OMap.run ops [] hist) i) := by
  obtain ⟨ha, hi⟩ := refines_omap ops hist
  exact ha ▸ positional_of_inv _ hi i

/-- Lookups return the most recently stored value, and storing at one key changes no other. -/
theorem get_after_store (r : LRow C) (k k' : Bytes) (c : C) :
    (r.setValue k c).getValue k' = if k' = k then some c else r.getValue k' := by
  simp [LRow.setValue, LRow.getValue, LRow.mset]

/-- No step ever moves, duplicates or drops an existing key: the old key list is a prefix of
    the new one (new keys are only appended). -/
theorem keys_only_appended (ops : CellOps C V E) (r : LRow C) (op : RowOp C V) :
    r.l <+: (r.step ops op).1.l :=
  step_rel (fun a b => a.l <+: b.l) (fun _ => List.prefix_refl _) List.IsPrefix.trans
    (fun r k _ => ensure_prefix r k) ops r op

/-- Over a whole history the first-insertion order of earlier keys is kept. -/
theorem history_keeps_order (ops : CellOps C V E) (hist : List (RowOp C V)) (r : LRow C) :
    r.l <+: (r.run ops hist).l :=
  run_prefix ops hist r

/-- "…never drops it", map half: a key that has a cell keeps having one after every history —
    no mutator deletes a map entry, and a failing import or unmarshal keeps what was stored before
    the error.  Holds for every row, coherent or not, and every cell behaviour. -/
theorem key_never_lost (ops : CellOps C V E) (hist : List (RowOp C V)) (r : LRow C) (k : Bytes)
    (h : r.has k = true) : (r.run ops hist).has k = true :=
  RowKeeps.keeps_run ops hist r k h

/-- "…never moves it", stated on positions: the key at position `i` is still the key at position
    `i` after every history (so `GetAtIndex(i)` keeps addressing the same key), and — on a coherent
    row — it still has a cell there. -/
theorem position_is_stable (ops : CellOps C V E) (hist : List (RowOp C V)) (r : LRow C)
    (i : Nat) (k : Bytes) (hk : r.l[i]? = some k) :
    (r.run ops hist).l[i]? = some k ∧ (r.has k = true → (r.run ops hist).has k = true) := by
  refine ⟨?_, key_never_lost ops hist r k⟩
  obtain ⟨t, ht⟩ := history_keeps_order ops hist r
  rw [← ht, List.getElem?_append_left (List.getElem?_eq_some_iff.mp hk).1]
  exact hk

/-- The row never shrinks. -/
theorem len_never_decreases (ops : CellOps C V E) (hist : List (RowOp C V)) (r : LRow C) :
    r.len ≤ (r.run ops hist).len := by
  obtain ⟨t, ht⟩ := history_keeps_order ops hist r
  unfold LRow.len; rw [← ht, List.length_append]; omega

/-! Non-vacuity: a concrete history with a replaced key, a positional set outside the range
    (which addresses the empty key) and an unmarshal touching an existing key. -/
private def demoOps : CellOps Nat Nat Unit :=
  { newCell := id, autoCell := id, setExisting := fun _ x => x, importInto := fun _ x => (x, none) }

example :
    (LRow.empty.run demoOps
      [.set [97] 1, .set [98] 2, .set [97] 3, .setAt 7 4, .unmarshal [([98], 5), ([99], 6)]]).l
      = [[97], [98], [], [99]] := by decide +kernel

example :
    OMap.run demoOps []
      [.set [97] 1, .set [98] 2, .set [97] 3, .setAt 7 4, .unmarshal [([98], 5), ([99], 6)]]
      = [([97], 3), ([98], 5), ([], 4), ([99], 6)] := by decide +kernel

example :
    (LRow.empty.run demoOps [.set [97] 1, .set [98] 2]).has [97] = true ∧
    ((LRow.empty.run demoOps [.set [97] 1, .set [98] 2]).run demoOps
      [.set [97] 3, .setAt 7 4, .unmarshal [([98], 5), ([99], 6)]]).has [97] = true := by decide +kernel

/-! ### The row of the model is `row.go` (Proofs/RowTie, Proofs/RowTieAll)

`extract/rowfacts.go` runs every function of `row.go` through the symbolic executor and classifies
the result into the shapes of `Model.RowFactsSyntax` (`Gen.RowFacts`, regenerated on every run). -/

/-- Nothing in the regenerated facts is unknown, they are the facts the model assumes (up to the
    accepted alternative spellings, `RowFacts.normalised`), and nowhere
    in the package is the key list shortened or reordered, or a map entry deleted: the list is
    only read (`Front`, `Len`) or extended (`PushBack`). -/
theorem row_model_is_the_source :
    Gen.rowFacts.known = true ∧ Gen.rowFacts.normalised = RowFactsSpec.expected ∧
    (∀ m ∈ Gen.rowFacts.listMethods, m ∈ ["Front", "Len", "PushBack"]) ∧
    Gen.rowFacts.mapDeletes = 0 :=
  ⟨RowTie.row_facts_known, RowTie.row_facts_as_modelled, RowTie.list_only_grows.1,
   RowTie.list_only_grows.2⟩

/-- The three keyed mutators, as the source writes them today, ARE `LRow.set`, `LRow.setValue`
    and `LRow.importAtKey` — whatever the cells do. -/
theorem mutators_are_the_source :
    (∀ {C V E : Type} (ops : CellOps C V E) (r : LRow C) (k : Bytes) (x : V),
      RowTie.keyedRun Gen.rowFacts.set (RowTie.ofCellOps ops) r k x = some (r.set ops k x, none)) ∧
    (∀ {C E : Type} (r : LRow C) (k : Bytes) (c : C),
      RowTie.keyedRun Gen.rowFacts.setValue (RowTie.cellArg (E := E)) r k c =
        some (r.setValue k c, none)) ∧
    (∀ {C V E : Type} (ops : CellOps C V E) (r : LRow C) (k : Bytes) (x : V),
      RowTie.keyedRun Gen.rowFacts.importAtKey (RowTie.ofCellOps ops) r k x =
        some (r.importAtKey ops k x)) :=
  ⟨fun ops r k x => RowTie.set_as_modelled ops r k x,
   fun r k c => RowTie.setValue_as_modelled r k c,
   fun ops r k x => RowTie.importAtKey_as_modelled ops r k x⟩

end Jl.C06
