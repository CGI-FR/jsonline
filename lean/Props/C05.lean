/-
  C05 — emitted lines are fixed points of their output template (idempotence).

  Statement (properties.jsonl): every emitted line is a fixed point of its own output
  template: reading an emitted line L with the output template's column descriptors and
  writing it with those same descriptors, under the same time zone, is accepted and yields
  exactly L again, byte for byte, for every column whose output format and raw type form a
  self-readable (lossless) pairing.

  Cell level, as in C13: if reading the exported value under the same (format, raw type)
  gives back the cell, exporting again gives the same value (`fixed_point_of_read_back`),
  instantiated for every lossless pairing proved in C13 / Proofs/Pairings and for every
  non-lossless self-readable pairing (`table_coverage`) in Proofs/SelfReadable.  The statement without the
  hypothesis "the raw value is well-typed for the descriptor" is FALSE of the code
  (`swallowed_cast_counterexample`, known finding): the exporter builds the output row with
  NewValue, which swallows a failed cast.
-/
import Props.C13
import Proofs.SelfReadable
import Proofs.LineFixedPoint
import Proofs.LineCast
import Proofs.ValueTie
import Proofs.RowTieMarshal
import Proofs.RowTieText
import Proofs.FlowTieExport
import Proofs.FlowTieImport

namespace Jl.C05
open Jl Jl.Value Cast

theorem fixed_point_of_read_back (env : Env) (raw e : Dyn) (f : Format) (typ : Ty)
    (hexp : exportVal env (.cell raw f typ) = .ok e)
    (himp : importCell env f typ e = .ok (.cell raw f typ, none)) :
    ∃ c, importCell env f typ e = .ok (c, none) ∧ exportVal env c = .ok e :=
  ⟨_, himp, hexp⟩

/-- Integer columns under string, numeric and binary are fixed points, for every value. -/
theorem int_columns_fixed_point (ext : Ext) (t : IntTy) (v : Int) (hv : t.inRange v) :
    (∃ e c, exportVal ⟨genTables, ext⟩ (.cell (.int t v) .string (.int t)) = .ok e ∧
        importCell ⟨genTables, ext⟩ .string (.int t) e = .ok (c, none) ∧ exportVal ⟨genTables, ext⟩ c = .ok e) ∧
    (∃ e c, exportVal ⟨genTables, ext⟩ (.cell (.int t v) .numeric (.int t)) = .ok e ∧
        importCell ⟨genTables, ext⟩ .numeric (.int t) e = .ok (c, none) ∧ exportVal ⟨genTables, ext⟩ c = .ok e) ∧
    (∃ e c, exportVal ⟨genTables, ext⟩ (.cell (.int t v) .binary (.int t)) = .ok e ∧
        importCell ⟨genTables, ext⟩ .binary (.int t) e = .ok (c, none) ∧ exportVal ⟨genTables, ext⟩ c = .ok e) := by
  obtain ⟨s1, s2⟩ := C13.string_int ext t v hv
  obtain ⟨n1, n2⟩ := C13.numeric_int ext t v hv
  obtain ⟨b1, b2⟩ := C13.binary_int ext t v hv
  exact ⟨⟨_, _, s1, s2, s1⟩, ⟨_, _, n1, n2, n1⟩, ⟨_, _, b1, b2, b1⟩⟩

/-- The full statement is false of the code (known finding `swallowed-cast`): with the output
    descriptor string(int), the raw value "" (a string that is no integer) is kept uncast by
    NewValue, exported as "", and "" is rejected when read back under string(int). -/
theorem swallowed_cast_counterexample (ext : Ext) :
    newValue ⟨genTables, ext⟩ (.str []) .string (.int .int) = .ok (.cell (.str []) .string (.int .int)) ∧
    exportVal ⟨genTables, ext⟩ (.cell (.str []) .string (.int .int)) = .ok (.str []) ∧
    importCell ⟨genTables, ext⟩ .string (.int .int) (.str []) =
      .ok (.cell .nil .string (.int .int), some .unsupportedImport) := by
  have hcast : castTo genTables ext (.int .int) (.str []) = .err .cast :=
    (CasterFacts.castTo_cast ext (ty := .int .int) rfl _).trans (LineCast.cast_text_unparsed ext .int [] (by decide))
  refine ⟨?_, ?_, ?_⟩
  · simp only [newValue, hcast]
  · exact CasterFacts.export_single rfl (CasterFacts.toString_str ..) nofun
  · rw [CasterFacts.importCell_from (f := .string) (x := .str []) _ rfl _ trivial, CasterFacts.importFrom_typed _ _ _ (by simp), hcast]
    rfl

/-! ### The self-readable pairings that are not lossless (`Proofs/SelfReadable.lean`)

`SelfReadable.FixedPoint env f ty e e'` : reading `e'` (what the JSON reader delivers for the emitted
`e`) under (f, ty) succeeds and writing the cell again gives `e`. -/

/-- Every pairing of the self-readable table is either lossless (C13 and the `*_fixed_point`
    corollaries of `Proofs/Pairings.lean`) or one of the families below. -/
theorem table_coverage (f : Format) (ty : Ty)
    (h1 : Tables.selfReadable f ty = true) (h2 : Tables.lossless f ty = false) :
    (f = .boolean ∧ ty ≠ .none ∧ ty ≠ .bool) ∨ f = .hidden ∨
    (f = .date ∧ (ty = .none ∨ ty = .str ∨ ty = .bytes ∨ ty = .num)) ∨
    (f = .datetime ∧ (ty = .str ∨ ty = .bytes)) ∨
    (f = .timestamp ∧ (ty = .num ∨ ty = .f64 ∨ ty = .f32)) ∨
    (f = .numeric ∧ (ty = .str ∨ ty = .bytes)) := by
  revert ty
  cases f <;> exact CastTyped.forall_ty (by decide +kernel)

/-- boolean(T), every T: what a boolean column emits for a well-typed raw value (true / false / null) is a
    fixed point. -/
theorem boolean_row_fixed_point (ext : Ext) (raw : Dyn) (ty : Ty) (e : Dyn)
    (hwt : SelfReadable.WellTyped .boolean ty raw) (hh : SelfReadable.BooleanHyp ext ty)
    (h : exportVal ⟨genTables, ext⟩ (.cell raw .boolean ty) = .ok e) :
    (e = .nil ∨ ∃ b, e = .bool b) ∧ SelfReadable.FixedPoint ⟨genTables, ext⟩ .boolean ty e e :=
  SelfReadable.boolean_fixed_point ext raw ty e hwt hh h

/-- date(none | string | []byte | json.Number): for EVERY raw value (well-typed or not) and every zone
    function, the emitted date is accepted by the date parser and is a fixed point. -/
theorem date_row_fixed_point (ext : Ext) (raw : Dyn) (ty : Ty) (e : Dyn)
    (hty : ty = .none ∨ ty = .str ∨ ty = .bytes ∨ ty = .num)
    (h : exportVal ⟨genTables, ext⟩ (.cell raw .date ty) = .ok e) :
    (e = .nil ∧ SelfReadable.FixedPoint ⟨genTables, ext⟩ .date ty .nil .nil) ∨
    (∃ d, e = .str d ∧ Time.parseDateOk d = true ∧ JsonQuote.sanitize d = d ∧
      SelfReadable.FixedPoint ⟨genTables, ext⟩ .date ty (.str d) (.str (JsonQuote.sanitize d))) :=
  SelfReadable.date_fixed_point ext raw ty e hty h

/-- datetime(string | []byte): the emitted RFC 3339 text is a fixed point, provided zone offsets are 0 or
    at least a minute and below 25 h, and the raw text does not carry the offset ±24:60 (25 h) … -/
theorem datetime_text_fixed_point (ext : Ext) (raw : Dyn) (s : Bytes) (ty : Ty) (e : Dyn)
    (hwt : (ty = .str ∧ raw = .str s) ∨ (ty = .bytes ∧ raw = .bytes s))
    (hzone : ∀ v off, ext.zoneOffset v = some off → SelfReadable.OffsetOK off)
    (hs : ∀ t, Time.parseRFC3339 s = some t → t.off.natAbs ≠ 90000)
    (h : exportVal ⟨genTables, ext⟩ (.cell raw .datetime ty) = .ok e) :
    ∃ t, e = .str (Time.formatRFC3339 t) ∧ SelfReadable.TimeFrom ext s t ∧
      JsonQuote.sanitize (Time.formatRFC3339 t) = Time.formatRFC3339 t ∧
      SelfReadable.FixedPoint ⟨genTables, ext⟩ .datetime ty e (.str (JsonQuote.sanitize (Time.formatRFC3339 t))) :=
  SelfReadable.datetime_fixed_point ext raw s ty e hwt hzone hs h

/-- … which is exactly the known finding `offset-24-60`, kernel-checked: the text
    `2000-01-01T00:00:00+24:60` is accepted (a leniency of time.Parse) and written `…+25:00`; that text is
    taken in on the next pass (the column stores the string) and cannot be written again, `+25:00` being no
    offset the parser accepts — for every zone function. -/
theorem offset_24_60_counterexample (ext : Ext) :
    exportVal ⟨genTables, ext⟩ (.cell (.str SelfReadable.text2460) .datetime .str) = .ok (.str SelfReadable.text2500) ∧
    JsonQuote.sanitize SelfReadable.text2500 = SelfReadable.text2500 ∧
    importCell ⟨genTables, ext⟩ .datetime .str (.str SelfReadable.text2500) =
      .ok (.cell (.str SelfReadable.text2500) .datetime .str, none) ∧
    exportVal ⟨genTables, ext⟩ (.cell (.str SelfReadable.text2500) .datetime .str) = .err .unsupportedExport := by
  have hs := CasterFacts.toString_time ext ⟨946594800, 0, 90000⟩ (by decide +kernel) (by decide +kernel)
  rw [SelfReadable.format_2460] at hs
  have hA : Time.parseRFC3339 SelfReadable.text2500 = none := by decide +kernel
  have hB : IntText.parseInt0 SelfReadable.text2500 64 = none := by decide +kernel
  refine ⟨CasterFacts.export_via rfl (CasterFacts.toTime_str ext _ _
      (by decide +kernel : Time.parseRFC3339 SelfReadable.text2460 = some ⟨946594800, 0, 90000⟩)) hs nofun, ?_,
    CasterFacts.importCell_cast rfl rfl (CasterFacts.toString_str ext _) trivial, ?_⟩
  · rw [← SelfReadable.format_2460]; exact Pairings.sanitize_formatRFC3339 _
  · -- `+25:00` is not an offset the parser accepts, and the text is no integer either
    rw [CasterFacts.exportVal_via (raw := .str SelfReadable.text2500) rfl nofun,
      CasterFacts.toTime_str_fail ext SelfReadable.text2500 hA hB, CasterFacts.exportFail_failWith]

/-- hidden(T): the line is the line of the row without its hidden cells, whatever they hold. -/
theorem hidden_cells_do_not_reach_the_line (env : Env) (k : Bytes) (raw raw' : Dyn) (ty ty' : Ty) (ms : Members) :
    RowPrint.marshalRow env (.cons k (.cell raw .hidden ty) ms) =
      RowPrint.marshalRow env (.cons k (.cell raw' .hidden ty') ms) := by
  rw [SelfReadable.hidden_line, SelfReadable.hidden_line env (.cons k (.cell raw' .hidden ty') ms)]
  simp [SelfReadable.dropHidden, Cells.format]

/-- numeric(string | []byte): the literal emitted is a fixed point (for the empty text the line carries `0`,
    not the literal: `SelfReadable.numeric_str_empty`). -/
theorem numeric_text_fixed_point (ext : Ext) (s : Bytes) :
    (∃ e, exportVal ⟨genTables, ext⟩ (.cell (.str s) .numeric .str) = .ok e ∧ e = .num s ∧
      SelfReadable.FixedPoint ⟨genTables, ext⟩ .numeric .str e e) ∧
    (∃ e, exportVal ⟨genTables, ext⟩ (.cell (.bytes s) .numeric .bytes) = .ok e ∧ e = .num s ∧
      SelfReadable.FixedPoint ⟨genTables, ext⟩ .numeric .bytes e e) :=
  SelfReadable.numeric_text_fixed_point ext s

/-- timestamp(json.Number): the integer emitted is a fixed point (timestamp(float64|float32):
    `SelfReadable.timestamp_f64_exact`, `timestamp_f32_exact`, given strconv's answer for the integer text). -/
theorem timestamp_number_fixed_point (ext : Ext) (l : Bytes) (e : Dyn)
    (h : exportVal ⟨genTables, ext⟩ (.cell (.num l) .timestamp .num) = .ok e) :
    ∃ n, e = .int .i64 n ∧ SelfReadable.FixedPoint ⟨genTables, ext⟩ .timestamp .num e (.num (IntText.formatInt n)) :=
  SelfReadable.timestamp_num_fixed_point ext l e h

/-! ### The whole LINE, any number of columns (`Proofs/LineFixedPoint`) -/

open Jl.Template Jl.JsonQuote in
/-- C05 at line level over the regenerated tables, in the words of the tables.  Output template with
    distinct names the escaper leaves alone, every visible column a pairing of `LineFixedPoint.coveredB`
    (a sub-table of `Tables.selfReadable`), input columns among the output columns; any number of columns, hidden
    columns, absent columns, undeclared members (repeated names, nested objects and arrays
    included).  If every visible declared cell of the emitted row holds a raw value that is
    well-typed for its descriptor (what `swallowed-cast` violates), in the property's domain (what
    `illformed-utf8-escape` violates), with the standard-library answers its pairing needs
    (`ExtHyp`, which also excludes `offset-24-60`), then the emitted line, read with `(to, to)`, is
    accepted and written again byte for byte. -/
theorem line_fixed_point (ext : Ext) (hx : JsonPrint.FloatTextOK ext) (ti to : Tmpl)
    (line b : Bytes) (hto : (OMap.keys to).Nodup)
    (hsan_to : ∀ k ∈ OMap.keys to, sanitize k = k)
    (hsub : ∀ k ∈ OMap.keys ti, k ∈ OMap.keys to)
    (hpair : ∀ k v, OMap.lookup to k = some v → Cells.format v ≠ .hidden →
      LineFixedPoint.coveredB (Cells.format v) (Cells.rawType v) = true)
    (h : jlLine ⟨genTables, ext⟩ ti to line = .ok (b, none))
    (hval : ∀ r row', getRow ⟨genTables, ext⟩ ti line = .ok (r, none) →
      createRow ⟨genTables, ext⟩ to (.val (.row (Members.ofList r))) = .ok (row', none) →
      ∀ k v raw, OMap.lookup to k = some v → Cells.format v ≠ .hidden →
        OMap.lookup row' k = some (.cell raw (Cells.format v) (Cells.rawType v)) →
        SelfReadable.WellTyped (Cells.format v) (Cells.rawType v) raw ∧
        Tables.inDomain (Cells.format v) (Cells.rawType v) raw = true ∧
        LineFixedPoint.ExtHyp ext (Cells.format v) (Cells.rawType v) raw) :
    (∀ k v, OMap.lookup to k = some v → Cells.format v ≠ .hidden →
      Tables.selfReadable (Cells.format v) (Cells.rawType v) = true) ∧
    ∃ body, b = body ++ [0x0A] ∧ jlLine ⟨genTables, ext⟩ to to body = .ok (b, none) :=
  ⟨fun k v hv hvis => (LineFixedPoint.coveredB_selfReadable _ _ (hpair k v hv hvis)).1,
    LineFixedPoint.gen_line_fixed_point_same_columns ext hx ti to line b hto hsan_to hsub h
      fun r row' hget hcr k v raw hv hvis hc =>
        have ⟨h1, h2, h3⟩ := hval r row' hget hcr k v raw hv hvis hc
        (LineFixedPoint.covered_of_table ext _ _ (hpair k v hv hvis) raw h1 h2 h3).2⟩

open Jl.Template Jl.JsonQuote in
/-- Templates of `auto` / `hidden` columns without raw type (what unknown descriptors give too):
    EVERY accepted line is emitted as a fixed point, nothing asked of the line. -/
theorem auto_columns_fixed_point (ext : Ext) (hx : JsonPrint.FloatTextOK ext) (ti to : Tmpl)
    (line b : Bytes) (hti : (OMap.keys ti).Nodup) (hto : (OMap.keys to).Nodup)
    (hsan_to : ∀ k ∈ OMap.keys to, sanitize k = k)
    (hsub : ∀ k ∈ OMap.keys ti, k ∈ OMap.keys to)
    (hcols_to : ∀ k v, OMap.lookup to k = some v →
      v = .cell .nil .auto .none ∨ v = .cell .nil .hidden .none)
    (hcols_ti : ∀ k, OMap.lookup to k = some (.cell .nil .auto .none) →
      OMap.lookup ti k = some (.cell .nil .auto .none))
    (h : jlLine ⟨genTables, ext⟩ ti to line = .ok (b, none)) :
    ∃ body, b = body ++ [0x0A] ∧ jlLine ⟨genTables, ext⟩ to to body = .ok (b, none) := by
  refine LineFixedPoint.gen_line_fixed_point_same_columns ext hx ti to line b hto hsan_to hsub h ?_
  intro r row' hget hcr k v raw hv hvis hc
  rcases hcols_to k v hv with rfl | rfl
  · have htik := hcols_ti k hv
    obtain ⟨h1, h2⟩ := LineFixedPoint.gen_imported_auto_none ext ti line r hti hget k .nil htik
    obtain ⟨_, row0, h0, hfill⟩ := Order.createRow_row_iff.1 hcr
    obtain ⟨_, raw', _, _, hl', hnew, _⟩ := LineFixedPoint.filled_declared _ to row0 r row' hto
      (Order.getRow_keys_nodup _ ti line r hget) h0 hfill k _ hv
    cases hl'.symm.trans hc
    -- the exporter keeps what the importer stored: `NewValue(x, auto, nil)` is `x`
    by_cases hin : k ∈ Order.inputKeys line
    · obtain ⟨d, hd, hrk⟩ := h1 hin
      cases (RowRoundTrip.gen_newValue_none ext d .auto).symm.trans (hnew _ hrk)
      exact .auto_none _ hd
    · cases (RowRoundTrip.gen_newValue_none ext .nil .auto).symm.trans (hnew _ (h2 hin))
      exact .nil _ _
  · exact absurd rfl hvis

open Jl.Template in
/-- The known findings at LINE level, kernel-checked on the model of the whole pipeline:
    `swallowed-cast` — `{"c":""}` under (no input template, output `c`: string(int)) is emitted as it
    is and REJECTED by the second pass; `illformed-utf8-escape` — the emitted line is accepted by the
    second pass but written again with other bytes. -/
theorem known_findings_at_line_level (ext : Ext) :
    (jlLine ⟨genTables, ext⟩ [] LineFixedPoint.Swallowed.tmpl LineFixedPoint.Swallowed.line =
        .ok (LineFixedPoint.Swallowed.line ++ [0x0A], none) ∧
     jlLine ⟨genTables, ext⟩ LineFixedPoint.Swallowed.tmpl LineFixedPoint.Swallowed.tmpl LineFixedPoint.Swallowed.line =
        .ok ([], some .unsupportedImport)) ∧
    (jlLine ⟨genTables, ext⟩ LineFixedPoint.IllFormed.ti LineFixedPoint.IllFormed.to LineFixedPoint.IllFormed.line =
        .ok (LineFixedPoint.IllFormed.body1 ++ [0x0A], none) ∧
     jlLine ⟨genTables, ext⟩ LineFixedPoint.IllFormed.to LineFixedPoint.IllFormed.to LineFixedPoint.IllFormed.body1 =
        .ok (LineFixedPoint.IllFormed.body2 ++ [0x0A], none) ∧
     LineFixedPoint.IllFormed.body2 ≠ LineFixedPoint.IllFormed.body1) :=
  ⟨LineFixedPoint.Swallowed.swallowed_cast_line ext, LineFixedPoint.IllFormed.ill_formed_line ext⟩

/-! ### The model of `value.go` is REGENERATED (`extract/value.go` → `Gen.ValueTable`, `Proofs/ValueTie`)

  The theorems of this file are about the hand-written `Model.Value`; as for C13 (`C13.value_model_is_the_source`, where
  what is read from the source, and how, is said), `Model.Value` IS the interpretation of today's source. -/
theorem value_model_is_the_source :
    (Gen.valueTable.known = true ∧ Gen.valueTable.importPreamble = .asModelled ∧
      Gen.valueTable.exportPreamble = .asModelled ∧ Gen.valueTable.newValue = .asModelled ∧
      Gen.valueTable.cloneValue = .asModelled) ∧
    (∀ (env : Value.Env) (f : Format) (typ : Ty) (val : Dyn),
      ValueGen.importByFormatG Gen.valueTable env f typ val = Value.importByFormat env f typ val) ∧
    (∀ (env : Value.Env) (old : Dyn) (f : Format) (typ : Ty) (val : Dyn), f ≠ .bad →
      ValueGen.importCellG Gen.valueTable env old f typ val = Value.importCell env f typ val) ∧
    (∀ (env : Value.Env) (raw : Dyn) (f : Format) (typ : Ty),
      ValueGen.exportCellG Gen.valueTable env raw f = Value.exportVal env (.cell raw f typ)) ∧
    Gen.valueTable.formats = Format.declared.map (fun f => (f.goName, (f.ctorIdx : Int))) :=
  C13.value_model_is_the_source


/-! ### Reader and writer are the source's (Proofs/RowTieMarshal, RowTieText, FlowTieExport, FlowTieImport)

The property speaks of lines WRITTEN and READ BACK; the code doing both is read from `row.go`,
`exporter.go` and `importer.go` on every run. -/

theorem reader_and_writer_are_the_source :
    (∀ (env : Value.Env) (ms : Members),
      RowTie.marshalRowG Gen.rowFacts.marshal (RowPrint.marshalVal env) ms.toList =
        some (RowPrint.marshalVal env (.row ms))) ∧
    (∀ (env : Value.Env) (t : Template.Tmpl) (v : Dyn),
      FlowTie.exportG Gen.flowTable.exporterExport env t v = some (Template.exportLine env t v)) ∧
    (∀ (env : Value.Env) (t : Template.Tmpl) (line : Bytes),
      FlowTie.getRowG Gen.flowTable.getRow Gen.flowTable.createRowEmpty env t line =
        some (Template.getRow env t line)) ∧
    Gen.rowFacts.unmarshal = [.newDecoder true, .openDelim 0x7B, .members "parseobject", .onlyEOF] :=
  C13.reader_and_writer_are_the_source

end Jl.C05

namespace Jl.LineFixedPoint
open Jl Jl.Value Jl.Template Jl.RowPrint Jl.JsonPrint Jl.JsonQuote Cast

/-- In particular the untemplated pipeline (C02's fixed point, here with repeated member names
    allowed, for the regenerated tables). -/
theorem gen_untemplated_fixed_point (ext : Ext) (hx : FloatTextOK ext) (line b : Bytes)
    (h : jlLine ⟨genTables, ext⟩ [] [] line = .ok (b, none)) :
    ∃ body, b = body ++ [0x0A] ∧ jlLine ⟨genTables, ext⟩ [] [] body = .ok (b, none) :=
  C05.auto_columns_fixed_point ext hx [] [] line b List.nodup_nil List.nodup_nil
    (fun _ hk => (by cases hk)) (fun _ hk => hk) (fun _ _ hv => (by cases hv))
    (fun _ hv => (by cases hv)) h

namespace Demo

/-- The `Demo` of Proofs/LineFixedPoint through `C05.line_fixed_point`. -/
theorem table_applies (ext : Ext) (hx : FloatTextOK ext) :
    (∀ k v, OMap.lookup tmpl k = some v → Cells.format v ≠ .hidden →
      Tables.selfReadable (Cells.format v) (Cells.rawType v) = true) ∧
    ∃ body', body ++ [0x0A] = body' ++ [0x0A] ∧
      jlLine ⟨genTables, ext⟩ tmpl tmpl body' = .ok (body ++ [0x0A], none) := by
  refine C05.line_fixed_point ext hx tmpl tmpl line (body ++ [0x0A])
    keys_ok.1 keys_ok.2 (fun _ hk => hk) ?_ (first_pass ext) ?_
  · exact fun k v hv => (by decide : ∀ kv ∈ tmpl, Cells.format kv.2 ≠ .hidden →
      coveredB (Cells.format kv.2) (Cells.rawType kv.2) = true) (k, v) (OMap.mem_of_lookup hv)
  · intro r row' hget hcr k v raw hv _ hc
    rcases cells ext hget hcr hv hc with ⟨rfl, rfl⟩ | ⟨rfl, rfl⟩
    · exact ⟨.inr (.inl ⟨by decide, rfl⟩), by decide, trivial⟩
    · exact ⟨.inr (.inr ⟨rfl, rfl⟩), by decide +kernel, trivial⟩

end Demo
end Jl.LineFixedPoint
