/-
  C14 — date-time handling preserves the instant and an explicit offset.

  Statement (properties.jsonl): a date-time string with an explicit offset is read as exactly
  that instant and written back with the same instant and the same offset whatever the
  process time zone; an integer is read as Unix seconds; and converting between date-time and
  timestamp columns preserves the instant exactly.  Sub-second digits are dropped, never
  rounded up, and the result of reading a timestamp as a date-time denotes the same instant in
  every time zone.

  Model: Model.Time (port of package time for the two layouts in play: civil calendar,
  Format, the general parser's language), interpreted through the regenerated cast tables
  (ToTime, ToTimestamp, ToString).  The process time zone enters only through
  `Ext.zoneOffset` (the offset of time.Local at an instant): the theorems quantify over
  every such function.
-/
import Proofs.Time
import Proofs.LineTime
import Proofs.LineTimeMore

namespace Jl.C14
open Jl Cast


/-- The calendar port is a bijection: every valid civil date (all years) maps to a day number
    and back, and every day number is a valid date. -/
theorem civil_calendar_bijection :
    (∀ (y : Int) (m d : Nat), Time.ValidDate y m d → Time.civilFromDays (Time.daysFromCivil y m d) = (y, m, d)) ∧
    (∀ z : Int, Time.daysFromCivil (Time.civilFromDays z).1 (Time.civilFromDays z).2.1 (Time.civilFromDays z).2.2 = z) :=
  ⟨fun _ _ _ h => Time.civilFromDays_daysFromCivil h, fun z => (Time.daysFromCivil_civilFromDays z).2⟩

/-- Writing then reading a date-time: for every instant with year 0..9999 and every
    whole-minute offset of less than 24 h, the text parses back to exactly that instant and
    that offset, with the sub-second part dropped. -/
theorem parse_of_format (t : GoTime) (hy0 : 0 ≤ Time.year t) (hy1 : Time.year t ≤ 9999)
    (h60 : t.off % 60 = 0) (hlo : -86400 < t.off) (hhi : t.off < 86400) :
    Time.parseRFC3339 (Time.formatRFC3339 t) = some ⟨t.sec, 0, t.off⟩ :=
  Time.C14_parse_format t hy0 hy1 h60 hlo hhi

/-- The instant read does not depend on the offset it was rendered with (so it does not
    depend on the process time zone either). -/
theorem instant_independent_of_offset (sec : Int) (n : Nat) (off₁ off₂ : Int)
    (hy₁ : 0 ≤ Time.year ⟨sec, n, off₁⟩ ∧ Time.year ⟨sec, n, off₁⟩ ≤ 9999)
    (hy₂ : 0 ≤ Time.year ⟨sec, n, off₂⟩ ∧ Time.year ⟨sec, n, off₂⟩ ≤ 9999)
    (h₁ : off₁ % 60 = 0 ∧ -86400 < off₁ ∧ off₁ < 86400)
    (h₂ : off₂ % 60 = 0 ∧ -86400 < off₂ ∧ off₂ < 86400) :
    ∃ t₁ t₂, Time.parseRFC3339 (Time.formatRFC3339 ⟨sec, n, off₁⟩) = some t₁ ∧
      Time.parseRFC3339 (Time.formatRFC3339 ⟨sec, n, off₂⟩) = some t₂ ∧
      t₁.sec = sec ∧ t₂.sec = sec ∧ t₁.sec = t₂.sec ∧ t₁.off = off₁ ∧ t₂.off = off₂ :=
  ⟨_, _, parse_of_format ⟨sec, n, off₁⟩ hy₁.1 hy₁.2 h₁.1 h₁.2.1 h₁.2.2,
    parse_of_format ⟨sec, n, off₂⟩ hy₂.1 hy₂.2 h₂.1 h₂.2.1 h₂.2.2, rfl, rfl, rfl, rfl, rfl⟩

/-- Sub-second digits (after `.` or `,`, any number of them) never change the second that is
    read: they are truncated into the nanosecond field, which is < 10^9 (no carry). -/
theorem subsecond_dropped_never_rounded (t : GoTime) (hy0 : 0 ≤ Time.year t) (hy1 : Time.year t ≤ 9999)
    (h60 : t.off % 60 = 0) (hlo : -86400 < t.off) (hhi : t.off < 86400)
    (p : UInt8) (hp : p = 0x2E ∨ p = 0x2C) (ds : Bytes) (hne : ds ≠ [])
    (hdig : ∀ c ∈ ds, Time.isDigit c = true) :
    Time.parseRFC3339 (Time.headText (Time.civilOf t) ++ (p :: ds ++ Time.formatZone t.off))
      = some ⟨t.sec, Time.fracNanos ds, t.off⟩ ∧ Time.fracNanos ds < 10 ^ 9 :=
  Time.C14_fraction_format t hy0 hy1 h60 hlo hhi hp hne hdig

/-- ToTime of a string parses it with the RFC 3339 layout; when it parses, the result is exactly the
    parsed instant and offset — no zone function is consulted. -/
theorem toTime_of_string (ext : Ext) (s : Bytes) (t : GoTime) (h : Time.parseRFC3339 s = some t) :
    castNamed genTables ext "ToTime" (.str s) = .ok (.time t) :=
  CasterFacts.toTime_str ext s t h

/-- An integer is read as Unix seconds (rendered in the process zone: `zoneOffset`). -/
theorem toTime_of_int64 (ext : Ext) (v off : Int) (hz : ext.zoneOffset v = some off)
    (hv : -(2 ^ 62 : Int) < v ∧ v < 2 ^ 62) :
    castNamed genTables ext "ToTime" (.int .i64 v) = .ok (.time ⟨v, 0, off⟩) :=
  CasterFacts.toTime_i64 ext v off hz hv

/-- date-time → timestamp is the instant's Unix seconds, whatever the offset. -/
theorem timestamp_of_time (ext : Ext) (t : GoTime) :
    castNamed genTables ext "ToTimestamp" (.time t) = .ok (.int .i64 t.sec) :=
  CasterFacts.toTimestamp_time ext t

/-- Reading a timestamp as a date-time and back denotes the same instant in EVERY time zone. -/
theorem timestamp_roundtrip_any_zone (ext : Ext) (v off : Int) (hz : ext.zoneOffset v = some off)
    (hv : -(2 ^ 62 : Int) < v ∧ v < 2 ^ 62) :
    ∃ t, castNamed genTables ext "ToTime" (.int .i64 v) = .ok (.time t) ∧
      castNamed genTables ext "ToTimestamp" (.time t) = .ok (.int .i64 v) :=
  ⟨_, toTime_of_int64 ext v off hz hv, timestamp_of_time ext _⟩

theorem timestamp_of_string (ext : Ext) (s : Bytes) (t : GoTime) (h : Time.parseRFC3339 s = some t) :
    castNamed genTables ext "ToTimestamp" (.str s) = .ok (.int .i64 t.sec) := by
  rw [castNamed_clause (v := .str s)
    (by decide +kernel : clauseOf genTables "ToTimestamp" .str = some (.special "timestamp.string")) ext]
  rw [evalBranch_special, special_timestamp_string, CasterFacts.gen_timeStringFormat, h]
  rfl

/-- ToString of a time with year 0..9999 renders it with the RFC 3339 layout at its own
    offset; outside that range it fails (the check of finding F-C04, DESIGN.md) — so what is written can be read back. -/
theorem toString_of_time (ext : Ext) (t : GoTime) :
    castNamed genTables ext "ToString" (.time t) =
      if Time.year t < 0 ∨ Time.year t > 9999 then .err .cast else .ok (.str (Time.formatRFC3339 t)) :=
  CasterFacts.toString_time_eq ext t

/-- C14 composed: a date-time string with explicit offset (in the stated domain), read by
    ToTime and written by ToString, is read again as the same instant and the same offset —
    for every process time zone (no `zoneOffset` hypothesis). -/
theorem read_write_read (ext : Ext) (s : Bytes) (t : GoTime) (h : Time.parseRFC3339 s = some t)
    (hy0 : 0 ≤ Time.year t) (hy1 : Time.year t ≤ 9999)
    (h60 : t.off % 60 = 0) (hlo : -86400 < t.off) (hhi : t.off < 86400) :
    ∃ out, castNamed genTables ext "ToTime" (.str s) = .ok (.time t) ∧
      castNamed genTables ext "ToString" (.time t) = .ok (.str out) ∧
      Time.parseRFC3339 out = some ⟨t.sec, 0, t.off⟩ := by
  exact ⟨Time.formatRFC3339 t, toTime_of_string ext s t h, CasterFacts.toString_time ext t hy0 hy1,
    parse_of_format t hy0 hy1 h60 hlo hhi⟩

/-! ### On the emitted BYTES: one line through importer and exporter (`Proofs/LineTime`)

  `jlLine ti to line` is the importer's `GetRow` under `ti`, the exporter's `CreateRow` under `to` and
  `row.MarshalJSON`, over the regenerated cast tables; the conclusions are about the object the model
  of the reader delivers for the bytes written. -/

open Jl.Template Jl.LineTime in
/-- Date-time column in, date-time column out (raw type none or time.Time on either side), the line's
    only member an RFC 3339 text denoting `t` with an offset below 24 h: for EVERY process zone the
    line is accepted, and the member written is a text that parses to the same second, the same offset
    and no sub-second part.  (Year range and whole-minute offset follow from the text being accepted.) -/
theorem datetime_line_keeps_instant_and_offset (ext : Ext) (k : Bytes) (hk : JsonQuote.sanitize k = k)
    {fi fo : Format} {tyi tyo : Ty} (hi : IsDT fi tyi) (ho : IsDT fo tyo) (line s : Bytes) (t : GoTime)
    (hline : Json.unmarshal line = (.cons k (.str s) .nil, true))
    (hp : Time.parseRFC3339 s = some t) (hlo : -86400 < t.off) (hhi : t.off < 86400) :
    (∃ b, jlLine ⟨genTables, ext⟩ (withCol [] k fi tyi) (withCol [] k fo tyo) line = .ok (b, none)) ∧
    ∀ b, jlLine ⟨genTables, ext⟩ (withCol [] k fi tyi) (withCol [] k fo tyo) line = .ok (b, none) →
      ∃ body tree, b = body ++ [0x0A] ∧ Json.unmarshal body = (tree, true) ∧
        ∃ s', LineSpec.lookupJV tree k = some (.str s') ∧
          ∃ t', Time.parseRFC3339 s' = some t' ∧ t'.sec = t.sec ∧ t'.off = t.off ∧ t'.nsec = 0 :=
  LineTimeMore.text_line ext k hk (.of_isDT hi) (.of_isDT ho) line s t hline hp hlo hhi

open Jl.Template Jl.LineTime in
/-- "Whatever the process time zone", literally: the bytes written do not depend on `ext`. -/
theorem datetime_line_zone_independent (ext₁ ext₂ : Ext) (k : Bytes) {fi fo : Format} {tyi tyo : Ty}
    (hi : IsDT fi tyi) (ho : IsDT fo tyo) (line s : Bytes) (t : GoTime)
    (hline : Json.unmarshal line = (.cons k (.str s) .nil, true))
    (hp : Time.parseRFC3339 s = some t) :
    jlLine ⟨genTables, ext₁⟩ (withCol [] k fi tyi) (withCol [] k fo tyo) line =
      jlLine ⟨genTables, ext₂⟩ (withCol [] k fi tyi) (withCol [] k fo tyo) line :=
  LineTime.datetime_line_zone_independent ext₁ ext₂ k hi ho line s t hline hp
    (parsed_domain hp).1 (parsed_domain hp).2.1

open Jl.Template Jl.LineTime in
/-- Sub-second digits are dropped, never rounded up — on the bytes: the text of `t` with a fraction of
    any length after `.` or `,` is written back exactly as the text of `t`. -/
theorem subsecond_dropped_on_the_line (ext : Ext) (k : Bytes) {fi fo : Format} {tyi tyo : Ty}
    (hi : IsDT fi tyi) (ho : IsDT fo tyo) (line : Bytes) (t : GoTime)
    (hy0 : 0 ≤ Time.year t) (hy1 : Time.year t ≤ 9999)
    (h60 : t.off % 60 = 0) (hlo : -86400 < t.off) (hhi : t.off < 86400)
    (p : UInt8) (hp : p = 0x2E ∨ p = 0x2C) (ds : Bytes) (hne : ds ≠ [])
    (hdig : ∀ c ∈ ds, Time.isDigit c = true)
    (hline : Json.unmarshal line =
      (.cons k (.str (Time.headText (Time.civilOf t) ++ (p :: ds ++ Time.formatZone t.off))) .nil,
        true)) :
    jlLine ⟨genTables, ext⟩ (withCol [] k fi tyi) (withCol [] k fo tyo) line =
      .ok (LineTime.objText k (JsonWrite.quote (Time.formatRFC3339 t)) ++ [0x0A], none) := by
  -- the civil fields, hence the text written, do not depend on the nanoseconds
  have hf : Time.formatRFC3339 ⟨t.sec, Time.fracNanos ds, t.off⟩ = Time.formatRFC3339 t := by
    rw [Time.formatRFC3339_eq, Time.formatRFC3339_eq,
      Time.civilOf_local (s := ⟨t.sec, Time.fracNanos ds, t.off⟩) (t := t) rfl]
  rw [← hf]
  exact LineTimeMore.text_line_written ext k (.of_isDT hi) (.of_isDT ho) line _ _ hline
    (Time.C14_fraction_format t hy0 hy1 h60 hlo hhi hp hne hdig).1

open Jl.Template Jl.LineTime in
/-- Date-time column in, timestamp column out: for every process zone and every accepted text the line
    is accepted and the member written is the integer literal of the instant's Unix second. -/
theorem datetime_to_timestamp_line (ext : Ext) (k : Bytes) (hk : JsonQuote.sanitize k = k)
    {fi fo : Format} {tyi tyo : Ty} (hi : IsDT fi tyi) (ho : IsTS fo tyo) (line s : Bytes) (t : GoTime)
    (hline : Json.unmarshal line = (.cons k (.str s) .nil, true))
    (hp : Time.parseRFC3339 s = some t) :
    (∃ b, jlLine ⟨genTables, ext⟩ (withCol [] k fi tyi) (withCol [] k fo tyo) line = .ok (b, none)) ∧
    ∀ b, jlLine ⟨genTables, ext⟩ (withCol [] k fi tyi) (withCol [] k fo tyo) line = .ok (b, none) →
      ∃ body tree, b = body ++ [0x0A] ∧ Json.unmarshal body = (tree, true) ∧
        LineSpec.lookupJV tree k = some (.num (IntText.formatInt t.sec)) :=
  LineTimeMore.ts_line ext k hk (.of_isDT hi) (.of_isTS ho) line s t hline hp

open Jl.Template Jl.LineTime in
/-- Timestamp column in (an integer literal: Unix seconds), date-time column out: in two process zones,
    each with its own offset at that instant, both lines are accepted and the two texts written denote
    the SAME second, each at its zone's offset, with no sub-second part. -/
theorem timestamp_to_datetime_same_instant_in_every_zone (ext₁ ext₂ : Ext) (k : Bytes)
    (hk : JsonQuote.sanitize k = k) {fi fo : Format}
    {tyi tyo : Ty} (hi : IsTS fi tyi) (ho : IsDT fo tyo) (line lit : Bytes) (n off₁ off₂ : Int)
    (hline : Json.unmarshal line = (.cons k (.num lit) .nil, true))
    (hn : IntText.parseInt0 lit 64 = some n)
    (hz₁ : ext₁.zoneOffset n = some off₁) (hz₂ : ext₂.zoneOffset n = some off₂)
    (hy₁ : 0 ≤ Time.year ⟨n, 0, off₁⟩ ∧ Time.year ⟨n, 0, off₁⟩ ≤ 9999)
    (hy₂ : 0 ≤ Time.year ⟨n, 0, off₂⟩ ∧ Time.year ⟨n, 0, off₂⟩ ≤ 9999)
    (h₁ : off₁ % 60 = 0 ∧ -86400 < off₁ ∧ off₁ < 86400)
    (h₂ : off₂ % 60 = 0 ∧ -86400 < off₂ ∧ off₂ < 86400) :
    ∃ body₁ body₂ tree₁ tree₂ s₁ s₂ t₁ t₂,
      jlLine ⟨genTables, ext₁⟩ (withCol [] k fi tyi) (withCol [] k fo tyo) line =
        .ok (body₁ ++ [0x0A], none) ∧
      jlLine ⟨genTables, ext₂⟩ (withCol [] k fi tyi) (withCol [] k fo tyo) line =
        .ok (body₂ ++ [0x0A], none) ∧
      Json.unmarshal body₁ = (tree₁, true) ∧ Json.unmarshal body₂ = (tree₂, true) ∧
      LineSpec.lookupJV tree₁ k = some (.str s₁) ∧ LineSpec.lookupJV tree₂ k = some (.str s₂) ∧
      Time.parseRFC3339 s₁ = some t₁ ∧ Time.parseRFC3339 s₂ = some t₂ ∧
      t₁.sec = n ∧ t₂.sec = n ∧ t₁.sec = t₂.sec ∧ t₁.off = off₁ ∧ t₂.off = off₂ ∧
      t₁.nsec = 0 ∧ t₂.nsec = 0 := by
  have hw₁ := unix_line_written ext₁ k hi ho line lit n off₁ hline hn hz₁ hy₁.1 hy₁.2 h₁.2.1 h₁.2.2
  have hw₂ := unix_line_written ext₂ k hi ho line lit n off₂ hline hn hz₂ hy₂.1 hy₂.2 h₂.2.1 h₂.2.2
  exact ⟨_, _, _, _, _, _, _, _, hw₁, hw₂, unmarshal_datetime_out hk _, unmarshal_datetime_out hk _,
    LineLevel.lookupJV_single _ _, LineLevel.lookupJV_single _ _,
    Time.C14_parse_format ⟨n, 0, off₁⟩ hy₁.1 hy₁.2 h₁.1 h₁.2.1 h₁.2.2,
    Time.C14_parse_format ⟨n, 0, off₂⟩ hy₂.1 hy₂.2 h₂.1 h₂.2.1 h₂.2.2, rfl, rfl, rfl, rfl, rfl, rfl, rfl⟩

open Jl.Template Jl.LineTime in
/-- Templates with ANY number of columns: on an accepted line, if every input member that is an RFC 3339 text
    (as the oracle reads the input: last of repeated names) has an offset below 24 h and sits under a
    date-time column of the importer whose exporter column is a date-time or timestamp column, then the
    oracle the correspondence check applies to the implementation's output (`c14LineViolation`, whose branch
    for accepted lines is restated in `LineTime.c14Violation`) finds nothing on the model's output.
    `FloatTextOK` is only there because other columns may print floats. -/
theorem emitted_line_keeps_times (ext : Ext) (ti to : Tmpl) (line b : Bytes)
    (h : jlLine ⟨genTables, ext⟩ ti to line = .ok (b, none)) (hx : JsonPrint.FloatTextOK ext)
    (hto : (OMap.keys to).Nodup) (hperm : (OMap.keys ti).Perm (OMap.keys to))
    (hutf : ∀ k ∈ OMap.keys to, JsonQuote.sanitize k = k)
    (hin : ∀ k ∈ Order.inputKeys line, JsonQuote.sanitize k = k)
    (hcols : ∀ k s t, (k, JV.str s) ∈ (LineSpec.normDup (Json.unmarshal line).1).toList →
      Time.parseRFC3339 s = some t →
      (-86400 < t.off ∧ t.off < 86400) ∧
      ∃ raw₁ fi tyi raw₂ fo tyo, (k, Val.cell raw₁ fi tyi) ∈ ti ∧ (k, Val.cell raw₂ fo tyo) ∈ to ∧
        IsDT fi tyi ∧ (IsDT fo tyo ∨ IsTS fo tyo)) :
    LineTime.c14Violation line (jlLine ⟨genTables, ext⟩ ti to line) = none :=
  emitted_line_oracle ext ti to line b h hx hto hperm hutf fun k s t hm hp =>
    let ⟨hb, r₁, fi, tyi, r₂, fo, tyo, h₁, h₂, hdt, ho⟩ := hcols k s t hm hp
    ⟨hb, r₁, fi, tyi, r₂, fo, tyo, h₁, h₂, .of_isDT hdt, ho.imp .of_isDT .of_isTS⟩

/-- The one hypothesis of `datetime_line_keeps_instant_and_offset` that is not automatic cannot be
    dropped: Go's parser accepts the offset `+24:60` (`LineTime.Demo.farS`, `2021-09-24T21:21:00+24:60`), the
    exporter writes it as `+25:00` (`farOut`), and that text the parser refuses (cf. the known finding
    `offset-24-60` of C05).  Stated for every spelling `line` of the one-member object; the literal one is an
    `example` of Proofs/LineTime. -/
theorem line_offset_bound_needed (line : Bytes)
    (hline : Json.unmarshal line = (.cons [0x74] (.str LineTime.Demo.farS) .nil, true)) :
    ∃ body, Template.jlLine LineTime.Demo.env LineTime.Demo.tmpl LineTime.Demo.tmpl line =
        .ok (body ++ [0x0A], none) ∧
      Json.unmarshal body = (.cons [0x74] (.str LineTime.Demo.farOut) .nil, true) ∧
      Time.parseRFC3339 LineTime.Demo.farOut = none ∧
      LineTime.c14Violation line
        (Template.jlLine LineTime.Demo.env LineTime.Demo.tmpl LineTime.Demo.tmpl line) =
          some "written-text-unreadable" := by
  obtain ⟨t, hp, hf, hn⟩ : ∃ t, Time.parseRFC3339 LineTime.Demo.farS = some t ∧
      Time.formatRFC3339 t = LineTime.Demo.farOut ∧ Time.parseRFC3339 LineTime.Demo.farOut = none :=
    ⟨⟨1632428460, 0, 90000⟩, by decide +kernel⟩
  have hw := LineTimeMore.text_line_written Ext.empty [0x74] (.of_isDT LineTime.Demo.dt) (.of_isDT LineTime.Demo.dt)
    line _ t hline hp
  have hu := LineTime.unmarshal_datetime_out LineLevel.DemoDT.sanitize_t t
  rw [hf] at hw hu
  refine ⟨_, hw, hu, hn, ?_⟩
  rw [show Template.jlLine LineTime.Demo.env LineTime.Demo.tmpl LineTime.Demo.tmpl line = _ from hw,
    LineTime.c14Violation_written hline hu]
  simp [LineTime.c14Step, hp, LineLevel.lookupJV_single, hn]

/-! ### Every descriptor pair of the correspondence check (Proofs/LineTimeMore)

`harnessIns` × `harnessOuts` are the column descriptors the harness pairs for C14 (date-time and
timestamp formats over no raw type, `time.Time`, and integer / float raw types the cast to which
fails, so that `NewValue` keeps the `time.Time`). -/

open Jl.Template Jl.LineTime Jl.LineTimeMore Jl.JsonQuote in
/-- Every pair whose output is not a timestamp: the line is accepted, and the member written
    parses to the same instant and THE SAME OFFSET — for every `ext`, hence every process zone. -/
theorem every_pair_keeps_the_offset (ext : Ext) (k : Bytes) (hk : sanitize k = k)
    (di do_ : Format × Ty) (hi : di ∈ harnessIns) (ho : do_ ∈ harnessOuts)
    (hts : do_.1 ≠ .timestamp) (line s : Bytes) (t : GoTime)
    (hline : Json.unmarshal line = (.cons k (.str s) .nil, true))
    (hp : Time.parseRFC3339 s = some t) (hlo : -86400 < t.off) (hhi : t.off < 86400) :
    (∃ b, jlLine ⟨genTables, ext⟩ (withCol [] k di.1 di.2) (withCol [] k do_.1 do_.2) line =
      .ok (b, none)) ∧
    ∀ b, jlLine ⟨genTables, ext⟩ (withCol [] k di.1 di.2) (withCol [] k do_.1 do_.2) line =
      .ok (b, none) → SameTimeText k t b :=
  offset_kept ext k hk di do_ hi ho hts line s t hline hp hlo hhi

open Jl.Template Jl.LineTime Jl.LineTimeMore Jl.JsonQuote in
/-- Every pair whose output is a timestamp: the member is the integer literal of the instant's
    Unix second — always written, never rejected, whatever the declared raw type. -/
theorem every_timestamp_pair_writes_the_second (ext : Ext) (k : Bytes) (hk : sanitize k = k)
    (di do_ : Format × Ty) (hi : di ∈ harnessIns) (ho : do_ ∈ harnessOuts)
    (hts : do_.1 = .timestamp) (line s : Bytes) (t : GoTime)
    (hline : Json.unmarshal line = (.cons k (.str s) .nil, true))
    (hp : Time.parseRFC3339 s = some t) :
    (∃ b, jlLine ⟨genTables, ext⟩ (withCol [] k di.1 di.2) (withCol [] k do_.1 do_.2) line =
      .ok (b, none)) ∧
    ∀ b, jlLine ⟨genTables, ext⟩ (withCol [] k di.1 di.2) (withCol [] k do_.1 do_.2) line =
      .ok (b, none) →
      ∃ body tree, b = body ++ [0x0A] ∧ Json.unmarshal body = (tree, true) ∧
        LineSpec.lookupJV tree k = some (.num (IntText.formatInt t.sec)) := by
  rcases harnessOuts_spec do_ ho with ⟨h, _⟩ | ⟨_, h⟩
  · exact absurd hts h
  · exact ts_line ext k hk (harnessIns_spec di hi) h line s t hline hp

open Jl.Template Jl.LineTime Jl.LineTimeMore Jl.JsonQuote in
/-- The oracle of the correspondence check (`c14Violation`: on these accepted lines the logic of
    `Driver.Line.c14LineViolation`) finds nothing on the model's line for every pair of those lists. -/
theorem oracle_silent_on_every_pair (ext : Ext) (k : Bytes) (hk : sanitize k = k)
    (di do_ : Format × Ty) (hi : di ∈ harnessIns) (ho : do_ ∈ harnessOuts) (line s : Bytes)
    (t : GoTime) (hline : Json.unmarshal line = (.cons k (.str s) .nil, true))
    (hp : Time.parseRFC3339 s = some t) (hlo : -86400 < t.off) (hhi : t.off < 86400) :
    c14Violation line
      (jlLine ⟨genTables, ext⟩ (withCol [] k di.1 di.2) (withCol [] k do_.1 do_.2) line) = none :=
  harness_oracle ext k hk di do_ hi ho line s t hline hp hlo hhi

end Jl.C14
