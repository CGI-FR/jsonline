/-
  C11 — binary form of fixed-width values is a fixed little-endian bijection.

  Statement (properties.jsonl): for each fixed-width numeric type the binary form of a value
  is its little-endian image of exactly the type's size, and decoding it yields the identical
  value bit for bit; conversely every byte sequence of that exact size decodes and re-encodes
  to itself.  A byte sequence of any other length is rejected with an error when such a type
  is requested, so a binary column mapped to a fixed-width type accepts only well-sized payloads
  and re-emits exactly the bytes it accepted.

  Theorems are about `genTables` (regenerated from pkg/cast on every run: ToBinary's clauses,
  binary_ops.go, the `[]byte` clauses of the numeric casters, cast.To's dispatch).  The
  specification side is `CastSpec.leImage` / `CastSpec.binaryViolation` (also the oracle on the
  implementation's results) and the byte-order lemmas of Proofs.LE, which hold for every size.
-/
import Proofs.CastBin
import Proofs.LineBinary

namespace Jl.C11
open Jl Cast

/-- Encoding: the binary form of every integer of every type is its little-endian
    two's-complement image of exactly the type's size. -/
theorem encode_int_is_le_image (ext : Ext) (t : IntTy) (v : Int) :
    castNamed genTables ext "ToBinary" (.int t v) = .ok (.bytes (LE.put (t.bits / 8) (LE.toU t.bits v))) ∧
    (LE.put (t.bits / 8) (LE.toU t.bits v)).length = t.bits / 8 :=
  ⟨encode_leImage ext (v := .int t v) rfl rfl, LE.put_length _ _⟩

/-- Encoding of floats: the little-endian image of the IEEE bit pattern (every pattern,
    NaN payloads included). -/
theorem encode_float_is_le_image (ext : Ext) :
    (∀ b, b < 2 ^ 64 → castNamed genTables ext "ToBinary" (.f64 b) = .ok (.bytes (LE.put 8 b))) ∧
    (∀ b, b < 2 ^ 32 → castNamed genTables ext "ToBinary" (.f32 b) = .ok (.bytes (LE.put 4 b))) :=
  ⟨fun b _ => encode_leImage ext (v := .f64 b) rfl rfl, fun b _ => encode_leImage ext (v := .f32 b) rfl rfl⟩

theorem encode_no_violation (ext : Ext) (t : IntTy) (v : Int) :
    CastSpec.binaryViolation "ToBinary" none (.int t v)
      (castNamed genTables ext "ToBinary" (.int t v)) = none := by
  rw [(encode_int_is_le_image ext t v).1]; simp [CastSpec.binaryViolation, CastSpec.leImage]

/-- decode ∘ encode = id, bit for bit, for every value of the ten integer types. -/
theorem decode_encode_int (ext : Ext) (t : IntTy) (v : Int) (hv : t.inRange v) :
    castTo genTables ext (.int t) (.bytes (LE.put (t.bits / 8) (LE.toU t.bits v))) = .ok (.int t v) :=
  decode_encode ext (v := .int t v) rfl rfl hv

theorem decode_encode_float (ext : Ext) :
    (∀ b, b < 2 ^ 64 → castTo genTables ext .f64 (.bytes (LE.put 8 b)) = .ok (.f64 b)) ∧
    (∀ b, b < 2 ^ 32 → castTo genTables ext .f32 (.bytes (LE.put 4 b)) = .ok (.f32 b)) :=
  ⟨fun b hb => decode_encode ext (v := .f64 b) rfl rfl hb, fun b hb => decode_encode ext (v := .f32 b) rfl rfl hb⟩

/-- encode ∘ decode = id: every byte sequence of exactly the type's size decodes, and the
    decoded value re-encodes to the same bytes. -/
theorem encode_decode_int (ext : Ext) (t : IntTy) (s : Bytes) (hl : s.length = t.bits / 8) :
    ∃ v, castTo genTables ext (.int t) (.bytes s) = .ok (.int t v) ∧
      castNamed genTables ext "ToBinary" (.int t v) = .ok (.bytes s) :=
  ⟨_, by rw [decode_fixed ext (ty := .int t) rfl, if_pos hl]; rfl, LineBinary.toBinary_decoded ext (ty := .int t) rfl s hl⟩

theorem encode_decode_float (ext : Ext) (s : Bytes) :
    (s.length = 8 → ∃ b, castTo genTables ext .f64 (.bytes s) = .ok (.f64 b) ∧
      castNamed genTables ext "ToBinary" (.f64 b) = .ok (.bytes s)) ∧
    (s.length = 4 → ∃ b, castTo genTables ext .f32 (.bytes s) = .ok (.f32 b) ∧
      castNamed genTables ext "ToBinary" (.f32 b) = .ok (.bytes s)) :=
  ⟨fun hl => ⟨_, by rw [decode_fixed ext (ty := .f64) rfl, if_pos hl]; rfl,
      LineBinary.toBinary_decoded ext (ty := .f64) rfl s hl⟩,
    fun hl => ⟨_, by rw [decode_fixed ext (ty := .f32) rfl, if_pos hl]; rfl,
      LineBinary.toBinary_decoded ext (ty := .f32) rfl s hl⟩⟩

/-- "…a fixed bijection", injectivity stated outright.  The statement is about `LE.put ∘ LE.toU` alone (`ext`
    does not occur in it); it is proved through the generated tables, as a corollary of `decode_encode_int`. -/
theorem encode_int_injective (ext : Ext) (t : IntTy) (v w : Int) (hv : t.inRange v) (hw : t.inRange w)
    (h : LE.put (t.bits / 8) (LE.toU t.bits v) = LE.put (t.bits / 8) (LE.toU t.bits w)) : v = w := by
  have h1 := decode_encode_int ext t v hv
  have h2 := decode_encode_int ext t w hw
  rw [h, h2] at h1
  injection h1 with h1
  injection h1 with _ h1
  exact h1.symm

/-- A byte sequence of any other length — every length, not a sample — is rejected with the
    cast-failure error when a fixed-width type is requested. -/
theorem wrong_length_rejected (ext : Ext) (s : Bytes) :
    (∀ t : IntTy, s.length ≠ t.bits / 8 → castTo genTables ext (.int t) (.bytes s) = .err .cast) ∧
    (s.length ≠ 8 → castTo genTables ext .f64 (.bytes s) = .err .cast) ∧
    (s.length ≠ 4 → castTo genTables ext .f32 (.bytes s) = .err .cast) ∧
    (s.length ≠ 1 → castTo genTables ext .bool (.bytes s) = .err .cast) := by
  have h {ty : Ty} {w : Nat} (hty : CastSpec.fixedSize ty = some w) (hl : s.length ≠ w) :=
    (decode_fixed ext hty s).trans (if_neg hl)
  exact ⟨fun _ => h rfl, h rfl, h rfl, h rfl⟩

/-- bool: the one-byte normalising special case. -/
theorem bool_form (ext : Ext) (b : Bool) (x : UInt8) :
    castNamed genTables ext "ToBinary" (.bool b) = .ok (.bytes [if b then 1 else 0]) ∧
    castTo genTables ext .bool (.bytes [x]) = .ok (.bool (x != 0)) :=
  ⟨encode_bool ext b, by rw [decode_bool]⟩

/-- The byte order is little-endian and it matters (the big-endian image differs). -/
example : LE.put 2 1 = [1, 0] ∧ LE.putBE 2 1 = [0, 1] := by decide

example : castNamed genTables Ext.empty "ToBinary" (.int .i32 (-2)) = .ok (.bytes [0xFE, 0xFF, 0xFF, 0xFF]) := by
  decide +kernel
example : castTo genTables Ext.empty (.int .i16) (.bytes [0x00, 0x80]) = .ok (.int .i16 (-32768)) := by decide +kernel
example : castTo genTables Ext.empty (.int .i16) (.bytes [0x00, 0x80, 0x00]) = .err .cast := by decide +kernel

/-! ### On the emitted BYTES: binary columns of fixed-width raw types through one line (`Proofs/LineBinary`)

  `jlLine ti to line` = importer `GetRow`, exporter `CreateRow`, `row.MarshalJSON` over the regenerated
  tables.  `LineBinary.fixedWidth` is the width table the oracle uses; `LineBinary.reemitted ty bs` is `bs`
  for every type but bool, where any non-zero byte is written back as 01 (`LineBinary.Demo.jlLine_bool_two`). -/

open Jl.Template Jl.LineBinary Jl.JsonQuote in
/-- One binary column of a fixed-width raw type on both sides: the line is accepted IF AND ONLY IF the
    member is base64 of exactly the type's width — for every process zone and stdlib parameter. -/
theorem binary_line_accepted_iff_width (ext : Ext) (k : Bytes) {ty : Ty} {w : Nat}
    (hty : fixedWidth ty = some w) (line s : Bytes)
    (hline : Json.unmarshal line = (.cons k (.str s) .nil, true)) :
    (∃ b, jlLine ⟨genTables, ext⟩ (withCol [] k .binary ty) (withCol [] k .binary ty) line = .ok (b, none)) ↔
      ∃ bs, Base64.decode s = some bs ∧ bs.length = w := by
  refine ⟨fun ⟨b, hb⟩ => Classical.byContradiction fun hn => ?_,
    fun ⟨bs, hd, hl⟩ => ⟨_, binary_line_written ext k hty line s bs hline hd hl⟩⟩
  rw [binary_line_rejected ext k hty _ line s hline hn] at hb
  cases hb

open Jl.Template Jl.LineBinary Jl.JsonQuote in
/-- …and then the member written is the CANONICAL base64 of the bytes accepted (of their normal form for
    bool), whatever spelling the input used. -/
theorem binary_line_reemits_accepted_bytes (ext : Ext) (k : Bytes) (hk : sanitize k = k) {ty : Ty} {w : Nat}
    (hty : fixedWidth ty = some w) (line s bs : Bytes)
    (hline : Json.unmarshal line = (.cons k (.str s) .nil, true))
    (hd : Base64.decode s = some bs) (hl : bs.length = w) :
    (∃ b, jlLine ⟨genTables, ext⟩ (withCol [] k .binary ty) (withCol [] k .binary ty) line = .ok (b, none)) ∧
    ∀ b, jlLine ⟨genTables, ext⟩ (withCol [] k .binary ty) (withCol [] k .binary ty) line = .ok (b, none) →
      ∃ body tree, b = body ++ [0x0A] ∧ Json.unmarshal body = (tree, true) ∧
        LineSpec.lookupJV tree k = some (.str (Base64.encode (reemitted ty bs))) :=
  LineLevel.read_back (binary_line_written ext k hty line s bs hline hd hl) (unmarshal_base64_out hk _)
    (LineLevel.lookupJV_single _ _)

open Jl.Template Jl.LineBinary in
/-- A payload of any other length is rejected — nothing is written — whatever the exporter's template. -/
theorem binary_line_other_length_rejected (ext : Ext) (k : Bytes) {ty : Ty} {w : Nat}
    (hty : fixedWidth ty = some w) (to : Tmpl) (line s bs : Bytes)
    (hline : Json.unmarshal line = (.cons k (.str s) .nil, true))
    (hd : Base64.decode s = some bs) (hl : bs.length ≠ w) :
    jlLine ⟨genTables, ext⟩ (withCol [] k .binary ty) to line = .ok ([], some .unsupportedImport) :=
  binary_line_rejected ext k hty to line s hline fun ⟨_, hd', hl'⟩ => hl (Option.some.inj (hd.symm.trans hd') ▸ hl')

open Jl.Template Jl.LineBinary Jl.JsonQuote in
/-- Templates with ANY number of columns: on an accepted line the oracle the correspondence check applies to
    the implementation's output (`c11LineViolation`, restated as `LineBinary.c11Violation`) finds nothing,
    given that every binary column of a fixed-width type it looks at is declared so in both templates. -/
theorem emitted_line_binary_oracle (ext : Ext) (ti to : Tmpl) (line b : Bytes)
    (h : jlLine ⟨genTables, ext⟩ ti to line = .ok (b, none)) (hx : JsonPrint.FloatTextOK ext)
    (hto : (OMap.keys to).Nodup) (hperm : (OMap.keys ti).Perm (OMap.keys to))
    (hutf : ∀ k ∈ OMap.keys to, sanitize k = k)
    (hin : ∀ k ∈ Order.inputKeys line, sanitize k = k) (cols : List LineSpec.Col)
    (hcols : ∀ n ty w, LineSpec.Col.leaf n .binary ty ∈ cols → fixedWidth ty = some w →
      ∃ raw₁ raw₂, (n, Val.cell raw₁ .binary ty) ∈ ti ∧ (n, Val.cell raw₂ .binary ty) ∈ to) :
    c11Violation cols line (jlLine ⟨genTables, ext⟩ ti to line) = none :=
  LineBinary.emitted_line_oracle ext ti to line b h hx hto hperm hutf cols hcols

end Jl.C11
