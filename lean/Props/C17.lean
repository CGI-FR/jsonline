/-
  C17 — no public operation panics or crashes, whatever the key, index, path or data.

  Statement (properties.jsonl): no public operation of rows, values, templates, importers,
  exporters or streamers panics or crashes the process, for any key (present or absent),
  index, path, stored value or input line within the size limit.  Absent or unconvertible
  data are reported through the operation's own channel — false, nil, a zero value or an
  error.

  Two ties: (1) the regenerated inventory of panic-capable sites of pkg/jsonline and pkg/cast (Gen.Sites: single-value
  type assertions, index and slice expressions, explicit panics, reflect calls) is contained in the list below (same
  function and kind, no more occurrences: `accounted`), each entry with the reason it cannot fire — a new unchecked
  assertion or index expression in the source re-opens `sites_accounted`; (2) the models return `Outcome`, in which a
  panic is an outcome: the theorems show that no modelled operation — import, export, parse, print, CreateRow, GetRow,
  Export, ImportAtPath, Stream — ever produces it, for any argument.  Stack exhaustion and runtime crashes cannot be
  exhibited by the model (harness only, nesting depth 10^4 as in the property).
-/
import Model.Template
import Gen.Sites
import Proofs.NoPanic
import Model.Getters
import Proofs.MapTo
import Proofs.GettersExact
import Proofs.RowTieGetters

namespace Jl.C17
open Jl Jl.Value Cast CastTyped

/-- The panic-capable sites of pkg/jsonline and why none can fire. -/
def expectedSites : List (String × String × Nat) := [
  ("LcFirst", "slice", 1),              -- str[i+1:] with i the index of the first rune: i+1 ≤ len(str)
  ("exportToBinary", "assert", 1),      -- b.([]byte) on ToBinary's result for a non-nil value: typed by C10
  ("handledelim", "assert", 1),         -- NewRow().(*row): NewRow returns a *row
  ("importFromBinary", "assert", 1),    -- str.(string) on ToString's result for a non-nil value: typed by C10
  ("row.FindValuesAtPath", "index", 3), -- keys[0] (SplitN yields ≥ 1 element); keys[1] twice, after len(keys) == 1 returned
  ("row.MapTo", "assert", 3),           -- i.(int64|uint64|float64) on ToInt64/ToUint64/ToFloat64 of a value of that family: typed by C10
  ("row.MapTo", "reflect:CanFloat", 1),
  ("row.MapTo", "reflect:CanInt", 1),
  ("row.MapTo", "reflect:CanSet", 1),
  ("row.MapTo", "reflect:CanUint", 1),
  ("row.MapTo", "reflect:Elem", 3),     -- after Kind() == Ptr && !IsNil()
  ("row.MapTo", "reflect:Field", 2),    -- i < NumField()
  ("row.MapTo", "reflect:IsNil", 1),    -- after Kind() == Ptr
  ("row.MapTo", "reflect:Kind", 6),
  ("row.MapTo", "reflect:NumField", 1), -- after Elem().Kind() == Struct
  ("row.MapTo", "reflect:SetBool", 1),  -- each setter after CanSet() and the matching kind test
  ("row.MapTo", "reflect:SetBytes", 1),
  ("row.MapTo", "reflect:SetFloat", 1),
  ("row.MapTo", "reflect:SetInt", 1),
  ("row.MapTo", "reflect:SetString", 1),
  ("row.MapTo", "reflect:SetUint", 1),
  ("row.MapTo", "reflect:Type", 2),
  ("row.MarshalJSON", "index", 1),      -- res[len(res)-1] under len(res) > 1
  ("row.SetValueAtPath", "panic", 1)    -- unexported method of the unexported type, not in the Row interface: unreachable
]

/-- The panic-capable sites of pkg/cast and why none can fire. -/
def expectedCastSites : List (String × String × Nat) := [
  ("ToBinary", "index", 1),             -- b[idx] with idx ranging over b
  ("ToBinary", "reflect:Elem", 1),      -- Type().Elem() after Kind() == Array
  ("ToBinary", "reflect:Index", 1),     -- idx < Len()
  ("ToBinary", "reflect:Kind", 2),
  ("ToBinary", "reflect:Len", 1),       -- after Kind() == Array
  ("ToBinary", "reflect:Type", 1),
  ("ToBinary", "reflect:Uint", 1),      -- after Elem().Kind() == Uint8
  ("boolFromBytes", "index", 1),        -- bytes[0] after len(bytes) == 1
  ("boolToBytes", "index", 1),          -- bytes[0] of make([]byte, 1)
  ("int8FromBytes", "index", 1),
  ("int8ToBytes", "index", 1),
  ("uint8FromBytes", "index", 1),
  ("uint8ToBytes", "index", 1)
]

/-- Every site of the regenerated inventory is an accounted one, with at most the accounted number of
    occurrences in that function (a site that disappears from the source needs no new argument; a
    new one, or one more occurrence, re-opens this). -/
def accounted (gen expected : List (String × String × Nat)) : Bool :=
  gen.all fun s => expected.any fun e => e.1 == s.1 && e.2.1 == s.2.1 && s.2.2 ≤ e.2.2

/-- The regenerated inventory is accounted for (re-decided on every run). -/
theorem sites_accounted :
    accounted Gen.sites expectedSites = true ∧ accounted Gen.castSites expectedCastSites = true := by
  constructor <;> decide +kernel

/-- The sizes of the two accounted lists (that the inventory is as long is not stated). -/
example : expectedSites.length = 24 ∧ expectedCastSites.length = 13 := by decide

/-- `NewValue` never panics (casts are total: C10). -/
theorem newValue_no_panic (ext : Ext) (v : Dyn) (f : Format) (typ : Ty) (s : String) :
    newValue ⟨genTables, ext⟩ v f typ ≠ .panic s :=
  NoPanic.newValue_no_panic ext v f typ s

/-- `Set` on an existing key never panics. -/
theorem setExisting_no_panic (ext : Ext) (c : Val) (x : Dyn) (s : String) :
    setExisting ⟨genTables, ext⟩ c x ≠ .panic s :=
  NoPanic.setExisting_no_panic ext c x s

/-- `CloneValue` (hence `CloneRow`, `CreateRowEmpty`) never panics. -/
theorem cloneValue_no_panic (ext : Ext) (v : Val) (s : String) :
    cloneValue ⟨genTables, ext⟩ v ≠ .panic s :=
  newValue_no_panic ext _ _ _ s

/-! ### The sixteen typed getters (`Model/Getters.lean`; `v, _ := result.(T)`, a two-value assertion) -/

/-- Every typed getter, on every row and key: never a panic, and a result of exactly the getter's
    type — the cast of the stored raw value, or the zero value. -/
theorem getter_total_and_typed (ext : Ext) (name caster : String) (ty : Ty)
    (h : Getters.table.lookup name = some (caster, ty)) (row : List (Bytes × Val)) (k : Bytes) :
    ∃ o, Getters.typedGet ⟨genTables, ext⟩ name row k = some o ∧
      match o with
      | .ok r => typeOf r = ty
      | .err e => e = .ext
      | .panic _ => False :=
  GettersExact.getter_total_and_typed ext name caster ty h row k

/-! ### Every modelled public operation, for every argument (`Proofs/NoPanic.lean`)

A panic outcome of a model is guarded by the condition under which the Go code would panic (the single-value type
assertions of `importFromBinary` and `exportToBinary`, the little-endian put/get on short buffers).  None is reachable
over the casters of the current source. -/

open Jl.Template Jl.Stream in
/-- `Value.Import` / `Row.Import*` (any nesting of rows, slices and maps). -/
theorem import_no_panic (ext : Ext) (c : Val) (x : Dyn) (s : String) :
    importVal ⟨genTables, ext⟩ c x ≠ .panic s := NoPanic.importVal_no_panic ext c x s

/-- `Value.Export` / `Row.Export`. -/
theorem export_no_panic (ext : Ext) (v : Val) (s : String) :
    exportVal ⟨genTables, ext⟩ v ≠ .panic s := NoPanic.exportVal_no_panic ext v s

/-- `Row.UnmarshalJSON` of any text into any row. -/
theorem unmarshal_no_panic (ext : Ext) (o : List (Bytes × Val)) (text : Bytes) (s : String) :
    unmarshalInto ⟨genTables, ext⟩ o text ≠ .panic s :=
  fun h => (NoPanic.within_unmarshalInto (NoPanic.leaves_np ext) o text).panic h

/-- `Row.MarshalJSON` of any row. -/
theorem marshal_no_panic (ext : Ext) (ms : Members) (s : String) :
    RowPrint.marshalRow ⟨genTables, ext⟩ ms ≠ .panic s := NoPanic.marshalRow_no_panic ext ms s

/-- `Template.CreateRow` for every input kind, `CreateRowEmpty`. -/
theorem createRow_no_panic (ext : Ext) (t : Jl.Template.Tmpl) (v : Dyn) (s : String) :
    Jl.Template.createRow ⟨genTables, ext⟩ t v ≠ .panic s ∧
    Jl.Template.createRowEmpty ⟨genTables, ext⟩ t ≠ .panic s :=
  ⟨NoPanic.createRow_no_panic ext t v s, NoPanic.createRowEmpty_no_panic ext t s⟩

/-- `Importer.GetRow`, `Exporter.Export`, and one line through both as jl does. -/
theorem one_line_no_panic (ext : Ext) (ti to : Jl.Template.Tmpl) (line : Bytes) (v : Dyn) (s : String) :
    Jl.Template.getRow ⟨genTables, ext⟩ ti line ≠ .panic s ∧
    Jl.Template.exportLine ⟨genTables, ext⟩ to v ≠ .panic s ∧
    Jl.Template.jlLine ⟨genTables, ext⟩ ti to line ≠ .panic s :=
  ⟨NoPanic.getRow_no_panic ext ti line s, NoPanic.exportLine_no_panic ext to v s,
   NoPanic.jlLine_no_panic ext ti to line s⟩

/-- `Row.ImportAtPath` for every path (`GetValueAtPath` / `FindValuesAtPath` return options). -/
theorem importAtPath_no_panic (ext : Ext) (row : List (Bytes × Val)) (path : Bytes) (x : Dyn) (s : String) :
    Jl.Path.importAtPath ⟨genTables, ext⟩ row path x ≠ .panic s :=
  NoPanic.importAtPath_no_panic ext row path x s

/-- `Streamer.Stream` for every reader script (faults included), writer script and processor. -/
theorem stream_no_panic (cfg : Jl.Stream.Cfg) (hT : cfg.env.T = genTables)
    (reader : List Scanner.ReadEv) (writer : List Jl.Stream.WriteEv) (s : String) :
    Jl.Stream.stream cfg reader writer ≠ .panic s := NoPanic.stream_no_panic cfg hT reader writer s

/-! ### `Row.MapTo` — the one public operation that uses package reflect (`Model/MapTo`, `Proofs/MapTo`)

  The target is described as reflect sees it (not a pointer / nil pointer / pointer to something that is not a
  struct / pointer to a struct with fields of a kind, settable or not); the casters are called where the code calls
  them and the single-value assertions `i.(int64)`, `i.(uint64)`, `i.(float64)` ARE panic branches of the model: that
  they never fire is a theorem about the regenerated cast tables, not an assumption. -/

/-- `MapTo` never panics: for every row, every target and every `Ext`, over the regenerated tables. -/
theorem mapTo_no_panic (ext : Ext) (row : List (Bytes × Val)) (t : MapTo.Target) (s : String) :
    MapTo.mapTo genTables ext row t ≠ .panic s :=
  MapTo.mapTo_no_panic ext row t s

/-- It returns, or the model abstains — and it abstains only on a settable field whose name starts with a rune
    outside the ranges of `unicode.ToLower` that were ported (`lcFirst … = none`). -/
theorem mapTo_total (ext : Ext) (row : List (Bytes × Val)) (t : MapTo.Target) :
    (∃ t', MapTo.mapTo genTables ext row t = .ok t') ∨
      (MapTo.mapTo genTables ext row t = .err .ext ∧
        ∃ fs, t = .pointerToStruct fs ∧ ∃ f ∈ fs, f.settable = true ∧ MapTo.lcFirst f.name = none) :=
  MapTo.mapTo_total ext row t

/-- Anything but a non-nil pointer to a struct is left as it is (for ANY cast tables). -/
theorem mapTo_not_struct_untouched (T : CastTables) (ext : Ext) (row : List (Bytes × Val)) (t : MapTo.Target)
    (h : ∀ fs, t ≠ .pointerToStruct fs) : MapTo.mapTo T ext row t = .ok t :=
  MapTo.mapTo_not_struct_untouched T ext row t h

/-- A field changes only if it is settable, the row holds the key `LcFirst(name)` and the stored value's family
    matches the field's kind; name, kind and settability never change (for ANY cast tables). -/
theorem mapTo_only_matching_fields (T : CastTables) (ext : Ext) (row : List (Bytes × Val))
    (fs : List MapTo.Field) (t' : MapTo.Target) (h : MapTo.mapTo T ext row (.pointerToStruct fs) = .ok t') :
    ∃ fs', t' = .pointerToStruct fs' ∧
      MapTo.Pointwise (fun f f' => MapTo.Kept (MapTo.Matches row f) f f') fs fs' :=
  MapTo.mapTo_only_matching_fields T ext row fs t' h

/-- What a matching signed field receives: the stored integer WRAPPED at the field's width (the silent wrap-around
    of `reflect.SetInt` — stated as it is; it is not a panic). -/
theorem mapTo_int_value (ext : Ext) (row : List (Bytes × Val)) (fs fs' : List MapTo.Field)
    (h : MapTo.mapTo genTables ext row (.pointerToStruct fs) = .ok (.pointerToStruct fs'))
    (i : Nat) (hi : i < fs.length) (hi' : i < fs'.length) (ft st : IntTy) (key : Bytes) (v : Val) (x : Int)
    (hset : fs[i].settable = true) (hkind : fs[i].kind = .int ft) (hft : ft.signed = true)
    (hkey : MapTo.lcFirst fs[i].name = some key) (hv : Value.lookup row key = some v)
    (hraw : Cells.raw v = .int st x) (hst : st.signed = true) (hx : st.inRange x) :
    fs'[i] = { fs[i] with current := .int ft (ft.wrap x) } :=
  MapTo.mapTo_int_value ext row fs fs' h i hi hi' ft st key v x hset hkind hft hkey hv hraw hst hx

/-- What one field receives does not depend on the other fields of the struct. -/
theorem mapTo_field_independent (T : CastTables) (ext : Ext) (row : List (Bytes × Val))
    (fs fs' gs gs' : List MapTo.Field)
    (hf : MapTo.mapTo T ext row (.pointerToStruct fs) = .ok (.pointerToStruct fs'))
    (hg : MapTo.mapTo T ext row (.pointerToStruct gs) = .ok (.pointerToStruct gs'))
    (i j : Nat) (hi : i < fs.length) (hj : j < gs.length) (hi' : i < fs'.length) (hj' : j < gs'.length)
    (same : fs[i] = gs[j]) : fs'[i] = gs'[j] :=
  MapTo.mapTo_field_independent T ext row fs fs' gs gs' hf hg i j hi hj hi' hj' same

/-! ### The zero value, getter by getter (Proofs/GettersExact) -/

open Jl.GettersExact in
/-- Every one of the sixteen getters answers the zero value of its type when the key is absent,
    when the cell holds nil (JSON null) and when it holds something no caster converts: an array,
    a map, a nested row, a value of a foreign type. -/
theorem getter_zero_when_nothing_converts (ext : Ext) (name caster : String) (ty : Ty)
    (h : Getters.table.lookup name = some (caster, ty)) (row : List (Bytes × Val)) (k : Bytes)
    (hraw : Getters.getOrNil row k = .nil ∨ Unconvertible (Getters.getOrNil row k)) :
    Getters.typedGet ⟨genTables, ext⟩ name row k = some (.ok (Getters.zeroOf ty)) :=
  getter_zero_of_unconvertible ext name caster ty h row k hraw

/-! ### The getters and MapTo of the model are the source's (Proofs/RowTieGetters) -/

/-- Each of the sixteen typed getters, as the source has it, is `GetOrNil`, its caster, and a
    comma-ok assertion to its Go type (`Getters.table`); `MapTo`'s type switch has the cases of
    `MapTo.store`. -/
theorem getters_are_the_source :
    (∀ row ∈ Getters.table, Gen.rowFacts.getters.lookup row.1 =
        some (.castCommaOk "GetOrNil" row.2.1 (RowTie.goType row.2.2)))
    ∧ Gen.rowFacts.getters.length = Getters.table.length
    ∧ Gen.rowFacts.readers.lookup "GetOrNil" = some (.orNil "Get")
    ∧ Gen.rowFacts.readers.lookup "Get" = some .mapRaw :=
  RowTie.getters_as_modelled

/-- `MapTo`, as the source has it: the ten integer cases go through `ToInt64` / `ToUint64` behind
    `CanInt` / `CanUint`, the float cases through `ToFloat64` behind `CanFloat`; string, bool and
    `[]byte` are stored when the field's kind matches; fifteen cases in all, over the fields of the
    pointed-to struct, each asking the row for `LcFirst(name)` (22, 25: `reflect.Ptr`, `reflect.Struct`). -/
theorem mapTo_is_the_source :
    (∀ t ∈ IntTy.all, ((RowTie.mapCases Gen.rowFacts.mapTo).lookup (RowTie.goInt t)).map MapCase.castFirst =
      some (if t.signed then .viaCast "ToInt64" "CanInt" "SetInt" "int64"
            else .viaCast "ToUint64" "CanUint" "SetUint" "uint64"))
    ∧ (RowTie.mapCases Gen.rowFacts.mapTo).length = 15
    ∧ (∃ cs, Gen.rowFacts.mapTo = .fields 22 25 "LcFirst" "Get" cs) :=
  ⟨RowTie.mapTo_as_modelled.1, RowTie.mapTo_as_modelled.2.2.2.2.2.1,
   RowTie.mapTo_as_modelled.2.2.2.2.2.2⟩

end Jl.C17
