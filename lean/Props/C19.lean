/-
  C19 — jl behaves as the library does, and file and inline templates are equivalent.

  Statement (properties.jsonl): the same column definitions given as a row.yml file or as an
  inline template argument produce byte-identical output and the same accept/reject decisions
  for every input, an inline template replaces the file definition entirely, and the command's
  output for any input equals what the library streamer produces with the equivalent
  templates.  A malformed template makes the command exit non-zero without emitting data,
  while per-line data errors are logged and do not abort the stream or change the exit status.

  Model: Model.Jl (parseDescriptor's regexp as a function over the regenerated registries,
  the YAML route `ofYaml` (Go: `parse`), the inline route `ofInline` (Go: `createTemplateFromRow`),
  `createTemplate`).
  YAML / flag parsing and the process boundary are executed only (built binary).
-/
import Model.Jl
import Proofs.Row
import Proofs.JlDescriptor
import Proofs.FlowTieAll
import Proofs.JlTie

namespace Jl.C19
open Jl Jl.Value Jl.Template Jl.JlCmd

theorem split_inline (i o : Bytes) (h : (0x3A : UInt8) ∉ i) :
    splitColon (inlineText i o) = (i, some o) :=
  JlDescriptor.splitColon_first i o h

theorem upsert_upsert (o : List (Bytes × Val)) (k : Bytes) (a b : Val) :
    upsert (upsert o k a) k b = upsert o k b :=
  OMap.upsert_upsert o k a b

/-- The common domain of the two languages: descriptors without `:`; declared sub-rows have
    at least one column. -/
def Common : Nat → List ColDef → Prop
  | 0, _ => True
  | fuel + 1, cols => ∀ c ∈ cols,
    match c with
    | .leaf _ i _ => (0x3A : UInt8) ∉ i
    | .sub _ sub => sub ≠ [] ∧ Common fuel sub

theorem col_equiv (env : Env) (fuel : Nat)
    (ih : ∀ cols, Common fuel cols → ofYaml env fuel cols = ofInline env fuel cols)
    (acc : Outcome (Tmpl × Tmpl)) (c : ColDef)
    (hc : match c with | .leaf _ i _ => (0x3A : UInt8) ∉ i | .sub _ sub => sub ≠ [] ∧ Common fuel sub) :
    yamlCol env (ofYaml env fuel) acc c = inlineCol env (ofInline env fuel) acc c := by
  cases acc with
  | err e => rfl
  | panic s => rfl
  | ok p =>
    obtain ⟨ti, to⟩ := p
    cases c with
    | leaf name i o =>
      simp only at hc
      simp only [yamlCol, inlineCol, split_inline i o hc]
    | sub name sub =>
      obtain ⟨hne, hcom⟩ := hc
      have hemp : sub.isEmpty = false := by cases sub <;> simp_all
      have hw : ∀ (t : Tmpl) (s : Tmpl), withRow env (withCol t name .auto .none) name s = withRow env t name s := by
        intro t s
        unfold withRow withCol
        cases cloneRow env s <;> simp [upsert_upsert]
      simp only [yamlCol, inlineCol, hemp, Bool.false_eq_true, if_false, ih sub hcom]
      cases ofInline env fuel sub with
      | ok p => obtain ⟨si, so⟩ := p; simp only [hw]
      | err e => rfl
      | panic s => rfl

/-- C19, equivalence of the two configuration languages: the same column definitions, given
    as YAML columns or as an inline template, build the same (input, output) template pair —
    for every column list of the common domain, at every nesting depth. -/
theorem yaml_inline_equivalent (env : Env) (fuel : Nat) :
    ∀ cols, Common fuel cols → ofYaml env fuel cols = ofInline env fuel cols := by
  induction fuel with
  | zero => intro cols _; rfl
  | succ fuel ih =>
    intro cols hcom
    exact List.foldl_rel (r := Eq) rfl fun c hc acc _ e => e ▸ col_equiv env fuel ih acc c (hcom c hc)

/-- An inline template replaces the file definition entirely: whatever the file declared.  (`16` is the nesting
    depth `JlCmd.createTemplate` fixes; beyond it the model answers `.err .ext`, and `h`, `h'` keep both files
    within it.) -/
theorem inline_replaces_file (env : Env) (file file' inline : List ColDef) (t t' : Tmpl × Tmpl)
    (h : ofYaml env 16 file = .ok t) (h' : ofYaml env 16 file' = .ok t') :
    createTemplate env file (some inline) = createTemplate env file' (some inline) := by
  simp [createTemplate, h, h']

/-- Without an inline template (absent, empty or `{}`) the file definition is used. -/
theorem no_inline_keeps_file (env : Env) (file : List ColDef) :
    createTemplate env file none = ofYaml env 16 file := by
  unfold createTemplate
  cases ofYaml env 16 file <;> rfl

/-- The descriptor language on examples of each class (kernel-evaluated over the regenerated
    registries): plain, typed, unknown names, and the regexp's rejections. -/
example : parseDescriptor [0x73, 0x74, 0x72, 0x69, 0x6E, 0x67] = (.string, .none) := by decide +kernel
example : parseDescriptor ([0x62, 0x69, 0x6E, 0x61, 0x72, 0x79] ++ [0x28, 0x69, 0x6E, 0x74, 0x33, 0x32, 0x29]) =
    (.binary, .int .i32) := by decide +kernel
example : parseDescriptor [] = (.auto, .none) := by decide +kernel
example : parseDescriptor [0x73, 0x28, 0x29] = (.auto, .none) := by decide +kernel  -- "s()": no match

/-! ### The descriptor language: the hand-written splitter IS the regular expression (`Proofs/JlDescriptor`)

  `JlDescriptor.Matches s name arg?` is `^([^\(]+)(?:\(([^\)]+)\))?$` as a relation on bytes (a match is unique;
  reading the text rune by rune as Go's regexp does gives the same matches, ill-formed UTF-8 included:
  `JlDescriptor.go_rune_match_iff_byte_match`). -/

theorem descriptor_match_unique {s n n' : Bytes} {a a' : Option Bytes}
    (h : JlDescriptor.Matches s n a) (h' : JlDescriptor.Matches s n' a') : n = n' ∧ a = a' := by
  -- anchored at both ends, and each class excludes the delimiter that follows it:
  -- leftmost-first has nothing to choose
  refine ⟨h.span.1.symm.trans h'.span.1, ?_⟩
  have e := h.span.2.symm.trans h'.span.2
  cases a <;> cases a' <;> simp at e
  · rfl
  · simpa using e

/-- The model's splitting function returns (name, group 2) exactly for the matches of the expression
    (`JlDescriptor.argOf g`: `none` for `g = ""` — `FindStringSubmatch` reports an absent group 2 as "" — else `some g`). -/
theorem split_is_the_regexp (s n g : Bytes) :
    splitDescriptor s = some (n, g) ↔ JlDescriptor.Matches s n (JlDescriptor.argOf g) := by
  constructor
  · exact JlDescriptor.matches_of_split
  · intro h
    have := JlDescriptor.split_of_matches h
    by_cases hg : g = [] <;> simpa [JlDescriptor.argOf, JlDescriptor.group2, hg] using this

theorem no_split_iff_no_match (s : Bytes) :
    splitDescriptor s = none ↔ ¬ ∃ n a, JlDescriptor.Matches s n a :=
  JlDescriptor.splitDescriptor_none_iff s

/-- Never a failure, and the fallbacks over the REGENERATED registries: no match → (auto, no raw type); otherwise the
    registry's format for the name (auto when unknown) and the registry's type for the argument (none when unknown or
    absent). -/
theorem parseDescriptor_total (s : Bytes) :
    (¬ (∃ n a, JlDescriptor.Matches s n a) ∧ parseDescriptor s = (.auto, .none)) ∨
    (∃ n a, JlDescriptor.Matches s n a ∧ parseDescriptor s = (JlDescriptor.formatOf n, JlDescriptor.typeOf a)) :=
  JlDescriptor.parseDescriptor_total s

/-- Every name of the registries means itself, alone and between parentheses after every format name. -/
theorem registry_names_mean_themselves (e : Bytes × Format) (he : e ∈ Gen.formatRegistry) (t : Bytes × Ty)
    (ht : t ∈ Gen.typeRegistry) :
    parseDescriptor e.1 = (e.2, .none) ∧
    parseDescriptor (e.1 ++ JlDescriptor.LP :: (t.1 ++ [JlDescriptor.RP])) = (e.2, t.2) :=
  ⟨JlDescriptor.known_format e he, JlDescriptor.known_format_type e he t ht⟩

/-- Case and white space are significant: a loader that lower-cases or trims descriptors changes what a definition
    means. -/
theorem lowercasing_or_trimming_changes_meaning :
    (∃ s, parseDescriptor (JlDescriptor.asciiLower s) ≠ parseDescriptor s) ∧
    (∃ s, parseDescriptor (JlDescriptor.trimSpaces s) ≠ parseDescriptor s) :=
  ⟨JlDescriptor.lowercasing_changes_meaning, JlDescriptor.trimming_changes_meaning⟩

/-- `in:out`: the FIRST colon splits (as `strings.SplitN(_, ":", 2)`); a descriptor without colon stands for both. -/
theorem inline_pair_split (a b : Bytes) (h : 0x3A ∉ a) :
    JlDescriptor.inlinePair (a ++ 0x3A :: b) = (parseDescriptor a, parseDescriptor b) ∧
    JlDescriptor.inlinePair a = (parseDescriptor a, parseDescriptor a) :=
  ⟨JlDescriptor.inlinePair_colon a b h, JlDescriptor.inlinePair_no_colon a h⟩


/-! ### Everything `jl` calls, read from the source (Proofs/FlowTieAll) -/

/-- The whole regenerated table of `template.go`, `exporter.go`, `importer.go` and `streamer.go`
    — the nineteen builders, `CreateRow`, `Export`, the importer, the processors and `Stream` —
    holds nothing unknown and is the table the model assumes (`FlowSpec.expectedFlow`). -/
theorem library_flow_is_the_source :
    Gen.flowTable.known = true ∧ Gen.flowTable = FlowSpec.expectedFlow :=
  ⟨FlowTie.flow_known, FlowTie.flow_as_modelled⟩


/-! ### The command itself, read from the source (Proofs/JlTie)

`extract/jlfacts.go` runs the functions of `cmd/jl` through the symbolic executor on every run
(`Gen.JlFacts`). -/

open Jl.JlCmd in
/-- A column descriptor is split at its FIRST colon (`splitColon`), a descriptor
    is read with the regular expression `Proofs/JlDescriptor` is about (format name in group 1,
    raw type in group 2, unknown names giving Auto / no raw type) — the model's `parseDescriptor` —,
    the definition file is read first and an explicit `-t` REPLACES it — the model's
    `createTemplate` —, and the processor the command installs logs the failure and carries on. -/
theorem command_is_the_source :
    Gen.jlFacts.known = true ∧
    (∀ s : Bytes, JlTie.splitG Gen.jlFacts.inlineRoute s = some (splitColon s)) ∧
    (∀ s : Bytes, JlTie.parseDescriptorG Gen.jlFacts.descriptor s = some (parseDescriptor s)) ∧
    (∀ (env : Value.Env) (file : List ColDef) (inline : Option (List ColDef)),
      JlTie.createTemplateG Gen.jlFacts.createTemplate env file inline =
        some (createTemplate env file inline)) ∧
    JlTie.procG Gen.jlFacts.processor = some .tolerant :=
  ⟨JlTie.jl_facts_known, JlTie.split_is_splitColon, JlTie.parseDescriptor_is_parseDescriptor,
   JlTie.createTemplate_is_createTemplate, JlTie.processor_is_tolerant.1⟩

/-- Standard output is handed to the exporter (and asked for its descriptor by the colour test),
    nothing else; nothing is printed without a writer; the importer reads with the first template
    of the pair and the exporter writes with the second; a template error ends the process with a
    non-zero status, a stream error does not. -/
theorem command_streams_are_the_source :
    (Gen.jlFacts.stdStreams.filter fun e => e.2.1 == "os.Stdout") =
      [("computeColor", "os.Stdout", ".Fd"), ("run", "os.Stdout", ".GetExporter")]
    ∧ Gen.jlFacts.printCalls = []
    ∧ ∃ code, Gen.jlFacts.run = .stream code 0 "Stdin" 1 "Stdout" ∧ code ≠ 0 :=
  JlTie.streams_as_modelled

end Jl.C19
