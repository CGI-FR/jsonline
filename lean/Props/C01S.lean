/-
  Props.C01S — supplementary theorems of property C01: the statements of Props/C01.lean carried down to lines,
  columns and bytes (Proofs/ExportText; both statements hold for any `env`, their module imports the regenerated
  cast tables).  They stand apart because that module rests on the cast tables, which the core statement of C01
  does not: when the translator cannot read a caster, these are reported as not re-proved while the core theorems
  still decide the property (DESIGN §4.1).
-/
import Props.C01
import Proofs.ExportText

namespace Jl.C01
open Jl Jl.Value Jl.Template Jl.JsonPrint

/-! ### JSON TEXT handed straight to `Export` / `CreateRow` (a string or []byte argument: `Proofs/ExportText`)

  `ExportText.exportLine_str`: for a text argument `exportLine to` is `GetRow` UNDER THE OUTPUT TEMPLATE, the printing
  of that very row, and a line feed — there is no second `CreateRow(Row)` pass. -/

/-- One valid line or nothing, for the text route; and an emitted line implies that the text handed in was itself one
    JSON object. -/
theorem text_line_valid_or_nothing (env : Env) (hx : FloatTextOK env.ext) (to : Tmpl) (line w : Bytes) :
    (exportLine env to (.str line) = .ok (w, none) →
      ∃ body, w = body ++ [0x0A] ∧ Grammar.IsObjectText body ∧ Json.accepts body = true ∧
        (0x0A : UInt8) ∉ body ∧ w.count 0x0A = 1 ∧ w.getLast? = some 0x0A ∧
        Grammar.IsObjectText line) ∧
    (∀ e, exportLine env to (.str line) = .ok (w, some e) → w = []) :=
  ExportText.text_line_valid_or_nothing env hx to line w

/-- A string and a byte slice holding the same text are exported alike. -/
theorem text_bytes_or_string (env : Env) (to : Tmpl) (line : Bytes) :
    exportLine env to (.bytes line) = exportLine env to (.str line) :=
  ExportText.exportLine_bytes_eq_str env to line

end Jl.C01
