/-
  C15 — templates, the rows they create and clones never alias each other.

  Statement (properties.jsonl): rows obtained from a template are independent of the template
  and of one another: filling, importing into, mutating or exporting any of them —
  successfully or not — never changes what the template produces afterwards nor the content
  of any other existing row, for any interleaving of such operations.  A cloned row can be
  modified at its top level without affecting its source, and a template changes only through
  its own builder calls.

  Model: Model.Alias — an explicit heap of cell objects with the allocation / in-place
  mutation behaviour of template.go, row.go, value.go (in the value-level models of the other
  properties rows are independent by construction, which is exactly what this property
  justifies).
-/
import Model.Alias
import Proofs.Alias
import Proofs.AliasFamily
import Proofs.FlowTie

namespace Jl.C15
open Jl Jl.Alias

/-- An in-place write (what `value.Import` does through its pointer) changes the content at
    that address only. -/
theorem write_frame {C : Type} (h : Heap C) (a a' : Addr) (c : C) (hne : a' ≠ a) :
    (h.write a c).cells a' = h.cells a' := by
  simp [Heap.write, hne]

theorem alloc_fresh {C : Type} (h : Heap C) (c : C) :
    (h.alloc c).2 = h.next ∧ (h.alloc c).1.next = h.next + 1 ∧
    ∀ a, a < h.next → (h.alloc c).1.cells a = h.cells a := by
  refine ⟨rfl, rfl, fun a ha => ?_⟩
  have : a ≠ h.next := Nat.ne_of_lt ha
  simp [Heap.alloc, this]

theorem builder_world_separated {C : Type} (cols : List (Bytes × C)) : Sep (initWorld cols) :=
  sep_init cols

/-- C15, the template: after ANY interleaving of row operations (create, clone, import in
    place, set, drop — successful or not, whatever the contents) the prototype row object and
    the content of its cells are what the builder made. -/
theorem template_changes_only_through_builder {C : Type} (cols : List (Bytes × C)) (ops : List (Op C)) :
    content (run (initWorld cols) ops).heap (run (initWorld cols) ops).proto =
      cols.map fun e => (e.1, some e.2) :=
  template_content_init cols ops

/-- … hence what the template produces afterwards is unchanged: a row created after any
    history has exactly the cloned content of the declared columns. -/
theorem template_product_unchanged {C : Type} (cols : List (Bytes × C)) (ops : List (Op C)) (clone : C → C) :
    ∃ r, (step (run (initWorld cols) ops) (.createEmpty clone)).rows = (run (initWorld cols) ops).rows ++ [r] ∧
      content (step (run (initWorld cols) ops) (.createEmpty clone)).heap r =
        cols.map fun e => (e.1, some (clone e.2)) := by
  obtain ⟨r, hr, hc⟩ := createEmpty_content_of_disj (disj_run ops (sep_init cols).disj) clone
  exact ⟨r, hr, by rw [hc, template_content_init, cloned_map_some]⟩

/-- C15, the rows: a step changes the content of no live row other than the one it operates
    on (in-place imports included). -/
theorem other_rows_unchanged {C : Type} {w : World C} (h : Sep w) (op : Op C) {j : Nat} {rj : RowObj}
    (hj : w.rows[j]? = some rj) (ht : op.target ≠ some j) :
    content (step w op).heap rj = content w.heap rj :=
  frame_content h.disj op hj ht

theorem other_rows_unchanged_history {C : Type} {w : World C} (h : Sep w) (ops : List (Op C))
    {j : Nat} {rj : RowObj} (hj : w.rows[j]? = some rj) (hops : ∀ op ∈ ops, ¬ op.touches j) :
    (run w ops).rows[j]? = some rj ∧ content (run w ops).heap rj = content w.heap rj :=
  frame_run h.disj ops hj hops

/-- C15, clones: a cloned row can be modified at its top level (imports in place, sets)
    without affecting its source. -/
theorem clone_is_independent {C : Type} {w : World C} (h : Sep w) {i : Nat} {src : RowObj}
    (hi : w.rows[i]? = some src) (clone : C → C) :
    ∃ r, (step w (.cloneLive i clone)).rows = w.rows ++ [r] ∧
      content (step w (.cloneLive i clone)).heap src = content w.heap src ∧
      ∀ ops : List (Op C),
        (∀ op ∈ ops, ∃ k f, op = .importKey w.rows.length k f ∨ op = .setKey w.rows.length k f) →
        content (run (step w (.cloneLive i clone)) ops).heap src = content w.heap src := by
  obtain ⟨r, h1, _, h3, _, h5⟩ := clone_independent h hi clone
  exact ⟨r, h1, h3, fun ops hops => (h5 ops hops).2⟩

/-! The property really depends on cloning: `Alias.bad_createEmpty_breaks_template` (Proofs/Alias.lean)
    is a kernel-evaluated witness that, in the variant where CreateRowEmpty hands out the
    prototype itself, an in-place import into the created row changes the template, and
    `bad_createEmpty_not_sep` that the separation invariant is what fails there. -/

/-! ### Template FAMILIES: templates attached to one another with `WithRow` and extended afterwards
    (`Model/AliasFamily`, `Proofs/AliasFamily`)

  A world of several templates in the heap model, with the builder operations `with_ i name c` and
  `withRow i name j` (template `i` receives a FRESH CLONE of template `j`'s prototype, made at the call), row
  creation and the row mutators of the C15 histories.  `product w i` is what `CreateRowEmpty` of template `i` reads. -/

/-- In every reachable world the cells of distinct templates' prototypes are disjoint, and disjoint from the cells of
    every created row. -/
theorem families_separated {C : Type} (n : Nat) (ops : List (AliasFamily.Op C)) :
    let w := AliasFamily.run (AliasFamily.initWorld C n) ops
    (∀ (i j : Nat) pi pj, w.tmpls[i]? = some pi → w.tmpls[j]? = some pj → i ≠ j →
        ∀ a ∈ AliasFamily.taddrs pi, a ∉ AliasFamily.taddrs pj) ∧
      (∀ p ∈ w.tmpls, ∀ r ∈ w.rows, ∀ a ∈ AliasFamily.taddrs p, a ∉ addrs r) :=
  have inv := AliasFamily.inv_run (AliasFamily.inv_init (C := C) n) ops
  ⟨inv.tmpl_tmpl, inv.tmpl_rows⟩

theorem builder_call_changes_only_its_template {C : Type} {w : AliasFamily.World C} (inv : AliasFamily.Inv w)
    (op : AliasFamily.Op C) {i : Nat} (hop : op.tmplTarget = some i) (k : Nat) (hk : k ≠ i) :
    AliasFamily.product (AliasFamily.step w op) k = AliasFamily.product w k :=
  AliasFamily.builder_changes_only_own inv op hop k hk

/-- Attaching `j` to `i` and THEN anything — builder calls on `j` and on every other template, row creation, row
    mutation — short of a builder call on `i` itself leaves the product of `i` as it was right after the call. -/
theorem attached_template_extended_later {C : Type} {w : AliasFamily.World C} (inv : AliasFamily.Inv w) (i j : Nat)
    (name : Bytes) (clone : C → C) (pack) (ops : List (AliasFamily.Op C))
    (hops : ∀ op ∈ ops, op.tmplTarget ≠ some i) :
    AliasFamily.product (AliasFamily.run w (.withRow i name j clone pack :: ops)) i =
      AliasFamily.product (AliasFamily.step w (.withRow i name j clone pack)) i :=
  AliasFamily.attached_child_any_later_history inv i j name clone pack ops hops

/-- …and extending the parent afterwards does not change the template that was attached to it. -/
theorem parent_extended_later {C : Type} {w : AliasFamily.World C} (inv : AliasFamily.Inv w) {i j : Nat}
    (hij : i ≠ j) (name : Bytes) (clone : C → C) (pack) (ops : List (AliasFamily.Op C))
    (hops : ∀ op ∈ ops, op.tmplTarget = some i) :
    AliasFamily.product (AliasFamily.run w (.withRow i name j clone pack :: ops)) j = AliasFamily.product w j :=
  AliasFamily.parent_extended_later inv hij name clone pack ops hops

theorem rows_never_change_a_template {C : Type} {w : AliasFamily.World C} (inv : AliasFamily.Inv w)
    (ops : List (AliasFamily.Op C))
    (hops : ∀ op ∈ ops, (∃ rop, op = .row rop) ∨ (∃ i clone pack, op = .createFrom i clone pack)) (k : Nat) :
    AliasFamily.product (AliasFamily.run w ops) k = AliasFamily.product w k :=
  AliasFamily.row_mutation_changes_no_template inv ops hops k

/-- Not vacuous, and this is the mechanism: with the WRONG `WithRow` that keeps `sub.empty` itself instead of a clone
    (`AliasFamily.withRowShared`), extending the child afterwards DOES change what the parent produces — kernel-checked
    on a concrete world. -/
theorem shared_prototype_would_leak :
    let w1 := AliasFamily.withRowShared AliasFamily.Witness.w0 0 AliasFamily.Witness.kP 1
    let w2 := AliasFamily.step w1 (.with_ 1 AliasFamily.Witness.kLate 7)
    AliasFamily.product w2 0 ≠ AliasFamily.product w1 0 :=
  AliasFamily.Witness.shared_child_extended_later_changes_parent.2.2


/-! ### Who clones what, read from the source (Proofs/FlowTie) -/

/-- `WithRow` stores a clone of the sub-template's prototype made at the call
    (`withRow`), `CreateRowEmpty` hands out a clone of the prototype, `CreateRow` is the model's
    `createRow` (every branch works on that clone), and `GetExporter` / `GetImporter` keep the
    template itself, not a copy. -/
theorem cloning_is_the_source :
    (∀ (env : Value.Env) (t : Template.Tmpl) (name : Bytes) (fp : Format) (tp : Ty)
        (sub : Template.Tmpl),
      FlowTie.runBuilder env "WithRow" t name fp tp sub = some (Template.withRow env t name sub)) ∧
    Gen.flowTable.createRowEmpty = .cloneOfProto ∧
    (∀ (env : Value.Env) (t : Template.Tmpl) (v : Dyn),
      FlowTie.createRowG Gen.flowTable.createRow env t v = some (Template.createRow env t v)) ∧
    Gen.flowTable.getExporter = .self ∧ Gen.flowTable.getImporter = .self :=
  ⟨FlowTie.withRow_is_withRow, FlowTie.createRowEmpty_as_modelled, FlowTie.createRow_is_createRow,
   FlowTie.getExporter_as_modelled, FlowTie.getImporter_as_modelled⟩

end Jl.C15
