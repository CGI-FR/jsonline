/-
  Props.C03S — SUPPLEMENTARY theorems of property C03: whole member VALUES on the emitted bytes (Proofs/LineValues),
  and the key order when the exporter is handed JSON text (Proofs/ExportText).  Kept apart because the modules that
  prove them import the REGENERATED cast tables, which those of Props/C03.lean do not (the theorems about values
  are stated over `genTables`; `text_route_keys_expected` holds for every `env`): when the translator cannot READ
  a caster, these are reported as not re-proved in the evidence while the core theorems and the correspondence
  still decide the property (DESIGN §4.1).
-/
import Props.C03
import Proofs.LineValues
import Proofs.ExportText

namespace Jl.C03
open Jl Jl.Value Jl.Template

/-! ### Whole VALUES on the emitted bytes: no level is ever re-sorted (`Proofs/LineValues`) -/

open Jl.JsonQuote (sanitize) in
/-- "Objects found under any other column keep their input member order", on the BYTES and at every depth:
    for an accepted line over the regenerated tables, a member whose name NEITHER template declares comes out
    as exactly the JSON value the input held under that name — the last member of that name, and inside it
    every repeated name at its first position with its last value (`LineSpec.normDup`, what the oracle compares
    with; the identity on inputs without repeated names: `LineValues.normDup_unique`) — same member order at
    every depth, arrays included, strings as decoded, number literals verbatim.  The separation hypothesis is
    the one of `emitted_bytes_keys` (no other key of the line is written like `k`). -/
theorem undeclared_member_verbatim (ext : Ext) (ti to : Tmpl) (line b k : Bytes) (v : JV)
    (h : jlLine ⟨genTables, ext⟩ ti to line = .ok (b, none)) (hx : JsonPrint.FloatTextOK ext)
    (hki : k ∉ OMap.keys ti) (hko : k ∉ OMap.keys to)
    (hsep : ∀ k' ∈ OMap.keys to ++ OMap.keys ti ++ Order.inputKeys line,
      sanitize k' = sanitize k → k' = k)
    (hv : LineSpec.lookupJV (LineSpec.normDup (Json.unmarshal line).1) k = some v) :
    ∃ body t, b = body ++ [0x0A] ∧ Json.unmarshal body = (t, true) ∧
      LineSpec.lookupJV t (sanitize k) = some v :=
  LineValues.undeclared_member_verbatim genTables ext ti to line b k v (CastTyped.gen_castTo_none ext)
    h hx hki hko hsep hv

open Jl.JsonQuote (sanitize) in
/-- The same for a name declared as an `auto` column without raw type in BOTH templates. -/
theorem auto_column_verbatim (ext : Ext) (ti to : Tmpl) (line b k : Bytes) (v : JV)
    (ri ro : Dyn) (h : jlLine ⟨genTables, ext⟩ ti to line = .ok (b, none)) (hx : JsonPrint.FloatTextOK ext)
    (hndi : (OMap.keys ti).Nodup) (hndo : (OMap.keys to).Nodup)
    (hci : (k, Val.cell ri .auto .none) ∈ ti) (hco : (k, Val.cell ro .auto .none) ∈ to)
    (hsep : ∀ k' ∈ OMap.keys to ++ OMap.keys ti ++ Order.inputKeys line,
      sanitize k' = sanitize k → k' = k)
    (hv : LineSpec.lookupJV (LineSpec.normDup (Json.unmarshal line).1) k = some v) :
    ∃ body t, b = body ++ [0x0A] ∧ Json.unmarshal body = (t, true) ∧
      LineSpec.lookupJV t (sanitize k) = some v :=
  LineValues.auto_column_verbatim genTables ext ti to line b k v ri ro (CastTyped.gen_castTo_none ext)
    h hx hndi hndo hci hco hsep hv

open Jl.JsonQuote (sanitize) in
/-- In the oracle's words: the last clause of `LineSpec.orderViolation` ("undeclared-value-reshaped", shown
    to be that clause by `LineValues.orderViolation_succ`) finds nothing on the model's line, for templates
    whose input names are all output names and whose output names the escaper leaves alone. -/
theorem undeclared_values_never_reshaped (ext : Ext) (ti to : Tmpl) (line b : Bytes)
    (h : jlLine ⟨genTables, ext⟩ ti to line = .ok (b, none)) (hx : JsonPrint.FloatTextOK ext)
    (hsub : ∀ k ∈ OMap.keys ti, k ∈ OMap.keys to)
    (hfix : ∀ k ∈ OMap.keys to, sanitize k = k) :
    ∃ body t, b = body ++ [0x0A] ∧ Json.unmarshal body = (t, true) ∧
      LineValues.undeclaredClause (LineLevel.leafCols to) (LineSpec.normDup (Json.unmarshal line).1) t false
        = none :=
  LineValues.undeclared_clause_none ext ti to line b h hx hsub hfix

/-- Why the statement is about `normDup` of the input and not the raw reader value: a name repeated INSIDE
    an undeclared object is imported into its first occurrence (`{"z":{"a":1,"b":2,"a":3}}` comes out with
    `"z":{"a":3,"b":2}`) — kernel-checked on the whole pipeline. -/
theorem repeated_name_inside_undeclared_object :
    jlLine LineValues.Dup.env LineValues.Dup.tmpl LineValues.Dup.tmpl LineValues.Dup.line =
      .ok (LineValues.Dup.out ++ [0x0A], none) ∧
    LineSpec.lookupJV (Json.unmarshal LineValues.Dup.line).1 [0x7A] = some LineValues.Dup.zRaw ∧
    ∃ t, Json.unmarshal LineValues.Dup.out = (t, true) ∧
      LineSpec.lookupJV t [0x7A] = some LineValues.Dup.zNorm ∧ LineValues.Dup.zNorm ≠ LineValues.Dup.zRaw := by
  -- every hypothesis of `undeclared_member_verbatim` holds, and the member it finds under `z` is `zNorm`
  obtain ⟨t, hu, hl⟩ := LineLevel.of_body
    (LineValues.undeclared_member_verbatim genTables Ext.empty LineValues.Dup.tmpl LineValues.Dup.tmpl
      LineValues.Dup.line _ [0x7A] LineValues.Dup.zNorm (CastTyped.gen_castTo_none _) LineValues.Dup.jlLine_line
      LineValues.Demo.floatOK (by decide) (by decide) LineValues.Dup.separated LineValues.Dup.input_z)
  exact ⟨LineValues.Dup.jlLine_line, by decide +kernel, t, hu, LineValues.Demo.sanitize_z ▸ hl, by decide⟩

/-! ### The text route (`Exporter.Export` / `CreateRow` given JSON text): the same key order (`Proofs/ExportText`) -/

open Jl.JsonQuote (sanitize) in
/-- For text handed straight to `Export`: the member names of the emitted line are, in the oracle's words, the
    template's visible columns in declaration order and then the text's other names in order of first appearance. -/
theorem text_route_keys_expected (env : Env) (to : Tmpl) (line b : Bytes)
    (h : exportLine env to (.str line) = .ok (b, none)) (hx : JsonPrint.FloatTextOK env.ext)
    (hto : (OMap.keys to).Nodup) :
    ∃ body t, b = body ++ [0x0A] ∧ Json.unmarshal body = (t, true) ∧
      LineSpec.keysOf t =
        (LineSpec.expectedKeys (LineLevel.leafCols to) (LineSpec.keysOf (Json.unmarshal line).1)).map
          sanitize :=
  ExportText.text_bytes_keys_expected env to line b h hx hto

end Jl.C03
