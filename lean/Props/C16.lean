/-
  C16 — a line is accepted iff it is exactly one valid JSON object.

  Statement (properties.jsonl): a line is accepted if and only if it is exactly one
  syntactically valid JSON object, optionally surrounded by whitespace, whose declared columns
  convert; any other text — invalid JSON, a non-object value, trailing content after the
  object, a truncated object, an empty line — is rejected with an error.  A rejected line
  yields no output line and no partially filled row.

  Model: Model.JsonRead (json.Decoder in token mode + row.go's parser), Model.Value
  (import into declared columns), Model.Template.getRow / jlLine.  Specification:
  Model.JsonGrammar (RFC 8259 at byte level).

  Of the last sentence the theorems cover "no output line" (`rejected_line_writes_nothing`).  "No
  partially filled row" is not a statement about the model: `Template.getRow` returns the row it
  was filling beside the error (`.ok (row, some e)`), whereas `GetRow` in Go returns `nil, err`;
  that clause is left to the harness (lib/props.py, rule of C16: "a rejected line returns a nil row").
-/
import Model.Template
import Model.JsonGrammar
import Proofs.JsonAccept
import Proofs.Bind
import Proofs.FlowTieImport
import Proofs.RowTieText

namespace Jl.C16
open Jl Jl.Value Jl.Template

/-- A line whose text is not accepted by the reader is reported as an error, whatever the
    template: acceptance of the row requires acceptance of the text. -/
theorem syntax_error_reported (env : Env) (row : List (Bytes × Val)) (text : Bytes)
    (o : List (Bytes × Val)) (h : unmarshalInto env row text = .ok (o, none)) :
    Json.accepts text = true := by
  simp only [unmarshalInto_eq, Outcome.bind_eq_ok, Outcome.ok.injEq, afterParse, Prod.mk.injEq] at h
  obtain ⟨_, _, ⟨_, e⟩, _, _, he⟩ := h
  -- no error is reported only if the member loop left none and the text was accepted
  cases e with
  | some e => cases he
  | none => simpa [Json.accepts] using he

/-- A rejected line yields no output line: nothing is handed to the writer. -/
theorem rejected_line_writes_nothing (env : Env) (ti to : Tmpl) (line : Bytes)
    (row : List (Bytes × Val)) (e : ErrClass) (h : getRow env ti line = .ok (row, some e)) :
    jlLine env ti to line = .ok ([], some e) := by
  rw [jlLine_eq, h]; rfl

/-- C16, the equivalence: for EVERY byte string, the reader accepts the text if and only if it
    is exactly one RFC 8259 JSON object optionally surrounded by whitespace (both directions;
    completeness includes that the parser's fuel suffices). -/
theorem accepted_iff_one_json_object (bs : Bytes) :
    Json.accepts bs = true ↔ Grammar.IsObjectText bs :=
  JsonAcc.accepts_iff bs

/-- … so every other text is rejected: invalid JSON, a non-object value, trailing content,
    a truncated object, an empty or blank line. -/
theorem rejected_iff_not_one_json_object (bs : Bytes) :
    Json.accepts bs = false ↔ ¬ Grammar.IsObjectText bs :=
  JsonAcc.rejects_iff bs

/-- With a template: a line is accepted only if its text is one JSON object (and then its
    declared columns converted: `unmarshalInto` returned no error). -/
theorem accepted_row_implies_object_text (env : Env) (row o : List (Bytes × Val)) (text : Bytes)
    (h : unmarshalInto env row text = .ok (o, none)) : Grammar.IsObjectText text :=
  (JsonAcc.accepts_iff text).mp (syntax_error_reported env row text o h)

/-! Rejections and acceptances by kernel evaluation of the reader model on the texts named
    in the property (examples, not the theorem: the equivalence with the grammar for every
    byte string is `JsonAcc.accepts_iff`, Proofs/JsonAccept.lean). -/
example : Json.accepts [] = false := by decide +kernel                                   -- empty line
example : Json.accepts [0x20] = false := by decide +kernel                               -- blank line
example : Json.accepts [0x7B, 0x7D] = true := by decide +kernel                          -- {}
example : Json.accepts [0x20, 0x7B, 0x20, 0x7D, 0x20] = true := by decide +kernel        -- " { } "
example : Json.accepts [0x5B, 0x31, 0x5D] = false := by decide +kernel                   -- [1]: not an object
example : Json.accepts [0x31] = false := by decide +kernel                               -- 1
example : Json.accepts [0x7B, 0x7D, 0x7B, 0x7D] = false := by decide +kernel             -- {}{}: trailing content
example : Json.accepts [0x7B, 0x7D, 0x20, 0x78] = false := by decide +kernel             -- {} x
example : Json.accepts [0x7B] = false := by decide +kernel                               -- {: truncated
example : Json.accepts [0xEF, 0xBB, 0xBF, 0x7B, 0x7D] = false := by decide +kernel       -- BOM

/-! ### The reader of the model is the source's (Proofs/FlowTieImport, Proofs/RowTieText) -/

/-- As written today: `GetRow` is the model's `getRow`; `UnmarshalJSON` reads numbers as literals
    (`UseNumber`), wants `{`, the members through `parseobject` until `}`, and then ONLY the end of
    the input; nested objects and arrays go element by element through `handledelim`. -/
theorem reader_model_is_the_source :
    (∀ (env : Value.Env) (t : Template.Tmpl) (line : Bytes),
      FlowTie.getRowG Gen.flowTable.getRow Gen.flowTable.createRowEmpty env t line =
        some (Template.getRow env t line)) ∧
    Gen.rowFacts.unmarshal = [.newDecoder true, .openDelim 0x7B, .members "parseobject", .onlyEOF] ∧
    (∃ k, Gen.rowFacts.parseObject = .whileMore "handledelim" k 0x7D) ∧
    Gen.rowFacts.parseArray = .whileMore "handledelim" 0x5D :=
  ⟨FlowTie.getRow_is_getRow, RowTie.unmarshal_as_modelled.1, RowTie.unmarshal_as_modelled.2.1,
   RowTie.unmarshal_as_modelled.2.2.1⟩

end Jl.C16
