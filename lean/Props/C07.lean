/-
  C07 — streaming gives one in-order outcome per line, independent of neighbours.

  Statement (properties.jsonl): streaming N input lines produces exactly one outcome per
  line, in input order — either one output line or one error delivered to the processor — so
  no line is dropped, duplicated, merged or reordered, for any mix of valid and invalid lines,
  any line-ending style and any line length below the 10 MB limit.  The outcome for a line
  depends only on that line and the templates, never on the lines that came before it.

  Specification: `Stream.specObs cfg bytes` = `foldOutcomes proc ((specLines bytes).map
  (lineOutcome cfg))` — independence from neighbours is the *form* of the right-hand side:
  `lineOutcome` is a function of the line and the two templates only.
-/
import Model.Stream
import Proofs.Stream
import Proofs.FlowTieStream
import Proofs.FlowTieImport

namespace Jl.C07
open Jl Jl.Scanner Jl.Stream

/-- One outcome per line, in order: a written line is one processor call `(true, nil)` and one write, and
    the fold goes on while the processor returns no error. -/
theorem fold_written (proc : Proc) (b : Bytes) (rest : List LineOutcome) (obs : Obs)
    (h : proc.result obs.calls.length none = none) :
    foldOutcomes proc (.written b :: rest) obs =
      foldOutcomes proc rest { obs with calls := obs.calls ++ [(true, none)], writes := obs.writes ++ [b] } := by
  simp [foldOutcomes, h]

theorem fold_import_error_tolerated (proc : Proc) (e : ErrClass) (rest : List LineOutcome) (obs : Obs)
    (h : proc.result obs.calls.length (some e) = none) :
    foldOutcomes proc (.importError e :: rest) obs =
      foldOutcomes proc rest { obs with calls := obs.calls ++ [(false, some e)] } := by
  simp [foldOutcomes, h]

/-- The tolerant processor never stops the stream: every line gets its outcome. -/
theorem tolerant_processes_every_line (os : List LineOutcome) (obs : Obs) (h : obs.ret = none) :
    (foldOutcomes .tolerant os obs).ret = none := by
  induction os generalizing obs with
  | nil => simpa [foldOutcomes] using h
  | cons o rest ih =>
    cases o <;> simp [foldOutcomes, Proc.result] <;> exact ih _ h

/-- Line splitting: LF and CRLF give the same lines; a final unterminated run counts. -/
example : specLines [0x61, 0x0A, 0x62, 0x0D, 0x0A, 0x63] = [[0x61], [0x62], [0x63]] := by decide +kernel
example : specLines [0x61, 0x0A] = [[0x61]] := by decide +kernel
example : specLines [0x0A, 0x0A] = [[], []] := by decide +kernel

/-- The scanner is chunk-independent and loses, duplicates, merges or reorders nothing: for a
    fault-free reader (any chunking, up to 100 consecutive empty reads) whose lines fit the
    limit, iterating `Scan` yields exactly the lines of the concatenated data, in order. -/
theorem scanner_yields_the_lines (i m : Nat) (reader : List ReadEv)
    (hcalm : Calm 100 reader) (hfit : LinesFit m (allData reader))
    (hle : i ≤ m) (hpow : m ≤ i * 2 ^ 200) :
    ScansAs i m (Scanner.init i reader) (specLines (allData reader)) :=
  A4_chunk_independence i m reader hcalm hfit hle hpow

/-- C07: for a fault-free reader and writer, `Stream()` is exactly the per-line outcomes
    (functions of the line and the templates only) folded through the processor, in input
    order — whatever the chunking, the line endings and the mix of valid and invalid lines.
    (`hmap`: every line's outcome is a real outcome — not the model's "stdlib answer missing"
    marker; the size hypothesis `maxSize ≤ initSize·2^200` holds for 64 KiB → 10 MiB.) -/
theorem stream_is_fold_of_line_outcomes (cfg : Cfg) (reader : List ReadEv) (ws : List WriteEv)
    (hcalm : Calm 100 reader) (hfit : LinesFit cfg.maxSize (allData reader))
    (hle : cfg.initSize ≤ cfg.maxSize) (hpow : cfg.maxSize ≤ cfg.initSize * 2 ^ 200)
    (hws : ∀ w ∈ ws, w = WriteEv.ok) (os : List LineOutcome)
    (hmap : mapOutcomes cfg (specLines (allData reader)) = .ok os) :
    stream cfg reader ws = specObs cfg (allData reader) :=
  C07_stream_eq_spec cfg reader ws hcalm hfit hle hpow hws os hmap

/-- The sizes of the source satisfy the size hypothesis (64 KiB doubles 8 times into 10 MiB). -/
example : (10485760 : Nat) ≤ 65536 * 2 ^ 200 ∧ (65536 : Nat) ≤ 10485760 := by decide +kernel

/-! ### The loop of the model is `streamer.go` (Proofs/FlowTieStream, Proofs/FlowTieImport) -/

/-- `Stream`'s loop, as read from `streamer.go`, makes the four processor calls `Stream.loop` records —
    `(false, e)` for a refused line, `(true, nil)` for a row, `(true, e)` for a failed export,
    `(false, e)` for the scanner's error after the loop, whose result is `Stream`'s —; the two
    processors are `Proc.default` and `Proc.tolerant`; the scanner is built with the buffer sizes
    of `Gen.Sites` and no `Split` call. -/
theorem stream_model_is_the_source :
    (∃ onRowErr onRow onExportErr after rowWithErr w,
      Gen.flowTable.stream = .loop onRowErr onRow onExportErr (.errHandover after)
      ∧ Gen.flowTable.getRow = .scannerErrThenParse rowWithErr w
      ∧ onRowErr.recorded rowWithErr true = (false, true)
      ∧ onRow.recorded rowWithErr false = (true, false)
      ∧ onExportErr.recorded rowWithErr false = (true, true)
      ∧ after.recorded rowWithErr false = (false, true)) ∧
    (FlowTie.procG Gen.flowTable.defaultProcessor = some .default
      ∧ FlowTie.procG Gen.flowTable.noFailureProcessor = some .tolerant) ∧
    Gen.flowTable.newImporter = .scanner 0 Gen.initialBufferSize Gen.maximumBufferSize :=
  ⟨FlowTie.stream_calls_as_modelled,
   ⟨FlowTie.processors_as_modelled.1, FlowTie.processors_as_modelled.2.1⟩,
   FlowTie.scanner_sizes.1⟩

end Jl.C07
