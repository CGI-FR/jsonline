/-
  C18 — dotted-path access agrees with key-by-key navigation, built or parsed.

  Statement (properties.jsonl): looking up a dotted path in a row returns the same value as
  descending key by key through the nested objects, whether the row was built
  programmatically or parsed from JSON text; a path with a missing segment reports absence,
  and importing at a path changes exactly the addressed value.  Searching a path across
  arrays of objects returns the addressed value of every element that has it, in document
  order.

  Model: Model.Path (GetValueAtPath / FindValuesAtPath / ImportAtPath as row.go writes them,
  over rows in which a nested row is either a bare row cell or an Auto cell wrapping a row).
  Specification: `navigate` (repeated GetValue), `collect`.  Keys containing `.` are not
  addressable by a dotted path (DESIGN.md §10).
-/
import Model.Path
import Proofs.PathWalk
import Proofs.RowTieText

namespace Jl.C18
open Jl Jl.Value Jl.Path

/-- Splitting a joined path gives back the keys, when no key contains a dot. -/
theorem split_join (ks : List Bytes) (hne : ks ≠ []) (hnd : ∀ k ∈ ks, (0x2E : UInt8) ∉ k) :
    splitDots (joinDots ks) = ks := by
  -- a dot-free key in front of a text joins the text's first segment
  have key : ∀ (k : Bytes), (0x2E : UInt8) ∉ k → ∀ rest : Bytes, ∀ tl : List Bytes, ∀ hd : Bytes,
      splitDots rest = hd :: tl → splitDots (k ++ rest) = (k ++ hd) :: tl := by
    intro k hk
    induction k with
    | nil => intro rest tl hd h; exact h
    | cons c k ih =>
      intro rest hd tl h
      have hc : c ≠ 0x2E := fun e => hk (e ▸ List.mem_cons_self)
      simp only [List.cons_append, splitDots, beq_iff_eq, hc, if_false,
        ih (fun m => hk (List.mem_cons_of_mem _ m)) rest hd tl h]
  induction ks with
  | nil => exact absurd rfl hne
  | cons k rest ih =>
    have hk := key k (hnd k List.mem_cons_self)
    cases rest with
    | nil => simpa [joinDots] using hk [] [] [] rfl
    | cons k2 rest2 =>
      have ih' := ih (List.cons_ne_nil _ _) (fun x hx => hnd x (List.mem_cons_of_mem _ hx))
      have h2 : splitDots (0x2E :: joinDots (k2 :: rest2)) = [] :: (k2 :: rest2) :=
        congrArg ([] :: ·) ih'
      simpa [joinDots] using hk _ _ _ h2

/-- Path lookup is key-by-key navigation, for every row (built or parsed, any mixture of the
    two representations of nested rows) and every list of keys. -/
theorem get_is_navigation (row : List (Bytes × Val)) (ks : List Bytes) :
    getValueAtKeys row ks = navigate row ks := by
  induction ks generalizing row with
  | nil => rfl
  | cons k rest ih =>
    cases rest with
    | nil => rfl
    | cons k2 rest2 =>
      simp only [getValueAtKeys, navigate]
      cases lookup row k with
      | none => rfl
      | some v =>
        simp only [Option.bind]
        cases asRow v with
        | none => rfl
        | some sub => exact ih sub

/-- `strings.Split` never returns an empty list: every path, the empty one included, has a first segment. -/
theorem split_never_empty (p : Bytes) : splitDots p ≠ [] :=
  splitDots_ne_nil p

/-- Joining what a path splits into gives back the path — for EVERY path (no hypothesis): with `split_join` the two
    functions are a bijection between paths and non-empty lists of dot-free segments, so every path names exactly one
    chain of keys and every such chain is named by exactly one path. -/
theorem join_split (p : Bytes) : joinDots (splitDots p) = p := by
  refine splitDots_rec (P := fun p ks => joinDots ks = p) rfl (fun rest ks hne ih => ?_)
    (fun c rest k ks _ ih => ?_) p
  · cases ks with
    | nil => exact absurd rfl hne
    | cons k ks => exact congrArg (0x2E :: ·) ih
  · cases ks <;> exact congrArg (c :: ·) ih

theorem split_segments_have_no_dot (p : Bytes) : ∀ k ∈ splitDots p, (0x2E : UInt8) ∉ k := by
  refine splitDots_rec (P := fun _ ks => ∀ k ∈ ks, (0x2E : UInt8) ∉ k) ?_ (fun rest ks _ ih => ?_)
    (fun c rest k ks hc ih => ?_) p
  · intro k hk
    rw [List.mem_singleton.mp hk]
    exact List.not_mem_nil
  · intro k hk
    rcases List.mem_cons.mp hk with rfl | hk
    · exact List.not_mem_nil
    · exact ih k hk
  · intro k' hk'
    rcases List.mem_cons.mp hk' with rfl | hk'
    · intro hm
      rcases List.mem_cons.mp hm with e | hm
      · exact hc e.symm
      · exact ih k List.mem_cons_self hm
    · exact ih k' (List.mem_cons_of_mem _ hk')

/-- C18, lookup: a dotted path returns what key-by-key navigation returns. -/
theorem path_lookup_is_navigation (row : List (Bytes × Val)) (ks : List Bytes) (hne : ks ≠ [])
    (hnd : ∀ k ∈ ks, (0x2E : UInt8) ∉ k) :
    getValueAtPath row (joinDots ks) = navigate row ks := by
  rw [getValueAtPath, split_join ks hne hnd, get_is_navigation]

/-- C18, lookup, for EVERY path text: what `GetValueAtPath` returns is key-by-key navigation along the path's own
    segments (and those segments are the unique dot-free chain the path names). -/
theorem every_path_is_navigation (row : List (Bytes × Val)) (p : Bytes) :
    getValueAtPath row p = navigate row (splitDots p) ∧ joinDots (splitDots p) = p ∧
      splitDots p ≠ [] ∧ ∀ k ∈ splitDots p, (0x2E : UInt8) ∉ k :=
  ⟨by rw [getValueAtPath, get_is_navigation], join_split p, split_never_empty p,
   split_segments_have_no_dot p⟩

example : splitDots [0x61, 0x2E, 0x2E, 0x62, 0x2E] = [[0x61], [], [0x62], []] ∧
    joinDots [[0x61], [], [0x62], []] = [0x61, 0x2E, 0x2E, 0x62, 0x2E] := by decide +kernel

/-- A missing segment at any depth reports absence. -/
theorem missing_segment_is_absent (row : List (Bytes × Val)) (k : Bytes) (rest : List Bytes)
    (h : lookup row k = none) : navigate row (k :: rest) = none := by
  cases rest <;> simp [navigate, h]

/-- A path that continues below a value that is not a row reports absence (it does not
    return that value). -/
theorem below_scalar_is_absent (row : List (Bytes × Val)) (k k2 : Bytes) (rest : List Bytes) (v : Val)
    (h : lookup row k = some v) (hs : asRow v = none) : navigate row (k :: k2 :: rest) = none := by
  simp [navigate, h, hs]

/-- `FindValuesAtPath` is the document-order collection through rows and arrays of objects —
    for every document, every array length and every path (the model of the function and the
    specification coincide; the function itself is tied to row.go by the correspondence check). -/
theorem find_is_collection (fuel : Nat) (row : List (Bytes × Val)) (keys : List Bytes) :
    findValues fuel row keys = collect fuel row keys := by
  induction fuel generalizing row keys with
  | zero => cases keys <;> rfl
  | succ n ih =>
    match keys with
    | [] => rfl
    | [k] => rfl
    | k :: k2 :: rest =>
      have ih' : findValues n = collect n := funext fun r => funext fun ks => ih r ks
      simp only [findValues, collect, ih']
      cases lookup row k <;> rfl

/-- Importing at a path touches exactly the addressed top-level entry: every other key keeps
    its value, and no key is added, dropped or moved. -/
theorem import_touches_only_addressed (env : Env) (row row' : List (Bytes × Val)) (k : Bytes)
    (rest : List Bytes) (x : Dyn) (e : Option ErrClass)
    (h : importAtKeys env row (k :: rest) x = .ok (row', e)) :
    (∀ k', k' ≠ k → lookup row' k' = lookup row k') ∧ OMap.keys row' = OMap.keys row := by
  rcases importAtKeys_inv (List.cons_ne_nil _ _) h with ⟨_, rfl, _⟩ | ⟨_, v', _, _, rfl⟩
  · exact ⟨fun _ _ => rfl, rfl⟩
  · exact put_first_level row k rest v'

/-! ### The path functions of the model are the source's (Proofs/RowTieText) -/

/-- As written today: a path is split on `.`, each segment is looked up with `GetValue`, descent
    goes through `asRow` (a row, or a cell whose raw value is one); `GetAtPath` is the raw value
    of `GetValueAtPath`. -/
theorem path_model_is_the_source :
    Gen.rowFacts.getValueAtPath = .splitDescend "." "GetValue" "asRow"
    ∧ Gen.rowFacts.findValuesAtPath = .firstKeyThenRowOrArrayOfRows "." "GetValue" "asRow"
    ∧ Gen.rowFacts.asRow = .rowOrRawRow
    ∧ Gen.rowFacts.readers.lookup "GetValue" = some .mapValue
    ∧ Gen.rowFacts.readers.lookup "GetAtPath" = some (.rawOf "GetValueAtPath") :=
  RowTie.path_as_modelled

end Jl.C18
