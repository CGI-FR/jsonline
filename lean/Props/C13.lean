/-
  C13 — typed columns survive write-then-read through JSON with value and type intact.

  Statement (properties.jsonl): for every column whose format and raw type form a lossless
  pairing, writing a raw value to a JSON line and reading that line back through the same
  template yields a raw value equal to the original and of the same Go type, for every value
  of that type.  Times are compared as instants at one-second resolution.

  The first theorems are stated at the level of one cell: `exportVal` gives the exported Go value
  `e`; its JSON image is read back by the reader as `e`'s own tree (C02 `read_of_written`:
  strings after `sanitize`, the identity on the ASCII texts involved here; numbers by their
  literal text); `importCell` of that value under the same (format, raw type) gives back the
  original raw value with the original type.  Proved for every value of the type:
    Proofs/RowCells  string / numeric / binary x the ten integer types; string(bool)
    Proofs/Pairings boolean(bool); timestamp x integers and none; string / auto x string (valid UTF-8);
                    numeric / auto / string x json.Number (valid literal); binary x []byte, none,
                    string, json.Number, bool, floats (bit-exact), time.Time; datetime(time|none)
                    and string(time) (same second, same offset); numeric / timestamp x time.Time
                    (same instant, for every zone function); numeric / timestamp / binary x bool;
                    auto x integers and bool; string / numeric x floats GIVEN strconv's answers
  (`Pairings.text_f64`, `text_f32`: the shortest rendering and its correctly rounded parse are
  strconv's, hypotheses there).  What remains judged by the oracle only: auto x floats / times,
  string x floats without the strconv hypothesis, boolean(none) from non-bool JSON.
-/
import Model.Tables
import Model.Value
import Proofs.Pairings
import Proofs.RowRoundTrip
import Proofs.RowRoundTripN
import Proofs.ValueTie
import Proofs.RowTieMarshal
import Proofs.RowTieText
import Proofs.FlowTieExport
import Proofs.FlowTieImport

namespace Jl.C13
open Jl Jl.Value Jl.JsonQuote Cast


/-- The table itself: which (format, raw type) pairings are claimed lossless (85, over the model's ten
    integer types, the seven without raw type included). -/
example : Tables.lossless .string (.int .i8) = true ∧ Tables.lossless .boolean (.int .i8) = false ∧
    Tables.lossless .date .none = false ∧ Tables.lossless .timestamp .f64 = false := by decide

/-- string(INT): written as the decimal text, read back as the same integer of the same type. -/
theorem string_int (ext : Ext) (t : IntTy) (v : Int) (hv : t.inRange v) :
    exportVal ⟨genTables, ext⟩ (.cell (.int t v) .string (.int t)) = .ok (.str (IntText.formatInt v)) ∧
    importCell ⟨genTables, ext⟩ .string (.int t) (.str (IntText.formatInt v)) =
      .ok (.cell (.int t v) .string (.int t), none) :=
  RowRoundTrip.string_int ext t v hv

/-- numeric(INT): written as the number literal, read back exactly. -/
theorem numeric_int (ext : Ext) (t : IntTy) (v : Int) (hv : t.inRange v) :
    exportVal ⟨genTables, ext⟩ (.cell (.int t v) .numeric (.int t)) = .ok (.num (IntText.formatInt v)) ∧
    importCell ⟨genTables, ext⟩ .numeric (.int t) (.num (IntText.formatInt v)) =
      .ok (.cell (.int t v) .numeric (.int t), none) :=
  RowRoundTrip.numeric_int ext t v hv

/-- binary(INT): written as the base64 of the little-endian image, read back exactly. -/
theorem binary_int (ext : Ext) (t : IntTy) (v : Int) (hv : t.inRange v) :
    exportVal ⟨genTables, ext⟩ (.cell (.int t v) .binary (.int t)) =
      .ok (.str (Base64.encode (LE.put (t.bits / 8) (LE.toU t.bits v)))) ∧
    importCell ⟨genTables, ext⟩ .binary (.int t)
        (.str (Base64.encode (LE.put (t.bits / 8) (LE.toU t.bits v)))) =
      .ok (.cell (.int t v) .binary (.int t), none) :=
  RowRoundTrip.binary_int ext t v hv

theorem bool_columns (ext : Ext) (b : Bool) :
    exportVal ⟨genTables, ext⟩ (.cell (.bool b) .boolean .bool) = .ok (.bool b) ∧
    importCell ⟨genTables, ext⟩ .boolean .bool (.bool b) = .ok (.cell (.bool b) .boolean .bool, none) ∧
    exportVal ⟨genTables, ext⟩ (.cell (.bool b) .string .bool) = .ok (.str (IntText.formatBool b)) ∧
    importCell ⟨genTables, ext⟩ .string .bool (.str (IntText.formatBool b)) =
      .ok (.cell (.bool b) .string .bool, none) :=
  ⟨(Pairings.boolean_bool ext b).1, (Pairings.boolean_bool ext b).2,
   (RowRoundTrip.string_bool ext b).1, (RowRoundTrip.string_bool ext b).2⟩

/-! ### Headline statements on the property's own terms (`Tables.inDomain`, `Tables.sameValue`) -/

/-- Date-time and string columns holding a time: for every time of the domain the text written is read
    back as the same one-second instant (and offset) — whatever the process zone. -/
theorem time_text_columns (ext : Ext) (t : GoTime) (f : Format) (ty : Ty)
    (hf : (f = .datetime ∧ (ty = .time ∨ ty = .none)) ∨ (f = .string ∧ ty = .time))
    (hd : Tables.inDomain f ty (.time t) = true) :
    ∃ e v', exportVal ⟨genTables, ext⟩ (.cell (.time t) f ty) = .ok (.str e) ∧
      importCell ⟨genTables, ext⟩ f ty (.str e) = .ok (.cell v' f ty, none) ∧
      Tables.sameValue (.time t) v' = true ∧ Tables.lossless f ty = true := by
  obtain ⟨hy0, hy1, h60, hlo, hhi⟩ := Pairings.time_inDomain f ty t hd
  obtain ⟨a, b⟩ := Pairings.datetime_time ext t hy0 hy1 h60 hlo hhi
  obtain c := Pairings.string_time ext t hy0 hy1 h60 hlo hhi
  rcases hf with ⟨rfl, rfl | rfl⟩ | ⟨rfl, rfl⟩
  · exact ⟨_, _, a.1, a.2, Pairings.sameValue_time rfl, by decide⟩
  · exact ⟨_, _, b.1, b.2, Pairings.sameValue_time rfl, by decide⟩
  · exact ⟨_, _, c.1, c.2, Pairings.sameValue_time rfl, by decide⟩

/-- Numeric and timestamp columns holding a time: the Unix second written is read back as the same
    instant, for every zone function that answers at that second. -/
theorem time_number_columns (ext : Ext) (t : GoTime) (off : Int) (hz : ext.zoneOffset t.sec = some off)
    (f : Format) (hf : f = .numeric ∨ f = .timestamp)
    (hd : Tables.inDomain f .time (.time t) = true) :
    ∃ e v', exportVal ⟨genTables, ext⟩ (.cell (.time t) f .time) = .ok e ∧
      (e = .num (IntText.formatInt t.sec) ∨ e = .int .i64 t.sec) ∧
      importCell ⟨genTables, ext⟩ f .time (.num (IntText.formatInt t.sec)) = .ok (.cell v' f .time, none) ∧
      Tables.sameValue (.time t) v' = true ∧ Tables.lossless f .time = true := by
  obtain ⟨hy0, hy1, _, hlo, hhi⟩ := Pairings.time_inDomain f .time t hd
  obtain ⟨a, b⟩ := Pairings.numeric_time ext t off hz (Time.sec_bounds_of_year t hy0 hy1 hlo hhi)
  rcases hf with rfl | rfl
  · exact ⟨_, _, a.1, .inl rfl, a.2, Pairings.sameValue_time rfl, by decide⟩
  · exact ⟨_, _, b.1, .inr rfl, b.2, Pairings.sameValue_time rfl, by decide⟩

/-- Timestamp columns of every integer type (values up to 2^63-1, as the table says: a larger
    uint64 is rejected at export, `Pairings.toTimestamp_u64_too_big`). -/
theorem timestamp_int (ext : Ext) (t : IntTy) (v : Int) (hv : t.inRange v) (hmax : v ≤ 9223372036854775807) :
    exportVal ⟨genTables, ext⟩ (.cell (.int t v) .timestamp (.int t)) = .ok (.int .i64 v) ∧
    importCell ⟨genTables, ext⟩ .timestamp (.int t) (.num (IntText.formatInt v)) =
      .ok (.cell (.int t v) .timestamp (.int t), none) :=
  Pairings.timestamp_int ext t v hv hmax

/-- Binary columns: every byte string, under []byte, none and string. -/
theorem binary_bytes (ext : Ext) (b : Bytes) :
    (exportVal ⟨genTables, ext⟩ (.cell (.bytes b) .binary .bytes) = .ok (.str (Base64.encode b)) ∧
     importCell ⟨genTables, ext⟩ .binary .bytes (.str (Base64.encode b)) =
       .ok (.cell (.bytes b) .binary .bytes, none)) ∧
    (exportVal ⟨genTables, ext⟩ (.cell (.bytes b) .binary .none) = .ok (.str (Base64.encode b)) ∧
     importCell ⟨genTables, ext⟩ .binary .none (.str (Base64.encode b)) =
       .ok (.cell (.bytes b) .binary .none, none)) :=
  ⟨(Pairings.binary_bytes ext b).1.and, (Pairings.binary_bytes ext b).2.and⟩

/-! ### The whole route: Go value -> row -> JSON line -> row -> raw value (`Proofs/RowRoundTrip`) -/

/-- C13 on the route the property names, for the 69 pairings covered outright: a one-column template
    of the pairing, the row created from the Go value, the line `Export` writes, and the row `GetRow`
    reads from that line through the same template — for every key the reader delivers unchanged and
    every value of the column's Go type (or nil) in the property's domain, the route succeeds and the
    raw value read back is the same value of the same Go type. -/
theorem line_route_lossless (ext : Ext) (key : Bytes) (hk : sanitize key = key)
    (f : Format) (ty : Ty) (hc : (f, ty) ∈ RowRoundTrip.covered) (v : Dyn)
    (hty : v = .nil ∨ typeOf v = RowRoundTrip.valueTy f ty)
    (hd : Tables.inDomain f ty v = true) :
    Tables.lossless f ty = true ∧
    ∃ v', RowRoundTrip.LineRoute ⟨genTables, ext⟩ key f ty v v' ∧ Tables.sameValue v v' = true := by
  obtain ⟨hl, v', hr, hs⟩ := RowRoundTrip.row_lossless_covered ext key hk f ty hc v hty hd
  exact ⟨hl, v', hr.line, hs⟩

/-- The five pairings that go through the process zone or ParseFloat, given answers of the
    standard-library parameter: numeric / timestamp / binary x time.Time, numeric / timestamp x bool. -/
theorem row_route_lossless_ext (ext : Ext) (hzone : ∀ s, ∃ off, ext.zoneOffset s = some off)
    (law : Pairings.DigitLaw ext) (key : Bytes) (hk : sanitize key = key)
    (f : Format) (ty : Ty) (hc : (f, ty) ∈ RowRoundTrip.coveredExt) (v : Dyn)
    (hty : v = .nil ∨ typeOf v = RowRoundTrip.valueTy f ty)
    (hd : Tables.inDomain f ty v = true) :
    Tables.lossless f ty = true ∧ RowRoundTrip.RowLossless ⟨genTables, ext⟩ key f ty v := by
  obtain ⟨hl, hf⟩ := RowRoundTrip.coveredExt_lossless (f, ty) hc
  obtain ⟨v', hp, hs⟩ := RowRoundTrip.gen_pairing_coveredExt ext hzone law f ty hc v hty hd
  exact ⟨hl, v', RowRoundTrip.gen_route ext key hk f ty hf v v' hty hp, hs⟩

/-- Why the domain of string x json.Number asks for well-formed UTF-8: the literal FF goes out as
    "\ufffd" and comes back as U+FFFD, on the whole route, for every `ext`. -/
theorem string_number_needs_utf8 (ext : Ext) (key : Bytes) (hk : sanitize key = key) :
    RowRoundTrip.Route ⟨genTables, ext⟩ key .string .num (.num [0xFF]) (.num [0xEF, 0xBF, 0xBD]) ∧
    Tables.inDomain .string .num (.num [0xFF]) = false :=
  ⟨(RowRoundTrip.string_num_not_lossless ext key hk).2.2.1, by
    simp [Tables.inDomain, Utf8.valid, Utf8.seqLen, JsonWrite.isValidNumber]⟩

/-! ### Templates with ANY number of columns (`Proofs/RowRoundTripN`; `lossless_N` is in `Proofs/RowRoundTrip`) -/

/-- C13 for a template with any number of columns, in the words of the tables.  `t` declares distinct
    names (what every sequence of `With…` calls builds: `templates_built_by_with`), the visible names are
    ones the escaper leaves alone, every visible column is one of the pairings covered outright (`RowRoundTrip.coveredB`), the Go
    map handed to `CreateRow` / `Export` holds under every declared name nil or a value of the column's
    Go type in the property's domain, and names the template does not declare are carried as scalars
    (`ExtrasOK`; nothing is asked when every name is declared).  Then: every visible pairing is in
    `Tables.lossless`; the route create → marshal → create empty → unmarshal and the route
    `Exporter.Export` → `Importer.GetRow` both succeed on the same bytes; the text holds the visible
    names in DECLARATION order whatever the map's order; the row read back holds the declared columns in
    declaration order; every visible column is read back with the same value and the same Go type
    (`Tables.sameValue`; nil for a name the map does not hold); hidden columns come back nil. -/
theorem n_columns_lossless (ext : Ext) (t : Template.Tmpl) (m : DynMap)
    (hnd : (OMap.keys t).Nodup) (hp : RowRoundTripN.Proto t)
    (hkeys : ∀ k ∈ RowPrint.visibleKeys t, sanitize k = k)
    (hcov : ∀ k f ty, (k, Val.cell .nil f ty) ∈ t → f ≠ .hidden → RowRoundTrip.coveredB f ty = true)
    (hm : RowRoundTripN.WellTypedMap t m) (hx : RowRoundTripN.ExtrasOK ⟨genTables, ext⟩ t m) :
    (∀ k f ty, (k, Val.cell .nil f ty) ∈ t → f ≠ .hidden → Tables.lossless f ty = true) ∧
    RowRoundTripN.RowLosslessN ⟨genTables, ext⟩ t m :=
  RowRoundTripN.lossless_N ext t m hnd hp hkeys hcov hm hx

/-- The same with the five pairings that consult the process zone or ParseFloat allowed too. -/
theorem n_columns_lossless_ext (ext : Ext) (hzone : ∀ s, ∃ off, ext.zoneOffset s = some off)
    (law : Pairings.DigitLaw ext) (t : Template.Tmpl) (m : DynMap)
    (hnd : (OMap.keys t).Nodup) (hp : RowRoundTripN.Proto t)
    (hkeys : ∀ k ∈ RowPrint.visibleKeys t, sanitize k = k)
    (hcov : ∀ k f ty, (k, Val.cell .nil f ty) ∈ t → f ≠ .hidden →
      RowRoundTrip.coveredB f ty = true ∨ (f, ty) ∈ RowRoundTrip.coveredExt)
    (hm : RowRoundTripN.WellTypedMap t m) (hx : RowRoundTripN.ExtrasOK ⟨genTables, ext⟩ t m) :
    (∀ k f ty, (k, Val.cell .nil f ty) ∈ t → f ≠ .hidden → Tables.lossless f ty = true) ∧
    RowRoundTripN.RowLosslessN ⟨genTables, ext⟩ t m := by
  refine RowRoundTripN.gen_lossless_N_of_cols ext t m hnd hp hkeys (fun k f ty h1 hv => ?_) hm hx
  rcases hcov k f ty h1 hv with h | h
  · exact ⟨(RowRoundTrip.coveredB_lossless h).1, RowRoundTrip.gen_pairing_covered ext f ty h⟩
  · exact ⟨(RowRoundTrip.coveredExt_lossless (f, ty) h).1,
      RowRoundTrip.gen_pairing_coveredExt ext hzone law f ty h⟩

/-- The two public entry points alone, every name of the map declared: `Export` then `GetRow`. -/
theorem n_columns_line (ext : Ext) (t : Template.Tmpl) (m : DynMap)
    (hnd : (OMap.keys t).Nodup) (hp : RowRoundTripN.Proto t)
    (hkeys : ∀ k ∈ RowPrint.visibleKeys t, sanitize k = k)
    (hcov : ∀ k f ty, (k, Val.cell .nil f ty) ∈ t → f ≠ .hidden → RowRoundTrip.coveredB f ty = true)
    (hm : RowRoundTripN.WellTypedMap t m) (hdecl : ∀ kv ∈ m.toList, kv.1 ∈ OMap.keys t) :
    ∃ bytes r, RowRoundTripN.LineRouteN ⟨genTables, ext⟩ t (.gomap m) bytes r ∧
      Order.inputKeys bytes = RowPrint.visibleKeys t ∧ OMap.keys r = OMap.keys t ∧
      RowRoundTripN.ColumnsSurvive t m r := by
  obtain ⟨_, row, bytes, r, _, h2, _, h4, h5, h6, _⟩ :=
    n_columns_lossless ext t m hnd hp hkeys hcov hm (RowRoundTripN.extrasOK_of_declared _ t m hdecl)
  rw [RowRoundTripN.undeclared_nil_of_declared t _ hdecl] at h4 h5
  exact ⟨bytes, r, h2, by simpa using h4, by simpa using h5, h6⟩

/-- Hidden columns are the reason `Tables.lossless` excludes `hidden(…)`: whatever a hidden column held,
    the row read back holds nil there. -/
theorem hidden_columns_do_not_survive {t : Template.Tmpl} {m : DynMap} {r : List (Bytes × Val)}
    (h : RowRoundTripN.ColumnsSurvive t m r) (k : Bytes) (ty : Ty)
    (hm : (k, Val.cell .nil .hidden ty) ∈ t) (hv : RowRoundTripN.valOf m k ≠ .nil) :
    ∃ v', (Value.lookup r k).map Cells.raw = some v' ∧
      Tables.sameValue (RowRoundTripN.valOf m k) v' = false :=
  RowRoundTripN.hidden_lost h k ty hm hv

/-- The hypotheses "distinct names" and "cell prototypes" are no restriction on templates built by
    `With(name, format, rawtype)` calls, in any number and with repeated names. -/
theorem templates_built_by_with (cols : List (Bytes × Format × Ty)) :
    (OMap.keys (RowRoundTripN.ofCols cols)).Nodup ∧ RowRoundTripN.Proto (RowRoundTripN.ofCols cols) :=
  RowRoundTripN.ofCols_ok cols

/-! ### The model of `value.go` is REGENERATED (`extract/value.go` → `Gen.ValueTable`, `Proofs/ValueTie`)

  `value.Import`, `value.Export`, `NewValue`, `CloneValue` and the fourteen functions of `conversions_import.go` /
  `conversions_export.go` are read from the source on every run (symbolic execution format by format, classified into
  the small syntax of `Model.ValueSyntax`) and interpreted by `Model.ValueGen`.  The theorems of this file are about
  the hand-written `Model.Value`; this one says that `Model.Value` IS that interpretation of today's source, so a
  change of the source (another caster for a format, a layout instead of `cast.ToString`, a dropped nil check, a Row
  accepted by another format, another sentinel, renumbered formats …) stops it from compiling. -/
theorem value_model_is_the_source :
    (Gen.valueTable.known = true ∧ Gen.valueTable.importPreamble = .asModelled ∧
      Gen.valueTable.exportPreamble = .asModelled ∧ Gen.valueTable.newValue = .asModelled ∧
      Gen.valueTable.cloneValue = .asModelled) ∧
    (∀ (env : Value.Env) (f : Format) (typ : Ty) (val : Dyn),
      ValueGen.importByFormatG Gen.valueTable env f typ val = Value.importByFormat env f typ val) ∧
    (∀ (env : Value.Env) (old : Dyn) (f : Format) (typ : Ty) (val : Dyn), f ≠ .bad →
      ValueGen.importCellG Gen.valueTable env old f typ val = Value.importCell env f typ val) ∧
    (∀ (env : Value.Env) (raw : Dyn) (f : Format) (typ : Ty),
      ValueGen.exportCellG Gen.valueTable env raw f = Value.exportVal env (.cell raw f typ)) ∧
    Gen.valueTable.formats = Format.declared.map (fun f => (f.goName, (f.ctorIdx : Int))) :=
  ValueTie.value_as_modelled


/-! ### Reader and writer are the source's (Proofs/RowTieMarshal, RowTieText, FlowTieExport, FlowTieImport)

The property speaks of lines WRITTEN and READ BACK; the code doing both is read from `row.go`,
`exporter.go` and `importer.go` on every run. -/

/-- As written today: `row.MarshalJSON` is the model's `marshalVal`, `Exporter.Export` the model's
    `exportLine` (one `Write`, the separator of `Gen.Sites`), `Importer.GetRow` the model's
    `getRow`, and `UnmarshalJSON` reads numbers as literals, wants `{`, the members until `}` and
    then only the end of the input. -/
theorem reader_and_writer_are_the_source :
    (∀ (env : Value.Env) (ms : Members),
      RowTie.marshalRowG Gen.rowFacts.marshal (RowPrint.marshalVal env) ms.toList =
        some (RowPrint.marshalVal env (.row ms))) ∧
    (∀ (env : Value.Env) (t : Template.Tmpl) (v : Dyn),
      FlowTie.exportG Gen.flowTable.exporterExport env t v = some (Template.exportLine env t v)) ∧
    (∀ (env : Value.Env) (t : Template.Tmpl) (line : Bytes),
      FlowTie.getRowG Gen.flowTable.getRow Gen.flowTable.createRowEmpty env t line =
        some (Template.getRow env t line)) ∧
    Gen.rowFacts.unmarshal = [.newDecoder true, .openDelim 0x7B, .members "parseobject", .onlyEOF] :=
  ⟨RowTie.marshal_as_modelled, FlowTie.export_is_exportLine, FlowTie.getRow_is_getRow,
   RowTie.unmarshal_as_modelled.1⟩

end Jl.C13
