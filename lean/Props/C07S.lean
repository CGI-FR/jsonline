/-
  Props.C07S — supplementary theorems of property C07: the statements of Props/C07.lean carried down to lines,
  columns and bytes over the regenerated cast tables (Proofs/StreamAccept).  They stand apart because they rest on
  the cast tables, which the core statement of C07 does not: when the translator cannot read a caster, these are
  reported as not re-proved while the core theorems still decide the property (DESIGN §4.1).
-/
import Props.C07
import Proofs.StreamAccept

namespace Jl.C07
open Jl Jl.Scanner Jl.Stream

/-! ### What the stream writes, in terms of the lines (Proofs/StreamAccept)

`acceptable cfg l` is C16's acceptance condition made executable (object text, every declared
input column converts, every output column renders); `emitted`, `lineErr` and `lineCalls` are
the line, the error class and the processor calls `jl` has for one line. -/

open Jl.StreamAccept in
/-- Tolerant processing writes the image of exactly the acceptable lines, in input order, makes
    one failed processor call per line that is not acceptable (blank lines included: an empty
    line is not an object) and returns nil — whatever the chunking. -/
theorem tolerant_writes_exactly_the_acceptable_lines (cfg : Cfg) (hp : cfg.proc = .tolerant)
    (reader : List ReadEv) (ws : List WriteEv) (hff : FaultFree cfg reader ws)
    (hset : ∀ l ∈ specLines (allData reader), Settled cfg l) :
    ∃ obs, stream cfg reader ws = .ok obs ∧ obs.ret = none ∧
      obs.writes = ((specLines (allData reader)).filter (acceptable cfg)).map (emitted cfg) ∧
      (obs.calls.filter (fun c => c.2.isSome)).length =
        ((specLines (allData reader)).filter (fun l => !acceptable cfg l)).length ∧
      obs.calls.filterMap (·.2) =
        ((specLines (allData reader)).filter (fun l => !acceptable cfg l)).filterMap (lineErr cfg) :=
  tolerant_writes_exactly_acceptable cfg hp reader ws hff hset

open Jl.StreamAccept in
/-- Independence of the lines: what one line contributes to the output does not depend on the
    lines before or after it — the writes of `pre ++ l ++ "\n" ++ post` are those of `pre`,
    then `l`'s own line if it has one, then those of `post`. -/
theorem a_line_does_not_depend_on_its_neighbours (cfg : Cfg) (hp : cfg.proc = .tolerant)
    (pre l post : Bytes) (hpre : pre = [] ∨ ∃ q, pre = q ++ [0x0A]) (hl : (0x0A : UInt8) ∉ l)
    (reader rpre rpost : List ReadEv) (ws wpre wpost : List WriteEv)
    (hd : allData reader = pre ++ l ++ [0x0A] ++ post)
    (hdpre : allData rpre = pre) (hdpost : allData rpost = post)
    (hff : FaultFree cfg reader ws)
    (hcpre : Calm 100 rpre) (hcpost : Calm 100 rpost)
    (hwpre : ∀ w ∈ wpre, w = WriteEv.ok) (hwpost : ∀ w ∈ wpost, w = WriteEv.ok)
    (hset : ∀ x ∈ specLines (allData reader), Settled cfg x) :
    ∃ obs opre opost, stream cfg reader ws = .ok obs ∧ stream cfg rpre wpre = .ok opre ∧
      stream cfg rpost wpost = .ok opost ∧
      obs.writes = opre.writes ++ (out cfg (dropCR l)).toList ++ opost.writes := by
  have hlines := specLines_around pre l post hpre hl
  have hfpre : FaultFree cfg rpre wpre :=
    ⟨hcpre, by
      rw [hdpre]
      exact hff.fit.infix ⟨[], l ++ [0x0A] ++ post, by rw [hd]; simp⟩,
     hff.le, hff.pow, hwpre⟩
  have hfpost : FaultFree cfg rpost wpost :=
    ⟨hcpost, by
      rw [hdpost]
      exact hff.fit.infix ⟨pre ++ l ++ [0x0A], [], by rw [hd]; simp⟩,
     hff.le, hff.pow, hwpost⟩
  have hspre : ∀ x ∈ specLines (allData rpre), Settled cfg x := by
    intro x hx
    apply hset
    rw [hd, hlines, ← hdpre]
    exact List.mem_append_left _ hx
  have hspost : ∀ x ∈ specLines (allData rpost), Settled cfg x := by
    intro x hx
    apply hset
    rw [hd, hlines, ← hdpost]
    exact List.mem_append_right _ (List.mem_cons_of_mem _ hx)
  obtain ⟨obs, h, _, hw, _⟩ := tolerant_stream cfg hp reader ws hff hset
  obtain ⟨opre, h1, _, hw1, _⟩ := tolerant_stream cfg hp rpre wpre hfpre hspre
  obtain ⟨opost, h2, _, hw2, _⟩ := tolerant_stream cfg hp rpost wpost hfpost hspost
  refine ⟨obs, opre, opost, h, h1, h2, ?_⟩
  rw [hw, hw1, hw2, hd, hdpre, hdpost]
  exact writesOf_around cfg pre l post hpre hl

open Jl.StreamAccept in
/-- The default processor: the lines before the first unacceptable one are written, that line's
    error is returned, nothing after it is processed. -/
theorem default_stops_at_the_first_unacceptable_line (cfg : Cfg) (hp : cfg.proc = .default)
    (reader : List ReadEv) (ws : List WriteEv) (hff : FaultFree cfg reader ws)
    (good : List Bytes) (l : Bytes) (rest : List Bytes)
    (hlines : specLines (allData reader) = good ++ l :: rest)
    (hgood : ∀ x ∈ good, acceptable cfg x = true) (hs : Settled cfg l)
    (hacc : acceptable cfg l = false) :
    stream cfg reader ws =
      .ok ⟨lineErr cfg l, good.flatMap (lineCalls cfg) ++ lineCalls cfg l, good.map (emitted cfg)⟩ := by
  have hsc := A4_chunk_independence cfg.initSize cfg.maxSize reader hff.calm hff.fit hff.le hff.pow
  rw [hlines] at hsc
  -- the scanner delivers `good ++ [l]`; what it does afterwards plays no part
  obtain ⟨s1, hsc1, -⟩ := ScansAs.split (good ++ [l]) (rest := rest)
    (by rwa [List.append_assoc, List.singleton_append])
  have hset : ∀ x ∈ good ++ [l], Settled cfg x := by
    intro x hx
    rcases List.mem_append.1 hx with hx | hx
    · exact settled_of_acceptable (hgood x hx)
    · simp only [List.mem_singleton] at hx
      rw [hx]; exact hs
  obtain ⟨ws', -, h⟩ := loop_scans cfg hsc1 ws _ hff.writer (mapOutcomes_of_settled cfg _ hset)
  obtain ⟨f, hf⟩ : ∃ f, scriptSize reader + 2 = f + (good ++ [l]).length := by
    have h1 := specLinesAux_length ((allData reader).length + 1) (allData reader)
    have h2 := scriptSize_ge reader
    have h3 : (good ++ [l]).length ≤ (specLines (allData reader)).length := by rw [hlines]; simp
    unfold specLines at h3
    exact ⟨scriptSize reader + 2 - (good ++ [l]).length, by omega⟩
  -- `l` is not written, so the default processor stops the fold there
  have hnw : ∀ b, lo cfg l ≠ .written b := by
    intro b hb
    cases line_view hs with
    | written _ _ acc => rw [hacc] at acc; cases acc
    | refused _ _ _ _ _ hlo => rcases hlo with ⟨hlo, -⟩ | ⟨hlo, -⟩ <;> rw [hb] at hlo <;> cases hlo
  show obsOf (loop cfg (scriptSize reader + 2) _ ws ⟨none, [], []⟩) = _
  rw [hf, h, hp, (foldThen_default_fail _ _ _ ⟨lo cfg l, by simp, hnw⟩).1,
    default_fold_lines cfg _ _ hset, List.takeWhile_append_of_pos hgood,
    List.takeWhile_cons_of_neg (by simp [hacc]), List.find?_append,
    List.find?_eq_none.2 (fun x hx => by simp [hgood x hx])]
  simp [hacc]

open Jl.StreamAccept Jl.StreamAccept.Demo in
/-- Non-vacuity over the regenerated tables: the five-line input `{"n":1}`, `{"n":300}` (int8
    overflow), a blank line, `{"n":2}x`, `{"n":3}` under any chunking. -/
theorem five_line_run (reader : List ReadEv) (hcalm : Calm 100 reader)
    (hd : allData reader = input) :
    stream (cfgOf .tolerant) reader [] =
      .ok ⟨none,
        [(true, none), (false, some .unsupportedImport), (false, some .syntax),
         (false, some .syntax), (true, none)],
        [l1 ++ [0x0A], l3 ++ [0x0A]]⟩ ∧
    stream (cfgOf .default) reader [] =
      .ok ⟨some .unsupportedImport, [(true, none), (false, some .unsupportedImport)],
        [l1 ++ [0x0A]]⟩ :=
  ⟨run .tolerant reader hcalm hd, run .default reader hcalm hd⟩

end Jl.C07
