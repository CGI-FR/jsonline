/-
  C03 — templates fix key order and presence; no level is ever re-sorted.

  Statement (properties.jsonl): with a template, each emitted object lists the template's
  visible columns first, in declaration order and exactly once each (null when the input
  lacks them), followed by the input's undeclared keys in order of first appearance; hidden
  columns never appear.  The same rule holds inside declared sub-rows [FALSE of the code:
  known finding `subrow-flatten`, see `subrow_counterexample`], objects found under any other
  column keep their input member order, and the result never depends on the input order of
  declared keys, on map iteration or on alphabetical sorting.
-/
import Model.LineSpec
import Proofs.Row
import Proofs.Order
import Proofs.LineKeys
import Proofs.RowTie
import Proofs.FlowTie
import Proofs.RowTieMarshal

namespace Jl.C03
open Jl Jl.Value Jl.Template

/-- Storing into a row never moves an existing key and appends a new one at the end. -/
theorem keys_after_upsert (o : List (Bytes × Val)) (k : Bytes) (c : Val) :
    OMap.keys (upsert o k c) = if k ∈ OMap.keys o then OMap.keys o else OMap.keys o ++ [k] :=
  OMap.keys_upsert o k c

/-- Filling a created row with a value for key `k` (any input kind) keeps every declared
    column where it is; an undeclared key goes to the end. -/
theorem fill_keeps_declared_order (env : Env) (row row' : List (Bytes × Val)) (k : Bytes) (x : Dyn)
    (h : fill env row k x = .ok row') :
    OMap.keys row' = if k ∈ OMap.keys row then OMap.keys row else OMap.keys row ++ [k] :=
  Order.fill_keys env row row' k x h

/-- Hidden columns never appear among the emitted keys; everything else appears in row order. -/
theorem visible_is_row_order_without_hidden (ms : List (Bytes × Val)) :
    RowPrint.visibleKeys ms = (ms.filter fun kv => Cells.format kv.2 != .hidden).map Prod.fst := rfl

/-! ### One line through importer and exporter (`Proofs/Order.lean`)

`jlLine` = `getRow` under the input template, `createRow(Row)` under the output template,
`marshalRow` (which prints `visibleKeys`, C01/C02 relate the bytes to them). For EVERY input
text, every pair of templates (any formats and raw types, declared sub-rows included), every
cast table: -/

/-- A line that is emitted went through exactly these steps. -/
theorem emitted_line_steps (env : Env) (ti to : Tmpl) (line b : Bytes)
    (h : jlLine env ti to line = .ok (b, none)) :
    ∃ r row' body, getRow env ti line = .ok (r, none) ∧
      createRow env to (.val (.row (Members.ofList r))) = .ok (row', none) ∧
      RowPrint.marshalRow env (Members.ofList row') = .ok body ∧ b = body ++ [0x0A] :=
  Order.jlLine_ok env ti to line b h

/-- The emitted keys: the output template's visible columns in declaration order, then every
    other key in the order input-template columns / first appearance in the text. -/
theorem emitted_keys (env : Env) (ti to : Tmpl) (line : Bytes) (r row' : List (Bytes × Val))
    (hti : (OMap.keys ti).Nodup) (hto : (OMap.keys to).Nodup)
    (hget : getRow env ti line = .ok (r, none))
    (hcr : createRow env to (.val (.row (Members.ofList r))) = .ok (row', none)) :
    RowPrint.visibleKeys row' =
      ((OMap.keys to).filter fun k => Order.formatAt to k != some .hidden) ++
      (Order.appendNew (OMap.keys ti) (Order.inputKeys line)).filter (fun k => decide (k ∉ OMap.keys to)) :=
  Order.emitted_keys env ti to line r row' hti hto hget hcr

/-- With templates declaring the same names (as every jl definition does): visible columns
    first, in declaration order, then the input's undeclared keys in order of first
    appearance — whatever the order of the declared keys in the input. -/
theorem emitted_keys_same_names (env : Env) (ti to : Tmpl) (line : Bytes) (r row' : List (Bytes × Val))
    (hto : (OMap.keys to).Nodup) (hperm : (OMap.keys ti).Perm (OMap.keys to))
    (hget : getRow env ti line = .ok (r, none))
    (hcr : createRow env to (.val (.row (Members.ofList r))) = .ok (row', none)) :
    RowPrint.visibleKeys row' =
      ((OMap.keys to).filter fun k => Order.formatAt to k != some .hidden) ++
      ((Order.inputKeys line).filter (fun k => decide (k ∉ OMap.keys to))).eraseDups :=
  Order.emitted_keys_perm env ti to line r row' hto hperm hget hcr

/-- The result never depends on the input order of declared keys: two accepted lines with the
    same undeclared keys in the same order emit the same key list. -/
theorem independent_of_declared_key_order (env : Env) (ti to : Tmpl) (line₁ line₂ : Bytes)
    (r₁ r₂ row₁ row₂ : List (Bytes × Val))
    (hto : (OMap.keys to).Nodup) (hperm : (OMap.keys ti).Perm (OMap.keys to))
    (hget₁ : getRow env ti line₁ = .ok (r₁, none))
    (hcr₁ : createRow env to (.val (.row (Members.ofList r₁))) = .ok (row₁, none))
    (hget₂ : getRow env ti line₂ = .ok (r₂, none))
    (hcr₂ : createRow env to (.val (.row (Members.ofList r₂))) = .ok (row₂, none))
    (hsame : (Order.inputKeys line₁).filter (fun k => decide (k ∉ OMap.keys to)) =
      (Order.inputKeys line₂).filter (fun k => decide (k ∉ OMap.keys to))) :
    RowPrint.visibleKeys row₁ = RowPrint.visibleKeys row₂ := by
  rw [Order.emitted_keys_perm env ti to line₁ r₁ row₁ hto hperm hget₁ hcr₁,
    Order.emitted_keys_perm env ti to line₂ r₂ row₂ hto hperm hget₂ hcr₂, hsame]

/-- Exactly once each. -/
theorem emitted_keys_exactly_once (env : Env) (to : Tmpl) (r row' : List (Bytes × Val))
    (hcr : createRow env to (.val (.row (Members.ofList r))) = .ok (row', none)) :
    (RowPrint.visibleKeys row').Nodup :=
  Order.visibleKeys_nodup (Order.createRow_row_keys_nodup env to r row' hcr)

/-- A column declared hidden never appears, whatever the input holds under its name. -/
theorem hidden_never_emitted (env : Env) (to : Tmpl) (r row' : List (Bytes × Val))
    (hto : (OMap.keys to).Nodup)
    (hcr : createRow env to (.val (.row (Members.ofList r))) = .ok (row', none))
    (k : Bytes) (hk : Order.formatAt to k = some .hidden) : k ∉ RowPrint.visibleKeys row' :=
  Order.hidden_never_emitted env to r row' hto hcr k hk

/-- tables whose cast.To sends a nil target type to the value itself (as the source does) and that hold nothing else -/
def stubTables : CastTables :=
  { casters := [], dispatchTo := [(.none, .ret .val)], dispatchToDefault := .fail "", sentinels := [],
    binFns := [], timeStringFormat := "" }

/-- The full statement ("the same rule inside declared sub-rows") is false of the code: a
    declared sub-row is flattened to a Go map when the prototype is cloned, and a Go map is printed
    with its keys sorted (`RowSerial.raw_row_prints_sorted`). Witness: template p:{zz, aa}, cloned. -/
theorem subrow_counterexample (ext : Ext) :
    cloneValue ⟨stubTables, ext⟩
        (.row (.cons [0x7A, 0x7A] (.cell .nil .auto .none) (.cons [0x61, 0x61] (.cell .nil .auto .none) .nil))) =
      .ok (.cell (.gomap (.cons [0x61, 0x61] .nil (.cons [0x7A, 0x7A] .nil .nil))) .auto .none) := by
  rfl

/-! ### On the emitted bytes (`Proofs/LineKeys`) -/

open Jl.JsonQuote (sanitize) in
/-- C03 on the BYTES of an emitted line, for every input text, every pair of templates with
    distinct column names and every cast table: the line is an object text and a newline, and the
    object a JSON reader delivers for it has, in order, the output template's visible columns in
    declaration order, then every other key in the order input-template columns / first appearance
    in the input text — each name as the escaper writes it (`sanitize`, the identity on well-formed
    UTF-8).  `FloatTextOK`: the standard-library parameter renders floats as number literals. -/
theorem emitted_bytes_keys (env : Env) (ti to : Tmpl) (line b : Bytes)
    (h : jlLine env ti to line = .ok (b, none)) (hx : JsonPrint.FloatTextOK env.ext)
    (hti : (OMap.keys ti).Nodup) (hto : (OMap.keys to).Nodup) :
    ∃ body t, b = body ++ [0x0A] ∧ Json.unmarshal body = (t, true) ∧
      LineSpec.keysOf t =
        (((OMap.keys to).filter fun k => Order.formatAt to k != some .hidden) ++
          (Order.appendNew (OMap.keys ti) (Order.inputKeys line)).filter
            (fun k => decide (k ∉ OMap.keys to))).map sanitize :=
  LineLevel.emitted_text_keys env ti to line b h hx hti hto

open Jl.JsonQuote (sanitize) in
/-- The same in the words of the oracle the correspondence check applies to the implementation's
    output (`LineSpec.expectedKeys`, first clause of `orderViolation`), for templates declaring the
    same names, as every `jl` definition does. -/
theorem emitted_bytes_keys_expected (env : Env) (ti to : Tmpl) (line b : Bytes)
    (h : jlLine env ti to line = .ok (b, none)) (hx : JsonPrint.FloatTextOK env.ext)
    (hto : (OMap.keys to).Nodup) (hperm : (OMap.keys ti).Perm (OMap.keys to)) :
    ∃ body t, b = body ++ [0x0A] ∧ Json.unmarshal body = (t, true) ∧
      LineSpec.keysOf t =
        (LineSpec.expectedKeys (LineLevel.leafCols to)
          (LineSpec.keysOf (Json.unmarshal line).1)).map sanitize :=
  LineLevel.emitted_text_keys_expected env ti to line b h hx hto hperm

/-! ### The row and template code is the source's (Proofs/RowTie, Proofs/RowTieMarshal, Proofs/FlowTie) -/

/-- What decides key order in the model — the store of one member by `parseobject` (existing key:
    import in place; new key: appended), `ImportAtKey`, and `Template.CreateRow` starting from a
    clone of the prototype — is what `row.go` and `template.go` say today: the regenerated facts,
    interpreted from the meaning of their constructors alone, compute the model's functions. -/
theorem order_model_is_the_source :
    (∀ {C V E : Type} (ops : CellOps C V E) (r : LRow C) (k : Bytes) (x : V),
      (RowTie.parseStore Gen.rowFacts.parseObject).bind
          (fun s => RowTie.keyedRun s (RowTie.ofCellOps ops) r k x) = some (r.parseMember ops k x)) ∧
    (∀ {C V E : Type} (ops : CellOps C V E) (r : LRow C) (k : Bytes) (x : V),
      RowTie.keyedRun Gen.rowFacts.importAtKey (RowTie.ofCellOps ops) r k x =
        some (r.importAtKey ops k x)) ∧
    (∀ (env : Value.Env) (t : Template.Tmpl) (v : Dyn),
      FlowTie.createRowG Gen.flowTable.createRow env t v = some (Template.createRow env t v)) :=
  ⟨fun ops r k x => RowTie.parseMember_as_modelled ops r k x,
   fun ops r k x => RowTie.importAtKey_as_modelled ops r k x, FlowTie.createRow_is_createRow⟩

/-- …and what turns that order into bytes: `row.MarshalJSON`, as written today (one quoted key
    through the JSON encoder, `:`, the value's own `MarshalJSON`, members in list order, the
    Hidden format skipped), is the model's `marshalVal`. -/
theorem serialisation_is_the_source (env : Value.Env) (ms : Members) :
    RowTie.marshalRowG Gen.rowFacts.marshal (RowPrint.marshalVal env) ms.toList =
      some (RowPrint.marshalVal env (.row ms)) :=
  RowTie.marshal_as_modelled env ms

end Jl.C03
