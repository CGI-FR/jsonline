/-
  C08 — I/O failures and oversize lines are reported, never silently swallowed.

  Statement (properties.jsonl): if the input reader fails at any byte offset, the output
  writer fails at any write, or a line exceeds the size limit, the stream reports an error
  (through its return value or the processor) — it never returns success after discarding
  input that had not been processed.  Every line that was written before the failure is
  complete, and after a write failure has been returned as fatal nothing more is written.

  Model: Model.Scanner (port of bufio.Scanner as importer.go configures it, validated against
  bufio.Scanner), Model.Stream (Stream's loop, processors, scripted reader and writer).
-/
import Model.Stream
import Proofs.Stream
import Proofs.ScannerLimit
import Proofs.FlowTieStream
import Proofs.FlowTieImport
import Proofs.JlTie

namespace Jl.C08
open Jl Jl.Scanner Jl.Stream

/-- When the scanner stops with an error, `Stream` hands that error to the processor and
    returns what the processor returns: under the default processor the error is returned. -/
theorem scanner_error_reaches_processor (cfg : Cfg) (fuel : Nat) (st st' : St) (ws : List WriteEv)
    (obs : Obs) (e : ScanErr)
    (hs : scan cfg.initSize cfg.maxSize (st.script.length * 103 + st.buf.length + 210) st = (none, st'))
    (he : errOf st' = some e) :
    loop cfg (fuel + 1) st ws obs =
      .ok ({ obs with ret := cfg.proc.result obs.calls.length (some (scanErrClass e)),
                      calls := obs.calls ++ [(false, some (scanErrClass e))] }, st') := by
  simp [loop, hs, he]

/-- A clean end of input (no scanner error) ends the stream with the observation so far. -/
theorem clean_end (cfg : Cfg) (fuel : Nat) (st st' : St) (ws : List WriteEv) (obs : Obs)
    (hs : scan cfg.initSize cfg.maxSize (st.script.length * 103 + st.buf.length + 210) st = (none, st'))
    (he : errOf st' = none) :
    loop cfg (fuel + 1) st ws obs = .ok (obs, st') := by
  simp [loop, hs, he]

/-- A row that cannot be rendered reaches the writer with nothing: the writer script is not
    even consulted. -/
theorem render_error_writes_nothing (cfg : Cfg) (row : List (Bytes × Val)) (ws : List WriteEv)
    (e : ErrClass)
    (h : Template.exportLine cfg.env cfg.to (.val (.row (Members.ofList row))) = .ok ([], some e)) :
    exportWith cfg row ws = .ok (none, some e, ws) := by
  simp [exportWith, h]

/-- A failing `Write` is reported as an I/O error of that line. -/
theorem write_failure_reported (cfg : Cfg) (row : List (Bytes × Val)) (rest : List WriteEv) (b : Bytes)
    (h : Template.exportLine cfg.env cfg.to (.val (.row (Members.ofList row))) = .ok (b, none)) :
    exportWith cfg row (.fail :: rest) = .ok (some [], some .io, rest) ∧
    ∀ n, exportWith cfg row (.short n :: rest) = .ok (some (b.take n), some .io, rest) := by
  simp [exportWith, h]

/-- C08, reader side, over whole runs: a stream that returns nil and made no error call has
    consumed the ENTIRE input (script exhausted, buffer empty, clean EOF) — it never returns
    success after discarding unprocessed input.  Holds for reader failures at any offset
    (line boundaries and offset 0 included), over-long lines and no-progress readers. -/
theorem silent_success_consumed_everything (cfg : Cfg) (reader : List ReadEv) (ws : List WriteEv)
    (obs : Obs) (st' : St) (hpow : cfg.maxSize ≤ cfg.initSize * 2 ^ 200)
    (h : streamSt cfg reader ws = .ok (obs, st')) (hret : obs.ret = none)
    (hcalls : ∀ c ∈ obs.calls, c.2 = none) :
    st'.err = none ∧ st'.eof = true ∧ st'.script = [] ∧ st'.buf = [] := by
  rcases C08_nil_return cfg _ _ ws _ obs st' (Ready.init cfg reader hpow) h hret with ⟨e, -, hl⟩ | hc
  · have := hcalls _ (List.mem_of_getLast? hl); cases this
  · exact hc

/-- Any scanner failure (I/O error, over-long line, no progress) is reported: through the
    return value or through a processor call carrying it. -/
theorem failure_reported (cfg : Cfg) (reader : List ReadEv) (ws : List WriteEv) (obs : Obs) (st' : St)
    (e : ScanErr) (h : streamSt cfg reader ws = .ok (obs, st')) (herr : errOf st' = some e) :
    obs.ret ≠ none ∨ ∃ c ∈ obs.calls, c.2 = some (scanErrClass e) := by
  cases hr : obs.ret with
  | some re => left; simp
  | none => right; exact C08_scanner_error_reported cfg _ _ ws _ obs st' e h hr herr

/-- Under the default processor every error is fatal and returned, and it is the last thing
    that happened: no call before the last carries an error. -/
theorem default_processor_fatal (cfg : Cfg) (hp : cfg.proc = .default) (fuel : Nat) (st : St)
    (ws : List WriteEv) (obs : Obs) (st' : St)
    (h : loop cfg fuel st ws ⟨none, [], []⟩ = .ok (obs, st')) :
    (∀ c ∈ obs.calls.dropLast, c.2 = none) ∧ obs.ret = obs.calls.getLast?.bind (·.2) :=
  C08_default_fatal cfg hp fuel st ws obs st' h

/-- Writer side: every element of `writes` is a complete exported line (ending in LF) when its
    `Write` succeeded, and the truncated / empty bytes of the failing call otherwise. -/
theorem writes_are_complete_lines (cfg : Cfg) (fuel : Nat) (st : St) (ws : List WriteEv) (obs : Obs) (st' : St)
    (h : loop cfg fuel st ws ⟨none, [], []⟩ = .ok (obs, st')) (i : Nat) (w : Bytes)
    (hw : obs.writes[i]? = some w) :
    ∃ b b0, ExportedLine cfg b ∧ b = b0 ++ [0x0A] ∧ w = writeResult b ws[i]? := by
  obtain ⟨new, h1, h2, -⟩ := (run_inv cfg fuel st ws ⟨none, [], []⟩ obs st' h).writes
  simp only [List.nil_append] at h1
  rw [h1] at hw
  exact h2 i w hw

/-- After a write failure has been returned as fatal (default processor) nothing more is
    written: the failing write is the last one and the stream returns the I/O error. -/
theorem nothing_written_after_fatal_write (cfg : Cfg) (hp : cfg.proc = .default) (fuel : Nat) (st : St)
    (ws : List WriteEv) (obs : Obs) (st' : St)
    (h : loop cfg fuel st ws ⟨none, [], []⟩ = .ok (obs, st')) (i : Nat) (ev : WriteEv)
    (hi : i < obs.writes.length) (hev : ws[i]? = some ev) (hf : ev.isFail = true) :
    i + 1 = obs.writes.length ∧ obs.ret = some .io := by
  obtain ⟨new, h1, -, h2⟩ := (run_inv cfg fuel st ws ⟨none, [], []⟩ obs st' h).writes
  simp only [List.nil_append] at h1
  rw [h1] at hi ⊢
  exact h2 hp i ev hi hev hf

/-! Non-vacuity: a reader failing before the first byte, and exactly after a newline. -/
example : (scan 4 8 100 (Scanner.init 4 [.err])).1 = none ∧
    errOf (scan 4 8 100 (Scanner.init 4 [.err])).2 = some .io := by decide +kernel
example : (scan 4 8 100 (Scanner.init 4 [.data [0x61, 0x0A], .err])).1 = some [0x61] := by decide +kernel
example : errOf (scan 4 8 100 (scan 4 8 100 (Scanner.init 4 [.data [0x61, 0x0A], .err])).2).2 = some .io := by
  decide +kernel
/-- An over-long line (9 bytes without newline, limit 8) ends scanning with `tooLong`. -/
example : errOf (scan 4 8 100 (Scanner.init 4 [.data [1, 2, 3, 4, 5, 6, 7, 8, 9]])).2 = some .tooLong := by
  decide +kernel

/-! ### A line over the importer's limit (`Proofs/ScannerLimit`)

  `ScannerLimit.overlong_line_yields_too_long`: whatever the chunking, the scanner yields exactly the lines before a
  line of `maxSize` bytes or more, then no token and the too-long error, and (`overlong_aftermath`) reads nothing of
  what lay beyond the limit.  `bufio.Scanner` can still hand over the truncated first `maxSize` bytes, WITH the error
  set (`ScannerLimit.sticky_counterexample`); the importer's `GetRow` looks at the error first. -/

/-- At stream level, under the processor that carries on: the lines before the over-long one have their outcomes, the
    processor is handed ONE call carrying the too-long error, and nothing after it is processed. -/
theorem oversize_line_reported_tolerant (cfg : Cfg) (hp : cfg.proc = .tolerant) (reader : List ReadEv)
    (ws : List WriteEv) (lines : List Bytes) (long rest : Bytes) (hcalm : Calm 100 reader)
    (hdata : allData reader = ScannerLimit.joinLF lines ++ long ++ rest)
    (hfit : ScannerLimit.FitLines cfg.maxSize lines) (hlong : cfg.maxSize ≤ long.length)
    (hnolf : (0x0A : UInt8) ∉ long.take cfg.maxSize)
    (hle : cfg.initSize ≤ cfg.maxSize) (hpow : cfg.maxSize ≤ cfg.initSize * 2 ^ 200)
    (hws : ∀ w ∈ ws, w = WriteEv.ok) (os : List LineOutcome)
    (hmap : mapOutcomes cfg (lines.map dropCR) = .ok os) :
    stream cfg reader ws =
      .ok ⟨none, os.flatMap ScannerLimit.callsOf ++ [(false, some .tooLong)], os.filterMap ScannerLimit.writtenOf⟩ := by
  rw [ScannerLimit.stream_overlong cfg reader ws lines long rest hcalm hdata hfit hlong hnolf hle hpow hws os hmap,
    hp, ScannerLimit.foldThen_tolerant]
  simp [endCall, scanErrClass, Proc.result]

/-- Under the default processor, every earlier line written: `Stream()` RETURNS the too-long error. -/
theorem oversize_line_returned_default (cfg : Cfg) (hp : cfg.proc = .default) (reader : List ReadEv)
    (ws : List WriteEv) (lines : List Bytes) (long rest : Bytes) (hcalm : Calm 100 reader)
    (hdata : allData reader = ScannerLimit.joinLF lines ++ long ++ rest)
    (hfit : ScannerLimit.FitLines cfg.maxSize lines) (hlong : cfg.maxSize ≤ long.length)
    (hnolf : (0x0A : UInt8) ∉ long.take cfg.maxSize)
    (hle : cfg.initSize ≤ cfg.maxSize) (hpow : cfg.maxSize ≤ cfg.initSize * 2 ^ 200)
    (hws : ∀ w ∈ ws, w = WriteEv.ok) (bs : List Bytes)
    (hmap : mapOutcomes cfg (lines.map dropCR) = .ok (bs.map .written)) :
    stream cfg reader ws =
      .ok ⟨some .tooLong, List.replicate bs.length (true, none) ++ [(false, some .tooLong)], bs⟩ := by
  rw [ScannerLimit.stream_overlong cfg reader ws lines long rest hcalm hdata hfit hlong hnolf hle hpow hws _ hmap,
    hp, ScannerLimit.foldThen_default_written]
  simp [endCall, scanErrClass, Proc.result]

/-- Once the scanner has an error it keeps it, never asks the reader again, and the only tokens it can still deliver
    are an initial part of the lines of the bytes ALREADY in its buffer. -/
theorem scanner_error_is_sticky (i m : Nat) (e : ScanErr) (fuels : List Nat) (s : St) (h : errOf s = some e) :
    errOf (ScannerLimit.scans i m fuels s).2 = some e ∧ (ScannerLimit.scans i m fuels s).2.script = s.script ∧
    ScannerLimit.tokensOf (ScannerLimit.scans i m fuels s).1 <+: specLines s.buf :=
  ScannerLimit.error_is_sticky i m e fuels s h


/-! ### Where a failure goes, read from the source (Proofs/FlowTieStream, Proofs/FlowTieImport) -/

/-- As read from the source: `GetRow` looks at the scanner's error before parsing; `Importer.Err` is the
    scanner's error; after the loop `Stream` hands that error to the processor and returns what
    the processor returns; `Export` makes one `Write` and wraps its error. -/
theorem failure_path_is_the_source :
    Gen.flowTable.getRow = .scannerErrThenParse .nil .wrapped ∧
    Gen.flowTable.importerErr = .scannerErr ∧
    Gen.flowTable.stream = FlowSpec.expectedFlow.stream ∧
    Gen.flowTable.newImporter = .scanner 0 Gen.initialBufferSize Gen.maximumBufferSize :=
  ⟨FlowTie.getRow_as_modelled, FlowTie.err_as_modelled, FlowTie.stream_as_modelled,
   FlowTie.scanner_sizes.1⟩


/-- …and through the command: the processor `jl` installs LOGS the failure of a line (at error level, on standard
    error) and carries on; standard output is handed to the exporter and nothing else is printed on it; a template
    error ends the process with a non-zero status. Read from `cmd/jl` on every run (Proofs/JlTie). -/
theorem command_reports_failures_is_the_source :
    Gen.jlFacts.processor = .logsAndReturnsNil ∧
    JlTie.procG Gen.jlFacts.processor = some .tolerant ∧
    Gen.jlFacts.printCalls = [] ∧
    (∃ code, Gen.jlFacts.run = .stream code 0 "Stdin" 1 "Stdout" ∧ code ≠ 0) :=
  ⟨JlTie.processor_as_modelled, JlTie.processor_is_tolerant.1, JlTie.streams_as_modelled.2.1,
   JlTie.streams_as_modelled.2.2⟩

end Jl.C08
