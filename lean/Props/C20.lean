/-
  C20 — a finished template can be shared by concurrent goroutines.

  Statement (properties.jsonl): a template that is no longer being modified may be used by any
  number of goroutines concurrently to create rows, importers and exporters: there are no
  data races, and every goroutine obtains exactly the results it would obtain when running
  alone.

  Two parts.  (1) Footprints, regenerated from the source on every run (Gen.Sites): the only
  thing the read-only template operations do with the prototype row is `CloneRow(t.empty)`;
  CloneRow / CloneValue / IterValues only call readers on it; none of those readers — nor any
  function of pkg/cast — assigns through a receiver, a parameter or a package-level variable.
  (2) For operations that do not modify the shared memory, EVERY schedule gives every
  goroutine the results it gets alone (induction over the schedule).
  Cannot be exhibited by the model: the Go memory model, compiler reorderings, the runtime —
  there the race detector runs of the harness are the only evidence.
-/
import Model.Conc
import Gen.Sites

namespace Jl.C20
open Jl Jl.Conc

/-- `l ⊆ allowed` as a decidable check. -/
def within {α : Type} [BEq α] (l allowed : List α) : Bool := l.all fun x => allowed.contains x

/-- What the read-only template operations do with the prototype: clone it, nothing else
    (anything else they would do with it re-opens this). -/
theorem prototype_only_cloned :
    within (Gen.protoUses.filter fun p =>
        p.1 ∈ ["template.CreateRow", "template.CreateRowEmpty", "template.GetExporter", "template.GetImporter"])
      [("template.CreateRow", "CloneRow"), ("template.CreateRowEmpty", "CloneRow")] = true := by
  -- `simp` compares string literals directly; the kernel would unfold every comparison of these names
  simp [within, Gen.protoUses]

theorem clone_only_reads :
    within Gen.cloneUses [("CloneRow", "r.IterValues"), ("CloneValue", "v.GetFormat"), ("CloneValue", "v.GetRawType"),
      ("CloneValue", "v.Raw"), ("row.IterValues", "r.l.Front")] = true := by decide +kernel

/-- The functions that assign through a receiver, a parameter or a package-level variable are AMONG these
    eight (`within` is ⊆).  All eight are builder calls, constructors' fluent setters, or mutators of the row /
    cell they are called on (which, after `CloneRow`, is a fresh object: C15).  That none of them is one of the
    readers used on the prototype is not part of the statement: it is seen by comparing this list with the one
    of `clone_only_reads`, which names functions in another scheme (`r.IterValues`, `v.Raw`).  A new writer
    re-opens this. -/
theorem writers_are_not_the_readers :
    within (Gen.jsonlineWrites.map Prod.fst)
      ["exporter.WithTemplate", "importer.WithTemplate", "row.ImportAtKey", "row.Set", "row.SetValue",
       "row.parseobject", "streamer.WithProcessor", "value.Import"] = true := by decide +kernel

/-- The writer inventory above lists assignments to fields of the struct types whose objects can
    be shared through the API (those implementing an exported interface, the types of package-level
    variables, and what their fields reach); a private helper object made afresh by a call (an
    iterator, a builder) is owned by that call. The API's own types are all in the tracked set. -/
theorem api_types_are_tracked :
    within ["exporter", "importer", "row", "streamer", "template", "value"] Gen.jsonlineSharedTypes = true := by
  decide +kernel

/-- pkg/cast assigns nothing outside its locals: `cast.TimeStringFormat` and the sentinels are
    only read. -/
theorem cast_writes_nothing_shared : Gen.castWrites = [] := by decide +kernel

/-- Neither package keeps a package-level variable of slice, map, pointer, channel, array or struct type: there is no
    memory that every goroutine reaches and that a caller who was handed a value could write to (a `[]byte` or a map
    returned from such a variable would be shared by every row of every goroutine). A new one re-opens this. -/
theorem no_reference_typed_package_variable : Gen.refGlobals = [] := by decide +kernel

def Inv {M R : Type} (m : M) (progs : Nat → List (Op M R)) (s : St M R) : Prop :=
  s.mem = m ∧ (∀ j, ∀ op ∈ s.progs j, op.ReadOnly) ∧
  ∀ j, ∃ done, progs j = done ++ s.progs j ∧ s.results j = alone m done

theorem inv_init {M R : Type} (m : M) (progs : Nat → List (Op M R))
    (hro : ∀ j, ∀ op ∈ progs j, op.ReadOnly) : Inv m progs (init m progs) :=
  ⟨rfl, hro, fun _ => ⟨[], by simp [init], by simp [init, alone]⟩⟩

theorem inv_step {M R : Type} (m : M) (progs : Nat → List (Op M R)) (s : St M R) (i : Nat)
    (h : Inv m progs s) : Inv m progs (step s i) := by
  obtain ⟨hm, hro, hres⟩ := h
  unfold step
  cases hp : s.progs i with
  | nil => exact ⟨hm, hro, hres⟩
  | cons op rest =>
    have hop : op.ReadOnly := hro i op (by simp [hp])
    refine ⟨by simp [hm, hop m], ?_, ?_⟩
    · intro j o ho
      by_cases hj : j = i
      · subst hj
        simp [upd] at ho
        exact hro j o (by simp [hp, ho])
      · simp [upd, hj] at ho
        exact hro j o ho
    · intro j
      by_cases hj : j = i
      · subst hj
        obtain ⟨done, hd1, hd2⟩ := hres j
        refine ⟨done ++ [op], by simp [upd, hd1, hp], ?_⟩
        simp [upd, hd2, alone, hm]
      · obtain ⟨done, hd1, hd2⟩ := hres j
        exact ⟨done, by simp [upd, hj, hd1], by simp [upd, hj, hd2]⟩

theorem inv_run {M R : Type} (m : M) (progs : Nat → List (Op M R)) :
    ∀ (sched : List Nat) (s : St M R), Inv m progs s → Inv m progs (runSchedule s sched)
  | [], _, hs => hs
  | i :: sched, s, hs => inv_run m progs sched _ (inv_step m progs s i hs)

/-- C20, schedule independence: with read-only operations, after ANY schedule the shared
    memory is unchanged and each goroutine's results so far are exactly what it obtains for
    the operations it has executed when running alone on the initial memory. -/
theorem same_as_alone {M R : Type} (m : M) (progs : Nat → List (Op M R))
    (hro : ∀ j, ∀ op ∈ progs j, op.ReadOnly) (sched : List Nat) :
    let s := runSchedule (init m progs) sched
    s.mem = m ∧ ∀ j, ∃ done, progs j = done ++ s.progs j ∧ s.results j = alone m done :=
  let h := inv_run m progs sched _ (inv_init m progs hro)
  ⟨h.1, h.2.2⟩

theorem finished_same_as_sequential {M R : Type} (m : M) (progs : Nat → List (Op M R))
    (hro : ∀ j, ∀ op ∈ progs j, op.ReadOnly) (sched : List Nat) (j : Nat)
    (hfin : (runSchedule (init m progs) sched).progs j = []) :
    (runSchedule (init m progs) sched).results j = alone m (progs j) := by
  obtain ⟨_, h⟩ := same_as_alone m progs hro sched
  obtain ⟨done, hd1, hd2⟩ := h j
  rw [hfin, List.append_nil] at hd1
  rw [hd2, hd1]

/-- Schedule independence stated outright, for any two schedules that both let goroutine `j` finish. -/
theorem results_do_not_depend_on_the_schedule {M R : Type} (m : M) (progs : Nat → List (Op M R))
    (hro : ∀ j, ∀ op ∈ progs j, op.ReadOnly) (s₁ s₂ : List Nat) (j : Nat)
    (h₁ : (runSchedule (init m progs) s₁).progs j = [])
    (h₂ : (runSchedule (init m progs) s₂).progs j = []) :
    (runSchedule (init m progs) s₁).results j = (runSchedule (init m progs) s₂).results j ∧
    (runSchedule (init m progs) s₁).mem = (runSchedule (init m progs) s₂).mem := by
  rw [finished_same_as_sequential m progs hro s₁ j h₁, finished_same_as_sequential m progs hro s₂ j h₂,
    (same_as_alone m progs hro s₁).1, (same_as_alone m progs hro s₂).1]
  exact ⟨rfl, rfl⟩

/-- The read-only hypothesis is what carries the theorem (and is what `prototype_only_cloned` /
    `clone_only_reads` read from the source on every run): with ONE operation that writes the shared
    memory, two schedules give another goroutine different results. -/
theorem one_writer_makes_results_schedule_dependent :
    let rd : Op Nat Nat := ⟨fun m => (m, m)⟩
    let wr : Op Nat Nat := ⟨fun m => (m + 1, 0)⟩
    let progs : Nat → List (Op Nat Nat) := fun j => if j = 0 then [rd] else if j = 1 then [wr] else []
    (runSchedule (init 5 progs) [0, 1]).results 0 = [5] ∧
    (runSchedule (init 5 progs) [1, 0]).results 0 = [6] ∧
    (runSchedule (init 5 progs) [0, 1]).progs 0 = [] ∧ (runSchedule (init 5 progs) [1, 0]).progs 0 = [] := by
  decide +kernel

example :
    let op (k : Nat) : Op Nat Nat := ⟨fun m => (m, m + k)⟩
    let progs : Nat → List (Op Nat Nat) := fun j => if j = 0 then [op 1, op 2] else if j = 1 then [op 10] else []
    ((runSchedule (init 5 progs) [0, 1, 0]).results 0, (runSchedule (init 5 progs) [0, 1, 0]).results 1)
      = ([6, 7], [15]) := by decide +kernel

end Jl.C20
