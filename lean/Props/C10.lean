/-
  C10 — casts are total and return exactly the requested type.

  Statement (properties.jsonl): for every target type and every input of any dynamic Go type
  a cast returns without panicking either a nil error with a result that is nil exactly when
  the input is nil and otherwise of exactly the requested type, or a nil result with an error
  that wraps the package's cast-failure sentinel.  Consequently the raw value of a column
  declared with raw type T is nil or a T after every successful import (`import_typed`).

  Theorems are about `genTables` (regenerated from pkg/cast on every run).
-/
import Proofs.CastInt
import Proofs.CastTyped
import Model.Value
import Proofs.ValueTie
import Proofs.TypedHistory

namespace Jl.C10
open Jl Cast CastTyped Jl.Value

/-- Every sentinel of errors.go wraps the root sentinel `ErrUnableToCast` (the `%w` chain
    is read from the source). -/
theorem sentinels_wrap_root :
    ∀ p ∈ genTables.sentinels, wrapsRoot genTables.sentinels 4 p.1 = true :=
  List.all_eq_true.mp (by decide +kernel)

/-- `cast.To` with a nil target type returns the value unchanged; any target type outside
    the 18 supported ones fails with the root sentinel. -/
theorem castTo_none_and_unknown (ext : Ext) (v : Dyn) :
    castTo genTables ext .none v = .ok v ∧ castTo genTables ext .other v = .err .cast := by
  have hnone : dispatchOf genTables .none = .ret .val := by decide +kernel
  have hother : failsCast genTables (dispatchOf genTables .other) = true := by decide +kernel
  exact ⟨by rw [castTo_dispatch, hnone]; rfl, by rw [castTo_dispatch, evalBranch_failsCast hother]⟩

/-- Integer targets, integer sources: the result has exactly the requested type (corollary of
    the exactness theorem of C09). -/
theorem int_result_typed (ext : Ext) (tgt src : IntTy) (v : Int) (hv : src.inRange v) (r : Dyn)
    (h : castNamed genTables ext (casterOfInt tgt) (.int src v) = .ok r) :
    typeOf r = .int tgt := by
  rw [cast_int_source ext tgt src v hv] at h
  split at h
  · cases h; rfl
  · cases h

/-- Every one of the ten integer casters sends nil to nil. -/
theorem int_nil_to_nil (ext : Ext) (tgt : IntTy) :
    castNamed genTables ext (casterOfInt tgt) .nil = .ok .nil :=
  cast_int_clause fun _ hok => eq_of_beq hok ▸ rfl

/-- A value of an unsupported dynamic type (struct, pointer, named type, func, chan, …) is
    rejected by every integer caster with an error wrapping the sentinel. -/
theorem int_other_rejected (ext : Ext) (tgt : IntTy) (tag : Nat) :
    castNamed genTables ext (casterOfInt tgt) (.other tag) = .err .cast :=
  cast_int_clause fun _ hok => evalBranch_failsCast hok ext 22 _ _

/-- The whole regenerated table passes the static checker of Proofs.CastTyped (every clause of
    every caster for every type it lists, every default branch, the nil clauses, cast.To's
    dispatch, all sentinels, the sizes of binary_ops.go): re-decided on every run. -/
theorem tables_pass_checker : tablesOK genTables = true := genTables_ok

/-- C10 for each of the 19 casters, every input of any dynamic type: no panic; a result that
    is nil exactly when the input is nil and otherwise of exactly the promised type; or an
    error wrapping the sentinel (`.ext` is the model's "stdlib answer not supplied" marker,
    not an outcome of the code). -/
theorem caster_total_and_typed (ext : Ext) (name : String) (hn : name ∈ casterNames) (v : Dyn) :
    match castNamed genTables ext name v with
    | .ok r => (r = .nil ↔ v = .nil) ∧ (v ≠ .nil → some (typeOf r) = resultTyOfCaster? name)
    | .err e => e = .cast ∨ e = .ext
    | .panic _ => False :=
  gen_cast_C10 ext name hn v

/-- C10 for `cast.To` with a sample of any type (`Ty.none` = nil sample: identity). -/
theorem castTo_total_and_typed (ext : Ext) (t : Ty) (v : Dyn) :
    match castTo genTables ext t v with
    | .ok r => if t = .none then r = v else (r = .nil ↔ v = .nil) ∧ (v ≠ .nil → typeOf r = t)
    | .err e => e = .cast ∨ e = .ext
    | .panic _ => False :=
  gen_castTo_C10 ext t v

/-- The oracle applied to the implementation never fires on the model's results. -/
theorem no_typed_violation (ext : Ext) (t : Ty) (ht : t ≠ .none) (v : Dyn) :
    CastSpec.typedViolation t v (castTo genTables ext t v) = none ∨
      castTo genTables ext t v = .err .ext :=
  typedViolation_of_good ht (castTo_good ext genTables_ok ht v)

/-! Row level -/

/-- C10, last sentence: after a successful import of anything that is not itself a
    jsonline.Value, the raw value of a column declared with raw type `typ` is nil or of
    exactly that type — for every format, over the casters of the current source. -/
theorem import_typed (ext : Ext) (f : Format) (typ : Ty) (ht : typ ≠ .none) (v : Dyn)
    (hv : ∀ w, v ≠ .val w) (c : Val)
    (h : importCell ⟨genTables, ext⟩ f typ v = .ok (c, none)) :
    ∃ raw, c = .cell raw f typ ∧ (raw = .nil ∨ typeOf raw = typ) := by
  obtain ⟨raw, hc, hty⟩ := LineLevel.importCell_rawTyped ext (fun _ _ _ => hv _) h
  exact ⟨raw, hc, hty.resolve_left ht⟩

/-! Non-vacuity -/
example : "ToTime" ∈ casterNames := by decide
example : castNamed genTables Ext.empty "ToBool" (.str [0x74]) = .ok (.bool true) := by decide +kernel

example : ∃ c, importCell ⟨genTables, Ext.empty⟩ .numeric (.int .i8) (.num [0x37]) = .ok (c, none) := ⟨_, rfl⟩

/-! ### The model of `value.go` is REGENERATED (`extract/value.go` → `Gen.ValueTable`, `Proofs/ValueTie`)

  `value.Import`, `value.Export`, `NewValue`, `CloneValue` and the fourteen functions of `conversions_import.go` /
  `conversions_export.go` are read from the source on every run (symbolic execution format by format, classified into
  the small syntax of `Model.ValueSyntax`) and interpreted by `Model.ValueGen`.  The theorems of this file are about
  the hand-written `Model.Value`; this one says that `Model.Value` IS that interpretation of the current source, so a
  change of the source (another caster for a format, a layout instead of `cast.ToString`, a dropped nil check, a Row
  accepted by another format, another sentinel, renumbered formats …) stops it from compiling. -/
theorem value_model_is_the_source :
    (Gen.valueTable.known = true ∧ Gen.valueTable.importPreamble = .asModelled ∧
      Gen.valueTable.exportPreamble = .asModelled ∧ Gen.valueTable.newValue = .asModelled ∧
      Gen.valueTable.cloneValue = .asModelled) ∧
    (∀ (env : Value.Env) (f : Format) (typ : Ty) (val : Dyn),
      ValueGen.importByFormatG Gen.valueTable env f typ val = Value.importByFormat env f typ val) ∧
    (∀ (env : Value.Env) (old : Dyn) (f : Format) (typ : Ty) (val : Dyn), f ≠ .bad →
      ValueGen.importCellG Gen.valueTable env old f typ val = Value.importCell env f typ val) ∧
    (∀ (env : Value.Env) (raw : Dyn) (f : Format) (typ : Ty),
      ValueGen.exportCellG Gen.valueTable env raw f = Value.exportVal env (.cell raw f typ)) ∧
    Gen.valueTable.formats = Format.declared.map (fun f => (f.goName, (f.ctorIdx : Int))) :=
  ValueTie.value_as_modelled


/-! ### The last sentence over whole histories (Proofs/TypedHistory)

`DeclKept t row`: every column the template declares is still in the row with its format and raw
type; `TypedAt t row`: the raw value of each such column is nil or of its declared raw type.
The operations: `ImportAtKey`, `UnmarshalJSON` (any text), `Row.Import`, `ImportAtPath`, `Set`
(any value), `CloneRow`, `Template.CreateRow`. -/

open Jl.Value Jl.TypedHistory in
/-- One import into a declared cell, accepted OR refused, of anything that is not itself a
    `jsonline.Value` cell — a nested object (a Row) included (`value.Import` keeps a Row as it is only where
    the column has no raw type): the cell keeps its format and raw type and holds nil or a value of that type.
    `import_typed` above is the accepted case of this, for a `v` that is no `Val` at all. -/
theorem import_typed_rows_included (ext : Ext) {f : Format} {ty : Ty} {x : Dyn} {c' : Val}
    {e : Option ErrClass} (hx : NoCellVal x)
    (h : importCell ⟨genTables, ext⟩ f ty x = .ok (c', e)) :
    ∃ raw', c' = .cell raw' f ty ∧ RawTyped ty raw' :=
  LineLevel.importCell_rawTyped ext hx h

open Jl.Value Jl.Template Jl.TypedHistory in
/-- Reading a line with a template (accepted or rejected, ANY text): every declared column keeps
    its declaration and holds nil or a value of its raw type. -/
theorem row_read_with_a_template_is_typed (ext : Ext) {t : Tmpl} (hnd : (OMap.keys t).Nodup)
    (hp : NilProtos t) {line : Bytes} {row : RowV} {e : Option ErrClass}
    (h : getRow ⟨genTables, ext⟩ t line = .ok (row, e)) : DeclKept t row ∧ TypedAt t row :=
  inv_typed_iff.mp (st_getRow (laws_typed ext t) hnd (inv_typed_self hp) h).1

open Jl.Value Jl.Template Jl.TypedHistory in
/-- …and it stays so through ANY history of the mutators applied to a row the template created:
    every state reached keeps every declaration and is typed.  `NoValueArg`: the API arguments
    are not `jsonline.Value` cells (a Value hands over its own declaration, by the API's
    contract: `Demo.iak_value_replaces_declaration`); `¬ Bare`: no `CreateRow` from a Go map,
    slice or Row, which builds cells with `NewValue` — "try to cast, else keep"
    (`Demo.createRow_gomap_untyped`); a construction, not an import. -/
theorem every_history_stays_typed (ext : Ext) {t : Tmpl} (hnd : (OMap.keys t).Nodup)
    (hp : NilProtos t) (ops : List Op) (hs : ∀ op ∈ ops, op.NoValueArg)
    (hb : ∀ op ∈ ops, ¬ op.Bare) {row₀ : RowV}
    (h0 : createRowEmpty ⟨genTables, ext⟩ t = .ok row₀) :
    ∀ r ∈ trace ⟨genTables, ext⟩ t row₀ ops, DeclKept t r ∧ TypedAt t r :=
  history_empty_typed ext hnd hp ops hs hb h0

open Jl.Value Jl.Template Jl.TypedHistory in
/-- The same from a row read from text. -/
theorem every_history_from_a_line_stays_typed (ext : Ext) {t : Tmpl}
    (hnd : (OMap.keys t).Nodup) (hp : NilProtos t) (ops : List Op)
    (hs : ∀ op ∈ ops, op.NoValueArg) (hb : ∀ op ∈ ops, ¬ op.Bare) {line : Bytes}
    {row₀ : RowV} {e : Option ErrClass} (h0 : getRow ⟨genTables, ext⟩ t line = .ok (row₀, e)) :
    ∀ r ∈ trace ⟨genTables, ext⟩ t row₀ ops, DeclKept t r ∧ TypedAt t r := by
  have hst := st_getRow (laws_typed ext t) hnd (inv_typed_self hp) h0
  exact history_typed ext hnd hp ops hs hb (inv_typed_iff.mp hst.1) hst.2

end Jl.C10
