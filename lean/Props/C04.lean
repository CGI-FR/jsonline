/-
  C04 — a declared column is emitted in its format's JSON class or the line is rejected.

  Statement (properties.jsonl): for every declared column the emitted member is null or a JSON
  value of the lexical class of the column's output format — string; number; true/false;
  canonical padded base64 string; YYYY-MM-DD; RFC 3339 date-time; integer — whatever the JSON
  type of the input and whatever raw type is declared.  When the input value cannot be
  converted the line is rejected with an error instead of being emitted with a value of
  another class; columns of declared sub-rows are enforced in the same way [FALSE of the
  code: known finding `subrow-flatten`].

  Proved per format over the regenerated cast tables, for every raw value; auto and hidden have no class.
-/
import Model.LineSpec
import Proofs.Base64
import Proofs.TimeShape
import Proofs.LineLevel
import Proofs.LineColumn
import Proofs.ValueTie
import Proofs.ExportText
import Proofs.FlowTie
import Proofs.FlowTieBuilders

namespace Jl.C04
open Jl Jl.Value Cast CastTyped

/-- A nil raw value is emitted as null whatever the format. -/
theorem nil_exports_nil (env : Env) (f : Format) (typ : Ty) :
    exportVal env (.cell .nil f typ) = .ok .nil :=
  LineLevel.nil_exports_nil env f typ

/-- Binary columns: whatever is emitted is the standard base64 encoding of some bytes —
    canonical and padded by construction (`decode (encode b) = b`, and `encode` is the only
    producer of the text). -/
theorem binary_is_canonical_base64 (env : Env) (raw : Dyn) (typ : Ty) (e : Dyn)
    (h : exportVal env (.cell raw .binary typ) = .ok e) :
    e = .nil ∨ ∃ b, e = .str (Base64.encode b) ∧ LineSpec.isCanonicalBase64 (Base64.encode b) = true := by
  rcases LineLevel.binary_export env raw typ e h with rfl | ⟨b, rfl⟩
  · exact .inl rfl
  · exact .inr ⟨b, rfl, by simp [LineSpec.isCanonicalBase64, Base64.decode_encode]⟩

/-- For a non-nil raw value the scalar formats export through exactly one caster. -/
theorem export_scalar_formats (env : Env) (raw : Dyn) (typ : Ty) (hraw : raw ≠ .nil) :
    exportVal env (.cell raw .string typ) = exportFail (castNamed env.T env.ext "ToString" raw) ∧
    exportVal env (.cell raw .numeric typ) = exportFail (castNamed env.T env.ext "ToNumber" raw) ∧
    exportVal env (.cell raw .boolean typ) = exportFail (castNamed env.T env.ext "ToBool" raw) ∧
    exportVal env (.cell raw .timestamp typ) = exportFail (castNamed env.T env.ext "ToTimestamp" raw) :=
  LineLevel.export_scalar_formats env raw typ hraw

/-- String, numeric, boolean and timestamp columns of the current tables: the exported value
    has exactly the Go type whose JSON encoding is the format's class (string → string,
    json.Number → number literal validated at marshal time, bool → true/false,
    int64 → integer) — from `CasterFacts.exportCell_typed`. -/
theorem scalar_formats_typed (ext : Ext) (raw e : Dyn) (typ : Ty) (hraw : raw ≠ .nil) :
    (exportVal ⟨genTables, ext⟩ (.cell raw .string typ) = .ok e → typeOf e = .str) ∧
    (exportVal ⟨genTables, ext⟩ (.cell raw .numeric typ) = .ok e → typeOf e = .num) ∧
    (exportVal ⟨genTables, ext⟩ (.cell raw .boolean typ) = .ok e → typeOf e = .bool) ∧
    (exportVal ⟨genTables, ext⟩ (.cell raw .timestamp typ) = .ok e → typeOf e = .int .i64) :=
  LineLevel.scalar_formats_typed ext raw e typ hraw

/-- A number literal that is not a valid JSON number never marshals: the line is rejected. -/
theorem invalid_number_rejected (env : Env) (l : Bytes) (h1 : l ≠ []) (h2 : JsonWrite.isValidNumber l = false) :
    RowPrint.marshalDyn env (.num l) = .err .marshal := by
  cases l with
  | nil => exact absurd rfl h1
  | cons c r => unfold RowPrint.marshalDyn; simp [h2]

/-! ### Date and date-time columns (`Proofs/TimeShape.lean`) -/

/-- A `date` column emits null or a string of the form YYYY-MM-DD — for every raw value of every
    type, every declared raw type and every zone function: times are guarded to years 0..9999,
    integers go through the time branch, a string is handed back only after the 2006-01-02 parser
    accepted it, everything else delegates or fails. -/
theorem date_column_class (ext : Ext) (raw : Dyn) (typ : Ty) (e : Dyn)
    (h : exportVal ⟨genTables, ext⟩ (.cell raw .date typ) = .ok e) :
    e = .nil ∨ ∃ s, e = .str s ∧ LineSpec.isDateText s = true :=
  TimeShape.date_column_class ext raw typ e h

/-- A `datetime` column emits null or an RFC 3339 date-time, provided zone offsets stay below 100 h = 360000 s
    (the zone function's answers and the offset of a raw `time.Time`; text sources are bounded by
    the parser). The bound is needed: Go's `Z07:00` prints the offset hour without clamping
    (`TimeShape.datetime_raw_offset_bound_needed`). -/
theorem datetime_column_class (ext : Ext) (raw : Dyn) (typ : Ty) (e : Dyn)
    (hext : ∀ sec off, ext.zoneOffset sec = some off → off.natAbs < 360000)
    (hraw : ∀ t, raw = .time t → t.off.natAbs < 360000)
    (h : exportVal ⟨genTables, ext⟩ (.cell raw .datetime typ) = .ok e) :
    e = .nil ∨ ∃ s, e = .str s ∧ LineSpec.isDateTimeText s = true :=
  TimeShape.datetime_column_class ext raw typ e hext hraw h

/-- Not vacuous: the epoch in a `date(time.Time)` column exports the string `1970-01-01`. -/
example : exportVal ⟨genTables, Ext.empty⟩ (.cell (.time ⟨0, 0, 0⟩) .date .time) =
    .ok (.str [0x31,0x39,0x37,0x30,0x2D,0x30,0x31,0x2D,0x30,0x31]) := TimeShape.date_column_epoch

/-! ### On the emitted bytes (`Proofs/LineLevel`) -/

open Jl.JsonQuote (sanitize) in
open Jl.Template in
/-- C04 for one exported cell, every format at once, in the words of the oracle: the JSON value
    the reader delivers for the member is in the lexical class of the column's format
    (`LineSpec.inClass`), for every raw value, raw type and standard-library parameter — for a
    date-time column provided zone offsets and the offset of a raw `time.Time` stay below 100 h. -/
theorem member_in_class (ext : Ext) (raw : Dyn) (f : Format) (typ : Ty) (e : Dyn)
    (he : exportVal ⟨genTables, ext⟩ (.cell raw f typ) = .ok e)
    (hdt : f = .datetime → TimeShape.ZoneOK ext ∧ TimeShape.TimeSrcOK raw) :
    LineSpec.inClass f (JsonPrint.treeVal ⟨genTables, ext⟩ (.cell raw f typ)) = true :=
  LineLevel.member_in_class ext raw f typ e he hdt

open Jl.JsonQuote (sanitize) in
open Jl.Template in
/-- C04 on the BYTES of an emitted line, in the words of the oracle the correspondence check
    applies to the implementation's output: for every input text accepted by `jlLine` over the
    regenerated cast tables, templates declaring the same distinct well-formed-UTF-8 names (as
    every `jl` definition does), the line is an object text and a newline and
    `LineSpec.classViolation` finds nothing in the object a JSON reader delivers for it.
    `hdt` (zone offsets below 100 h, prototype cells holding no wilder `time.Time`) is asked only
    when the output template has a date-time column; `LineLevel.Zone.zone_bound_needed` and
    `LineLevel.Clash.separation_needed` show that neither it nor the UTF-8 condition can go. -/
theorem emitted_bytes_in_class (ext : Ext) (ti to : Tmpl) (line b : Bytes) (fuel : Nat)
    (h : jlLine ⟨genTables, ext⟩ ti to line = .ok (b, none)) (hx : JsonPrint.FloatTextOK ext)
    (hto : (OMap.keys to).Nodup) (hperm : (OMap.keys ti).Perm (OMap.keys to))
    (hutf : ∀ k ∈ OMap.keys to, sanitize k = k)
    (hdt : (∃ kv ∈ to, Cells.format kv.2 = .datetime) → LineLevel.DateTimeSide ext ti to) :
    ∃ body t, b = body ++ [0x0A] ∧ Json.unmarshal body = (t, true) ∧
      LineSpec.classViolation fuel (LineLevel.leafCols to) t = none := by
  -- no two keys of the line are written alike: all are fixed by the escaper (those of the input
  -- because the reader has already put U+FFFD in place of ill-formed bytes)
  exact LineLevel.emitted_line_classes ext ti to line b fuel h hx hto hutf (fun k hk k' hk' hs =>
    LineLevel.separated_of_same_names (line := line) hperm hutf k hk k'
      (by rw [List.append_assoc]; exact List.mem_append_right _ hk') (by rw [hutf k hk]; exact hs)) hdt

/-! ### The model of `value.go` is REGENERATED (`extract/value.go` → `Gen.ValueTable`, `Proofs/ValueTie`)

  `value.Import`, `value.Export`, `NewValue`, `CloneValue` and the fourteen functions of `conversions_import.go` /
  `conversions_export.go` are read from the source on every run (symbolic execution format by format, classified into
  the small syntax of `Model.ValueSyntax`) and interpreted by `Model.ValueGen`.  The theorems of this file are about
  the hand-written `Model.Value`; this one says that `Model.Value` IS that interpretation of today's source, so a
  change of the source (another caster for a format, a layout instead of `cast.ToString`, a dropped nil check, a Row
  accepted by another format, another sentinel, renumbered formats …) stops it from compiling. -/
theorem value_model_is_the_source :
    (Gen.valueTable.known = true ∧ Gen.valueTable.importPreamble = .asModelled ∧
      Gen.valueTable.exportPreamble = .asModelled ∧ Gen.valueTable.newValue = .asModelled ∧
      Gen.valueTable.cloneValue = .asModelled) ∧
    (∀ (env : Value.Env) (f : Format) (typ : Ty) (val : Dyn),
      ValueGen.importByFormatG Gen.valueTable env f typ val = Value.importByFormat env f typ val) ∧
    (∀ (env : Value.Env) (old : Dyn) (f : Format) (typ : Ty) (val : Dyn), f ≠ .bad →
      ValueGen.importCellG Gen.valueTable env old f typ val = Value.importCell env f typ val) ∧
    (∀ (env : Value.Env) (raw : Dyn) (f : Format) (typ : Ty),
      ValueGen.exportCellG Gen.valueTable env raw f = Value.exportVal env (.cell raw f typ)) ∧
    Gen.valueTable.formats = Format.declared.map (fun f => (f.goName, (f.ctorIdx : Int))) :=
  ValueTie.value_as_modelled

/-! ### The text route (`Exporter.Export` / `CreateRow` given JSON text): classes on the bytes (`Proofs/ExportText`) -/

open Jl.JsonQuote (sanitize) in
open Jl.Template in
/-- For text handed straight to `Export` over the regenerated tables: the line is an object text and a newline and
    `LineSpec.classViolation` finds nothing in the object read back from it — whatever the text holds under a declared
    name, the member is in its format's class or the line is rejected.  (Distinct names the escaper leaves alone; the
    zone bound when the template has a date-time column.)  Here the cell comes from `Import` under the OUTPUT
    descriptor, so its raw value is typed (`ExportText.text_cell_typed`): the `swallowed-cast` route does not exist. -/
theorem text_route_in_class (ext : Ext) (to : Tmpl) (line b : Bytes) (fuel : Nat)
    (h : exportLine ⟨genTables, ext⟩ to (.str line) = .ok (b, none)) (hx : JsonPrint.FloatTextOK ext)
    (hto : (OMap.keys to).Nodup) (hutf : ∀ k ∈ OMap.keys to, sanitize k = k)
    (hdt : (∃ kv ∈ to, Cells.format kv.2 = .datetime) → ExportText.DateTimeSideText ext to) :
    ∃ body t, b = body ++ [0x0A] ∧ Json.unmarshal body = (t, true) ∧
      LineSpec.classViolation fuel (LineLevel.leafCols to) t = none :=
  ExportText.text_bytes_in_class ext to line b fuel h hx hto hutf hdt

open Jl.Template in
/-- The two routes DIFFER on the same text and output template — kernel-checked: under `c: string(int)` the text
    `{"c":""}` is rejected by the text route (the import under the output descriptor fails) and emitted by the
    importer→exporter route (`NewValue` swallows the failed cast: the known finding `swallowed-cast` of C05). -/
theorem text_route_differs_from_importer_route :
    exportLine ExportText.Swallowed.env ExportText.Swallowed.to (.str ExportText.Swallowed.line) =
      .ok ([], some .unsupportedImport) ∧
    jlLine ExportText.Swallowed.env [] ExportText.Swallowed.to ExportText.Swallowed.line =
      .ok (ExportText.Swallowed.line ++ [0x0A], none) :=
  ⟨ExportText.Swallowed.routes_differ.1, ExportText.Swallowed.routes_differ.2.1⟩


/-! ### The template builders are the source's (Proofs/FlowTie, Proofs/FlowTieBuilders) -/

/-- Every `With<Format>`, `WithMapped<Format>` and `With` of `template.go`, as written today,
    declares the column the model's `withCol` declares: the format the method is named after (or
    given), the raw type given (or none). -/
theorem builders_are_the_source :
    (∀ (env : Value.Env) (f : Format), f ≠ .bad → ∀ (t : Template.Tmpl) (name : Bytes)
        (fp : Format) (tp : Ty) (sub : Template.Tmpl),
      FlowTie.runBuilder env ("With" ++ f.goName) t name fp tp sub =
        some (.ok (Template.withCol t name f .none))) ∧
    (∀ (ext : Ext) (f : Format), f ≠ .bad → f ≠ .hidden → ∀ (t : Template.Tmpl) (name : Bytes)
        (fp : Format) (typ : Ty) (sub : Template.Tmpl),
      FlowTie.runBuilder ⟨genTables, ext⟩ ("WithMapped" ++ f.goName) t name fp typ sub =
        some (.ok (Template.withCol t name f typ))) ∧
    (∀ (ext : Ext) (t : Template.Tmpl) (name : Bytes) (f : Format) (typ : Ty)
        (sub : Template.Tmpl),
      FlowTie.runBuilder ⟨genTables, ext⟩ "With" t name f typ sub =
        some (.ok (Template.withCol t name f typ))) :=
  ⟨fun env f hf t name fp tp sub => FlowTie.plain_builder_is_withCol env f hf t name fp tp sub,
   fun ext f hf hh t name fp typ sub => FlowTie.mapped_builder_is_withCol ext f hf hh t name fp typ sub,
   FlowTie.with_is_withCol⟩

end Jl.C04
