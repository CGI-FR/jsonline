/-
  Proofs.ScannerLimit — a line over the importer's limit ends the input (C08 "oversize lines are
  reported, never silently swallowed"): whatever the chunking, the scan that meets it returns no token
  and sets `tooLong` (`Scanner.scans_fitting`, then `Next.of_over`); the error stays, the reader is
  never asked again, and the stream hands the error to the processor once.  Not "no token at all
  after the error": see `error_is_sticky` and `sticky_counterexample`.
-/
import Model.Scanner
import Model.Stream
import Proofs.Scanner
import Proofs.Stream

namespace Jl.ScannerLimit
open Jl Jl.Value Jl.Template Jl.Scanner Jl.Stream

/-! ### 1. A scanner that carries an error -/

theorem scan_zero (i m : Nat) (s : St) : scan i m 0 s = (none, s) := by
  unfold scan; rfl

theorem hasErr_of_errOf {s : St} {e : ScanErr} (h : errOf s = some e) : hasErr s = true := by
  have h' : s.err = some e := h
  simp [hasErr, h']

/-- A token, when one comes, is the next line of the BUFFER, not of the pending bytes. -/
theorem scan_with_err (i m fuel : Nat) (s : St) (e : ScanErr) (h : errOf s = some e) :
    errOf (scan i m fuel s).2 = some e ∧
    (scan i m fuel s).2.script = s.script ∧
    ((scan i m fuel s).1 = none → (scan i m fuel s).2.buf = s.buf) ∧
    (∀ tok, (scan i m fuel s).1 = some tok → ∃ raw, tok = dropCR raw ∧ (0x0A : UInt8) ∉ raw ∧
      (s.buf = raw ++ 0x0A :: (scan i m fuel s).2.buf ∨
       (raw ≠ [] ∧ s.buf = raw ∧ (scan i m fuel s).2.buf = []))) := by
  have hE := hasErr_of_errOf h
  cases fuel with
  | zero =>
    rw [scan_zero]
    exact ⟨h, rfl, fun _ => rfl, fun tok ht => by cases ht⟩
  | succ f =>
    obtain ⟨t, ht, e⟩ := scan_succ i m f s
    rw [e]
    cases ht with
    | done => exact ⟨h, rfl, fun _ => rfl, fun tok ht => by cases ht⟩
    | line l rest h1 h2 =>
      refine ⟨h, rfl, fun hn => (by cases hn), fun tok ht => ?_⟩
      cases ht; exact ⟨l, rfl, h2, Or.inl h1⟩
    | endNone _ hb => exact ⟨h, rfl, fun _ => hb.symm, fun tok ht => by cases ht⟩
    | endLast hn _ hb =>
      refine ⟨h, rfl, fun hn => (by cases hn), fun tok ht => ?_⟩
      cases ht; exact ⟨s.buf, rfl, hn, Or.inr ⟨hb, rfl, rfl⟩⟩
    | tooLong _ he' => rw [hE] at he'; cases he'
    | double he' => rw [hE] at he'; cases he'
    | read _ he' => rw [hE] at he'; cases he'

/-- Calling `scan` again and again, with the fuels listed: what each call returned, and the final state. -/
def scans (i m : Nat) : List Nat → St → List (Option Bytes) × St
  | [], s => ([], s)
  | f :: fs, s => ((scan i m f s).1 :: (scans i m fs (scan i m f s).2).1, (scans i m fs (scan i m f s).2).2)

def tokensOf (l : List (Option Bytes)) : List Bytes := l.filterMap id

/-- Once the scanner carries an error, all it still delivers comes from the bytes ALREADY in the buffer.

    The stronger "every later scan returns no token" is FALSE for this port of
    `bufio.Scanner.Scan` (and for bufio.Scanner itself: `Scan` calls the split function with
    `atEOF = true` as soon as `s.err != nil`, and `ScanLines` then returns the buffered bytes as a
    final token): see `sticky_counterexample`.  It is true when the buffer is empty, and the stream
    never looks at such tokens (`Stream.loop` stops at the first `none`, and for a token that comes
    with `errOf ≠ none` reports the error, not a row). -/
theorem error_is_sticky (i m : Nat) (e : ScanErr) : ∀ (fuels : List Nat) (s : St),
    errOf s = some e →
    errOf (scans i m fuels s).2 = some e ∧ (scans i m fuels s).2.script = s.script ∧
    tokensOf (scans i m fuels s).1 <+: specLines s.buf := by
  intro fuels
  induction fuels with
  | nil => intro s h; exact ⟨h, rfl, List.nil_prefix⟩
  | cons f fs ih =>
    intro s h
    obtain ⟨h1, h2, h5, h6⟩ := scan_with_err i m f s e h
    obtain ⟨g1, g2, g3⟩ := ih (scan i m f s).2 h1
    refine ⟨g1, g2.trans h2, ?_⟩
    simp only [scans, tokensOf]
    cases ht : (scan i m f s).1 with
    | none =>
      simp only [List.filterMap_cons, id]
      rw [← h5 ht]; exact g3
    | some tok =>
      simp only [List.filterMap_cons, id]
      obtain ⟨raw, rfl, hraw, hb | ⟨hne, hb, hb'⟩⟩ := h6 tok ht
      · rw [hb, specLines_line raw _ hraw]
        exact List.prefix_cons_inj _ |>.mpr g3
      · -- the buffer is empty now: by `g3` no further token comes
        rw [hb', specLines_nil] at g3
        rw [hb, specLines_last raw hne hraw, show List.filterMap id _ = [] from List.prefix_nil.mp g3]
        exact List.prefix_refl _

theorem too_long_is_sticky' (i m : Nat) (fuels : List Nat) (s : St) (h : errOf s = some .tooLong) :
    errOf (scans i m fuels s).2 = some .tooLong ∧ (scans i m fuels s).2.script = s.script ∧
    tokensOf (scans i m fuels s).1 <+: specLines s.buf :=
  error_is_sticky i m .tooLong fuels s h

/-! ### 2. A line at or over the limit -/

theorem joinLF_length_ge : ∀ (lines : List Bytes), lines.length ≤ (joinLF lines).length
  | [] => Nat.le_refl _
  | l :: ls => by
    have := joinLF_length_ge ls
    simp only [joinLF, List.length_cons, List.length_append]; omega

theorem specLines_joinLF (lines : List Bytes) (h : ∀ l ∈ lines, (0x0A : UInt8) ∉ l) :
    specLines (joinLF lines) = lines.map dropCR := by
  have := specLines_joinLF_append lines h []
  rwa [List.append_nil, specLines_nil, List.append_nil] at this

/-- The states before the over-long line is met (`inv_init`: the initial state is one).  The proofs
    below go through `Scanner.Live` instead, which also allows a state at EOF and bounds the doublings,
    with the pending bytes in an equation of their own. -/
structure Inv (m : Nat) (tail : Bytes) (s : St) (lines : List Bytes) : Prop where
  err : s.err = none
  eof : s.eof = false
  done : s.done = false
  inv : s.start + s.buf.length ≤ s.cap
  capm : s.cap ≤ m
  calm : Calm 100 s.script
  pend : pending s = joinLF lines ++ tail

/-- `Scanner.Scans` of `toks`, then a scan that returns no token and leaves `tooLong` in `sEnd`
    (`Scans.tooLong`, `ScansTooLong.scans`). -/
inductive ScansTooLong (i m : Nat) : St → List Bytes → St → Prop
  | stop {s sEnd : St} : scan i m (scanFuel s) s = (none, sEnd) → errOf sEnd = some .tooLong →
      ScansTooLong i m s [] sEnd
  | cons {s s' sEnd : St} {l : Bytes} {ls : List Bytes} : scan i m (scanFuel s) s = (some l, s') →
      s'.err = none → ScansTooLong i m s' ls sEnd → ScansTooLong i m s (l :: ls) sEnd

theorem _root_.Jl.Scanner.Scans.tooLong {i m : Nat} {s s1 sEnd : St} {toks : List Bytes} (h : Scans i m s toks s1)
    (hs : scan i m (scanFuel s1) s1 = (none, sEnd)) (he : errOf sEnd = some .tooLong) :
    ScansTooLong i m s toks sEnd := by
  induction h with
  | nil => exact .stop hs he
  | cons h1 h2 _ ih => exact .cons h1 h2 (ih hs)

theorem inv_init (i m : Nat) (reader : List ReadEv) (lines : List Bytes) (tail : Bytes)
    (hcalm : Calm 100 reader) (hdata : allData reader = joinLF lines ++ tail) (hle : i ≤ m) :
    Inv m tail (init i reader) lines :=
  ⟨rfl, rfl, rfl, by simp [init], hle, hcalm, by
    simp [pending, init, scriptBytes_of_calm 100 reader hcalm, hdata]⟩

/-- The bytes are lines that fit, then a line of at least `m` bytes (`long` has no LF in its first `m`
    bytes): whatever the chunking, the tokens of `lines` come, then a scan that returns NO token and
    leaves `tooLong`.  What of `long` is beyond the limit, and all of `rest`, stay with the reader for
    ever (`overlong_aftermath`). -/
theorem overlong_line_yields_too_long (i m : Nat) (reader : List ReadEv) (lines : List Bytes)
    (long rest : Bytes) (hcalm : Calm 100 reader)
    (hdata : allData reader = joinLF lines ++ long ++ rest)
    (hfit : FitLines m lines) (hlong : m ≤ long.length) (hnolf : (0x0A : UInt8) ∉ long.take m)
    (hle : i ≤ m) (hpow : m ≤ i * 2 ^ 200) :
    ∃ sEnd, ScansTooLong i m (init i reader) (lines.map dropCR) sEnd ∧
      sEnd.buf = long.take m ∧ scriptBytes sEnd.script = long.drop m ++ rest ∧ sEnd.done = false := by
  obtain ⟨s1, hsc, g1, hp1⟩ := scans_fitting i m (long ++ rest) lines _ hfit
    (Live.init reader hcalm hle hpow) (by rw [pending_init i reader hcalm, hdata, List.append_assoc])
  have hN := scan_next i m s1 g1
  rw [hp1] at hN
  obtain ⟨sEnd, hr, he, h2, h3, h4⟩ := hN.of_over (by simp; omega)
    (by rw [List.take_append_of_le_length hlong]; exact hnolf)
  refine ⟨sEnd, hsc.tooLong hr he, ?_, ?_, h4⟩
  · rw [h2, List.take_append_of_le_length hlong]
  · rw [h3, List.drop_append_of_le_length hlong]

theorem ScansTooLong.err {i m : Nat} {s sEnd : St} {toks : List Bytes} (h : ScansTooLong i m s toks sEnd) :
    errOf sEnd = some .tooLong := by
  induction h with
  | stop _ he => exact he
  | cons _ _ _ ih => exact ih

/-- Why "no token after `tooLong`" is false at the level of `scan` (see `error_is_sticky`). -/
theorem scan_after_error_delivers_buffer (i m f : Nat) (s : St) (e : ScanErr) (h : errOf s = some e)
    (hd : s.done = false) (hb : s.buf ≠ []) (hn : (0x0A : UInt8) ∉ s.buf) :
    scan i m (f + 1) s = (some (dropCR s.buf), { s with buf := [], start := s.start + s.buf.length }) := by
  have h' : s.err = some e := h
  simp [scan, scanLines, hd, splitLF_none.mpr hn, h', hb, List.length_pos_iff]

/-- After the over-long line (`sEnd` as in `overlong_line_yields_too_long`) the only token that can
    still come is ONE truncated fragment: the first `m` bytes of `long` that were in the buffer.  It
    comes with `errOf = some .tooLong`, so `GetRow` reports the error and makes no row of it; the
    streaming loop has stopped before, at the `none`. -/
theorem overlong_aftermath (i m : Nat) (sEnd : St) (long : Bytes) (fuels : List Nat)
    (h : errOf sEnd = some .tooLong) (hb : sEnd.buf = long.take m) (hn : (0x0A : UInt8) ∉ long.take m) :
    errOf (scans i m fuels sEnd).2 = some .tooLong ∧ (scans i m fuels sEnd).2.script = sEnd.script ∧
    (tokensOf (scans i m fuels sEnd).1 = [] ∨ tokensOf (scans i m fuels sEnd).1 = [dropCR (long.take m)]) := by
  obtain ⟨h1, h2, h3⟩ := error_is_sticky i m .tooLong fuels sEnd h
  refine ⟨h1, h2, ?_⟩
  rw [hb] at h3
  by_cases hne : long.take m = []
  · left
    rw [hne, specLines_nil] at h3
    exact List.prefix_nil.mp h3
  · rw [specLines_last _ hne hn] at h3
    obtain ⟨z, hz⟩ := h3
    cases ht : tokensOf (scans i m fuels sEnd).1 with
    | nil => left; rfl
    | cons t ts =>
      right
      rw [ht] at hz
      simp only [List.cons_append, List.cons.injEq, List.append_eq_nil_iff] at hz
      rw [hz.1, hz.2.1]

def Complete (pre : Bytes) : Prop := pre = [] ∨ ∃ p, pre = p ++ [0x0A]

theorem lines_of_complete (m : Nat) (pre : Bytes) (hc : Complete pre) (hfit : LinesFit m pre) :
    ∃ lines, pre = joinLF lines ∧ FitLines m lines := by
  obtain ⟨lines, last, hp, hl, hn, -⟩ := lines_of_fit m _ pre (Nat.le_refl _) hfit
  suffices last = [] by rw [this, List.append_nil] at hp; exact ⟨lines, hp, hl⟩
  rcases hc with rfl | ⟨q, rfl⟩
  · exact (List.append_eq_nil_iff.mp hp.symm).2
  · rcases List.eq_nil_or_concat last with h | ⟨l', x, rfl⟩
    · exact h
    · rw [List.concat_eq_append, ← List.append_assoc] at hp
      have := (List.append_inj' hp rfl).2
      simp only [List.cons.injEq, and_true] at this
      exact absurd (by rw [List.concat_eq_append, ← this]; simp) hn

theorem specLines_append (pre rest : Bytes) (hpre : Complete pre) :
    specLines (pre ++ rest) = specLines pre ++ specLines rest := by
  obtain ⟨lines, rfl, hl⟩ := lines_of_complete (pre.length + 1) pre hpre
    fun _ hseg _ => Nat.lt_succ_of_le hseg.length_le
  rw [specLines_joinLF_append lines (fun l h => (hl l h).1), specLines_joinLF lines (fun l h => (hl l h).1)]

/-- `overlong_line_yields_too_long` in the vocabulary of `C07.scanner_yields_the_lines`. -/
theorem overlong_line_yields_too_long_bytes (i m : Nat) (reader : List ReadEv)
    (pre long rest : Bytes) (hcalm : Calm 100 reader)
    (hdata : allData reader = pre ++ long ++ rest) (hpre : Complete pre)
    (hfit : LinesFit m pre) (hlong : m ≤ long.length) (hnolf : (0x0A : UInt8) ∉ long.take m)
    (hle : i ≤ m) (hpow : m ≤ i * 2 ^ 200) :
    ∃ sEnd, ScansTooLong i m (init i reader) (specLines pre) sEnd ∧
      sEnd.buf = long.take m ∧ scriptBytes sEnd.script = long.drop m ++ rest ∧ sEnd.done = false := by
  obtain ⟨lines, rfl, hl⟩ := lines_of_complete m pre hpre hfit
  rw [specLines_joinLF lines (fun l h => (hl l h).1)]
  exact overlong_line_yields_too_long i m reader lines long rest hcalm hdata hl hlong hnolf hle hpow

/-! ### 3. The stream -/

theorem ScansTooLong.scans {i m : Nat} {s sEnd : St} {toks : List Bytes}
    (h : ScansTooLong i m s toks sEnd) :
    ∃ s1, Scans i m s toks s1 ∧ scan i m (scanFuel s1) s1 = (none, sEnd) ∧ errOf sEnd = some .tooLong := by
  induction h with
  | stop hs he => exact ⟨_, .nil, hs, he⟩
  | cons hs he _ ih =>
    obtain ⟨s1, h1, h2⟩ := ih
    exact ⟨s1, .cons hs he h1, h2⟩

/-- The processor calls one line causes when the processor never stops the stream. -/
def callsOf : LineOutcome → List (Bool × Option ErrClass)
  | .importError e => [(false, some e)]
  | .written _ => [(true, none)]
  | .exportError e => [(true, none), (true, some e)]

def writtenOf : LineOutcome → Option Bytes
  | .written b => some b
  | .importError _ => none
  | .exportError _ => none

theorem foldThen_tolerant (k : Obs → Outcome Obs) : ∀ (os : List LineOutcome) (obs : Obs),
    foldThen .tolerant k os obs =
      k ⟨obs.ret, obs.calls ++ os.flatMap callsOf, obs.writes ++ os.filterMap writtenOf⟩ := by
  intro os
  induction os with
  | nil => intro obs; simp [foldThen]
  | cons o rest ih =>
    intro obs
    cases o <;> simp [foldThen, Proc.result, ih, callsOf, writtenOf, List.filterMap_cons, addc, addw]

theorem foldOutcomes_tolerant (os : List LineOutcome) (obs : Obs) :
    foldOutcomes .tolerant os obs =
      ⟨obs.ret, obs.calls ++ os.flatMap callsOf, obs.writes ++ os.filterMap writtenOf⟩ := by
  exact Outcome.ok.inj ((foldThen_ok .tolerant os obs).symm.trans (foldThen_tolerant .ok os obs))

theorem foldThen_default_written (k : Obs → Outcome Obs) : ∀ (bs : List Bytes) (obs : Obs),
    foldThen .default k (bs.map .written) obs =
      k ⟨obs.ret, obs.calls ++ List.replicate bs.length (true, none), obs.writes ++ bs⟩ := by
  intro bs
  induction bs with
  | nil => intro obs; simp [foldThen]
  | cons b rest ih =>
    intro obs
    simp [foldThen, Proc.result, ih, List.replicate_succ, addc, addw]

/-- Any processor: `Stream()` is the outcomes of the lines before the over-long one folded through the
    processor, and then — unless the processor has stopped the stream at an earlier line — ONE more
    processor call `(nil row, too-long)`, whose answer is the return value.
    (`hmap`: every line before has a proper outcome, as in `C07_stream_eq_spec`.) -/
theorem stream_overlong (cfg : Cfg) (reader : List ReadEv) (ws : List WriteEv) (lines : List Bytes)
    (long rest : Bytes) (hcalm : Calm 100 reader)
    (hdata : allData reader = joinLF lines ++ long ++ rest)
    (hfit : FitLines cfg.maxSize lines) (hlong : cfg.maxSize ≤ long.length)
    (hnolf : (0x0A : UInt8) ∉ long.take cfg.maxSize)
    (hle : cfg.initSize ≤ cfg.maxSize) (hpow : cfg.maxSize ≤ cfg.initSize * 2 ^ 200)
    (hws : ∀ w ∈ ws, w = WriteEv.ok) (os : List LineOutcome)
    (hmap : mapOutcomes cfg (lines.map dropCR) = .ok os) :
    stream cfg reader ws =
      foldThen cfg.proc (fun obs => .ok (endCall cfg.proc (some .tooLong) obs)) os ⟨none, [], []⟩ := by
  obtain ⟨sEnd, hsc, -⟩ := overlong_line_yields_too_long cfg.initSize cfg.maxSize reader lines long rest
    hcalm hdata hfit hlong hnolf hle hpow
  have hfuel : (lines.map dropCR).length < scriptSize reader + 2 := by
    have h1 := joinLF_length_ge lines
    have h2 := scriptSize_ge reader
    rw [hdata] at h2
    simp only [List.length_append, List.length_map] at h2 ⊢
    omega
  obtain ⟨s1, hsc1, hs, he⟩ := hsc.scans
  exact (loop_scans_end cfg hsc1 hs (scriptSize reader + 2) ws ⟨none, [], []⟩ os hws hmap hfuel).trans
    (by rw [he])

/-- Default processor, an earlier line failed: the stream has stopped there, with that
    line's error — it is exactly the stream of the lines before the over-long one. -/
theorem stream_overlong_default_earlier_failure (cfg : Cfg) (hp : cfg.proc = .default)
    (reader : List ReadEv) (ws : List WriteEv) (lines : List Bytes)
    (long rest : Bytes) (hcalm : Calm 100 reader)
    (hdata : allData reader = joinLF lines ++ long ++ rest)
    (hfit : FitLines cfg.maxSize lines) (hlong : cfg.maxSize ≤ long.length)
    (hnolf : (0x0A : UInt8) ∉ long.take cfg.maxSize)
    (hle : cfg.initSize ≤ cfg.maxSize) (hpow : cfg.maxSize ≤ cfg.initSize * 2 ^ 200)
    (hws : ∀ w ∈ ws, w = WriteEv.ok) (os : List LineOutcome)
    (hmap : mapOutcomes cfg (lines.map dropCR) = .ok os)
    (hfail : ∃ o ∈ os, ∀ b, o ≠ .written b) :
    stream cfg reader ws = .ok (foldOutcomes .default os ⟨none, [], []⟩) ∧
    stream cfg reader ws = specObs cfg (joinLF lines) ∧
    (foldOutcomes .default os ⟨none, [], []⟩).ret ≠ none := by
  have h := stream_overlong cfg reader ws lines long rest hcalm hdata hfit hlong hnolf hle hpow hws os hmap
  obtain ⟨h1, h2⟩ := foldThen_default_fail (fun obs => .ok (endCall .default (some .tooLong) obs)) os ⟨none, [], []⟩ hfail
  rw [hp, h1] at h
  refine ⟨h, ?_, h2⟩
  rw [h]
  unfold specObs
  rw [specLines_joinLF lines (fun l hl => (hfit l hl).1), hmap, hp]

/-! ### 4. Concrete instances: initial buffer 4, limit 8 -/

section Examples

/-- `ab\n123456789{}\n{}\n` in chunks of 3. -/
def exReader : List ReadEv :=
  [.data [0x61, 0x62, 0x0A], .data [0x31, 0x32, 0x33], .data [0x34, 0x35, 0x36], .data [0x37, 0x38, 0x39],
   .data [0x7B, 0x7D, 0x0A], .data [0x7B, 0x7D, 0x0A]]

def ex0 : St := init 4 exReader
def ex1 : St := (scan 4 8 (scanFuel ex0) ex0).2
def ex2 : St := (scan 4 8 (scanFuel ex1) ex1).2
def ex3 : St := (scan 4 8 (scanFuel ex2) ex2).2
def ex4 : St := (scan 4 8 (scanFuel ex3) ex3).2

/-- first call: the token `ab`, no error -/
example : (scan 4 8 (scanFuel ex0) ex0).1 = some [0x61, 0x62] ∧ errOf ex1 = none := by decide +kernel

/-- second call: no token, `tooLong`; the buffer holds `12345678`, the reader still holds `9`,
    `{}\n`, `{}\n` -/
example : (scan 4 8 (scanFuel ex1) ex1).1 = none ∧ errOf ex2 = some .tooLong ∧
    ex2.buf = [0x31, 0x32, 0x33, 0x34, 0x35, 0x36, 0x37, 0x38] ∧
    scriptBytes ex2.script = [0x39, 0x7B, 0x7D, 0x0A, 0x7B, 0x7D, 0x0A] := by decide +kernel

/-- COUNTEREXAMPLE to "once `errOf = some .tooLong`, every later `scan` returns no token": the third
    call delivers the truncated fragment `12345678` (with `errOf` still `tooLong`). -/
theorem sticky_counterexample :
    errOf ex2 = some .tooLong ∧
    (scan 4 8 (scanFuel ex2) ex2).1 = some [0x31, 0x32, 0x33, 0x34, 0x35, 0x36, 0x37, 0x38] ∧
    errOf ex3 = some .tooLong := by decide +kernel

/-- fourth, fifth call: nothing, for ever (`error_is_sticky` on an empty buffer); the reader has not been asked again -/
example : (scan 4 8 (scanFuel ex3) ex3).1 = none ∧ errOf ex4 = some .tooLong ∧ ex4.buf = [] ∧
    (scan 4 8 (scanFuel ex4) ex4).1 = none ∧
    scriptBytes ex4.script = [0x39, 0x7B, 0x7D, 0x0A, 0x7B, 0x7D, 0x0A] := by decide +kernel

/-- the same with `scans`: `ab`, then nothing (`tooLong`), then the fragment, then nothing;
    neither `{}` ever comes out -/
example : (scans 4 8 [828, 100, 1, 7, 100, 100] ex0).1 =
    [some [0x61, 0x62], none, some [0x31, 0x32, 0x33, 0x34, 0x35, 0x36, 0x37, 0x38], none, none, none] := by
  decide +kernel

/-- The hypotheses of `overlong_line_yields_too_long` are satisfiable. -/
example : ∃ sEnd, ScansTooLong 4 8 (init 4 exReader) [[0x61, 0x62]] sEnd ∧
    sEnd.buf = [0x31, 0x32, 0x33, 0x34, 0x35, 0x36, 0x37, 0x38] ∧
    scriptBytes sEnd.script = [0x39, 0x7B, 0x7D] ++ [0x0A, 0x7B, 0x7D, 0x0A] ∧ sEnd.done = false :=
  overlong_line_yields_too_long 4 8 exReader [[0x61, 0x62]]
    [0x31, 0x32, 0x33, 0x34, 0x35, 0x36, 0x37, 0x38, 0x39, 0x7B, 0x7D] [0x0A, 0x7B, 0x7D, 0x0A]
    (by simp [Calm, exReader]) (by decide +kernel)
    (by intro l hl; simp only [List.mem_singleton] at hl; subst hl; decide +kernel)
    (by decide +kernel) (by decide +kernel) (by decide +kernel) (pow_bound (k := 1) (by decide +kernel) (by decide +kernel))

/-- The stream on `123456789{}\n{}\n` in chunks of 3 (no line before the over-long one, so no call
    of `getRow`): one processor call with the too-long error, nothing written. -/
example (env : Env) (p : Proc) :
    stream { env := env, ti := [], to := [], proc := p, initSize := 4, maxSize := 8 }
      [.data [0x31, 0x32, 0x33], .data [0x34, 0x35, 0x36], .data [0x37, 0x38, 0x39],
       .data [0x7B, 0x7D, 0x0A], .data [0x7B, 0x7D, 0x0A]] [] =
    .ok ⟨p.result 0 (some .tooLong), [(false, some .tooLong)], []⟩ :=
  stream_overlong { env := env, ti := [], to := [], proc := p, initSize := 4, maxSize := 8 }
    [.data [0x31, 0x32, 0x33], .data [0x34, 0x35, 0x36], .data [0x37, 0x38, 0x39],
       .data [0x7B, 0x7D, 0x0A], .data [0x7B, 0x7D, 0x0A]] [] []
    [0x31, 0x32, 0x33, 0x34, 0x35, 0x36, 0x37, 0x38, 0x39, 0x7B, 0x7D] [0x0A, 0x7B, 0x7D, 0x0A]
    (by simp [Calm]) (by decide +kernel) (by intro l hl; cases hl) (by show 8 ≤ _; decide +kernel)
    (by show (0x0A : UInt8) ∉ List.take 8 _; decide +kernel) (by show 4 ≤ 8; decide +kernel)
    (pow_bound (k := 1) (by show 8 ≤ 4 * 2 ^ 1; decide +kernel) (by decide +kernel)) (by simp) [] rfl

end Examples

end Jl.ScannerLimit
