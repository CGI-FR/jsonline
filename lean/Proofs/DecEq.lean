/-
  Proofs.DecEq — decidable equality of the model's values (`Dyn`, `Val`, rows), of the reader's syntax
  trees (`JV`) and of outcomes, so that a concrete run of the model — a Demo state, the reading of a
  concrete line, a counterexample — is a closed proposition the kernel evaluates (`decide +kernel`).
-/
import Model.Basic
import Model.JsonRead

namespace Jl

deriving instance DecidableEq for Dyn

instance : DecidableEq Val := fun a b =>
  decidable_of_iff (Dyn.val a = Dyn.val b) ⟨Dyn.val.inj, congrArg _⟩

instance : DecidableEq Members := fun a b =>
  decidable_of_iff (Val.row a = Val.row b) ⟨Val.row.inj, congrArg _⟩

instance : DecidableEq DynList := fun a b =>
  decidable_of_iff (Dyn.arr a = Dyn.arr b) ⟨Dyn.arr.inj, congrArg _⟩

instance : DecidableEq DynMap := fun a b =>
  decidable_of_iff (Dyn.gomap a = Dyn.gomap b) ⟨Dyn.gomap.inj, congrArg _⟩

deriving instance DecidableEq for JV

instance : DecidableEq JVList := fun a b =>
  decidable_of_iff (JV.arr a = JV.arr b) ⟨JV.arr.inj, congrArg _⟩

instance : DecidableEq JVMembers := fun a b =>
  decidable_of_iff (JV.obj a = JV.obj b) ⟨JV.obj.inj, congrArg _⟩

deriving instance DecidableEq for Outcome

end Jl
