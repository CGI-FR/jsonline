/-
  Proofs.JlTie — the hand-written model of the COMMAND (Model.Jl, Driver.JlCase, property C19) assumes what
  cmd/jl says.

  extract/jlfacts.go regenerates Gen.JlFacts from cmd/jl on every run; Model.JlFactsSpec states by hand the
  facts the model rests on.  Here: nothing is `unknown`, every fact is the expected one (one named theorem per
  fact), and the facts read as functions (`…G`) are the model's.  (The fields of each fact are explained in
  Model.JlFactsSyntax, the expected values and what in the model they stand for in Model.JlFactsSpec.)

  Trusted: that the regexp STRING means `JlDescriptor.Matches` (no regexp engine is modelled); and
  `parseDescriptorG` / `createTemplateG` read their fact only by matching it literally, then call the model's own
  `splitDescriptor` / `lookupB` / `ofYaml` / `ofInline`: their `…_is_…` theorems say that the fact is the expected
  one, no more.
-/
import Model.JlFactsSpec
import Model.Jl
import Model.Stream
import Gen.JlFacts

namespace Jl.JlTie
open Jl Jl.JlFacts Jl.JlCmd

theorem jl_facts_known : Gen.jlFacts.known = true := by decide +kernel

theorem fileRoute_as_modelled : Gen.jlFacts.fileRoute = .withThenSubRows := by decide +kernel
theorem parseRowDefinition_as_modelled : Gen.jlFacts.parseRowDefinition = .readThenParse := by decide +kernel
theorem readFile_as_modelled : Gen.jlFacts.readFile = .statReadYaml := by decide +kernel
theorem fromString_as_modelled : Gen.jlFacts.fromString = .unmarshalIntoNewRow := by decide +kernel
theorem inlineRoute_as_modelled : Gen.jlFacts.inlineRoute = .splitN ":" 2 .sameAsInput := by decide +kernel
theorem templateFlags_as_modelled : Gen.jlFacts.templateFlags = .flags "filename" "template" := by decide +kernel
theorem createTemplate_as_modelled : Gen.jlFacts.createTemplate = .fileThenInlineReplaces 0 "{}" := by decide +kernel
theorem run_as_modelled : Gen.jlFacts.run = .stream 1 0 "Stdin" 1 "Stdout" := by decide +kernel
theorem processor_as_modelled : Gen.jlFacts.processor = .logsAndReturnsNil := by decide +kernel
theorem main_as_modelled : Gen.jlFacts.mainFn = .exits "Stderr" 1 1 := by decide +kernel
theorem stdStreams_as_modelled : Gen.jlFacts.stdStreams = JlFactsSpec.expected.stdStreams := by decide +kernel
theorem printCalls_as_modelled : Gen.jlFacts.printCalls = [] := by decide +kernel

theorem jl_facts_as_modelled : Gen.jlFacts = JlFactsSpec.expected := by decide +kernel

/-! ### the split rule -/

/-- `strings.SplitN(s, sep, 2)` for a one-byte separator: the part before the first separator, and — when
    there is one — everything after it.  `none` = abstain (another separator, another count). -/
def splitG (r : InlineRoute) (s : Bytes) : Option (Bytes × Option Bytes) :=
  match r with
  | .splitN ":" 2 _ =>
    some (s.takeWhile (· != 0x3A),
      match s.dropWhile (· != 0x3A) with
      | [] => none
      | _ :: b => some b)
  | _ => none

theorem split_is_splitColon (s : Bytes) : splitG Gen.jlFacts.inlineRoute s = some (splitColon s) := by
  show some _ = some _
  unfold splitColon
  cases s.dropWhile (· != 0x3A) <;> rfl

/-- The output descriptor of an inline leaf, as the facts say it: the text after the first colon, or what the
    input gave — `inlineCol`'s `dout`. -/
def inlineLeafG (r : InlineRoute) (s : Bytes) : Option ((Format × Ty) × (Format × Ty)) :=
  match r, splitG r s with
  | .splitN _ _ .sameAsInput, some (a, b) =>
    let din := parseDescriptor a
    some (din, match b with | some b => parseDescriptor b | none => din)
  | _, _ => none

theorem inline_leaf_is_inlineCol (i o : Bytes) :
    inlineLeafG Gen.jlFacts.inlineRoute (inlineText i o)
      = some (parseDescriptor (splitColon (inlineText i o)).1,
              match (splitColon (inlineText i o)).2 with
              | some b => parseDescriptor b
              | none => parseDescriptor (splitColon (inlineText i o)).1) := by
  unfold inlineLeafG
  rw [split_is_splitColon]
  rfl

/-! ### the descriptor -/

/-- The expression Proofs.JlDescriptor specifies (`Matches`) and `JlCmd.splitDescriptor` implements. -/
def descriptorRegexp : String := "^([^\\(]+)(?:\\(([^\\)]+)\\))?$"

/-- The source's expression is that one; group 1 is looked up in `formatRegistry` with `Auto` as the
    fallback, group 2 in `typeRegistry` with nil as the fallback — `JlCmd.parseDescriptor`. -/
theorem regexp_as_modelled :
    Gen.jlFacts.descriptor = .regexp descriptorRegexp 1 2 "formatRegistry" "Auto" "typeRegistry" := by decide +kernel

theorem descriptor_as_modelled : Gen.jlFacts.descriptor = JlFactsSpec.expected.descriptor :=
  regexp_as_modelled

/-- `parseDescriptor` of the facts on the groups the expression gives (`JlCmd.splitDescriptor`): `none` = abstain. -/
def parseDescriptorG (d : Descriptor) (s : Bytes) : Option (Format × Ty) :=
  match d with
  | .regexp "^([^\\(]+)(?:\\(([^\\)]+)\\))?$" 1 2 "formatRegistry" "Auto" "typeRegistry" =>
    some (match splitDescriptor s with
      | none => (.auto, .none)
      | some (g1, g2) => ((lookupB Gen.formatRegistry g1).getD .auto, (lookupB Gen.typeRegistry g2).getD .none))
  | _ => none

theorem parseDescriptor_is_parseDescriptor (s : Bytes) :
    parseDescriptorG Gen.jlFacts.descriptor s = some (parseDescriptor s) := by
  simp only [regexp_as_modelled, descriptorRegexp, parseDescriptorG]
  rfl

/-! ### createTemplate, the processor, the streams -/

/-- `createTemplate` as the facts say it, over the parsed file columns and the parsed `-t` (`none` = empty or `{}`). -/
def createTemplateG (c : CreateTemplate) (env : Value.Env) (file : List ColDef) (inline : Option (List ColDef)) :
    Option (Outcome (Template.Tmpl × Template.Tmpl)) :=
  match c with
  | .fileThenInlineReplaces 0 "{}" =>
    some (match ofYaml env 16 file with
      | .ok fileT => (match inline with | none => .ok fileT | some cols => ofInline env 16 cols)
      | o => o)
  | _ => none

theorem createTemplate_is_createTemplate (env : Value.Env) (file : List ColDef) (inline : Option (List ColDef)) :
    createTemplateG Gen.jlFacts.createTemplate env file inline = some (createTemplate env file inline) := by
  simp only [createTemplate_as_modelled, createTemplateG]
  rfl

def procG : Processor → Option Stream.Proc
  | .logsAndReturnsNil => some .tolerant
  | .unknown _ => none

/-- The processor jl installs is `Proc.tolerant`: whatever it is given, the stream goes on. -/
theorem processor_is_tolerant :
    procG Gen.jlFacts.processor = some .tolerant ∧ ∀ n e, Stream.Proc.tolerant.result n e = none :=
  ⟨rfl, fun _ _ => rfl⟩

/-- Stdout is handed to `GetExporter` and asked for its descriptor by `computeColor`, nothing else; nothing is
    printed without a writer; the template read by the importer is the first of the pair, the one the exporter
    writes with the second; a template error ends the process with status 1, a stream error does not. -/
theorem streams_as_modelled :
    (Gen.jlFacts.stdStreams.filter fun e => e.2.1 == "os.Stdout") = [("computeColor", "os.Stdout", ".Fd"), ("run", "os.Stdout", ".GetExporter")]
    ∧ Gen.jlFacts.printCalls = []
    ∧ ∃ code, Gen.jlFacts.run = .stream code 0 "Stdin" 1 "Stdout" ∧ code ≠ 0 :=
  ⟨by decide +kernel, printCalls_as_modelled, 1, run_as_modelled, by decide⟩

end Jl.JlTie
