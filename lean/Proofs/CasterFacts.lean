/-
  Proofs.CasterFacts — what the casters of the regenerated table do on each shape of value, and what a cell does with
  their answers.  The clauses are read from the table by kernel evaluation (`*_clauses`, `castTo_keeps`, a few single
  clauses further down): a changed table re-opens the proof there.  The facts are about `castNamed genTables ext`: a
  call at lower fuel is `castNamed` again by `CastFuel.call_eq_cast`, and `cast.To` is `CastFuel.castTo_cast` away.
-/
import Model.Value
import Model.ValueGen
import Model.Tables
import Model.CastGen
import Proofs.CastEval
import Proofs.CastTyped
import Proofs.CastFuel
import Proofs.CastInt
import Proofs.CastBin
import Proofs.Time
import Proofs.Bind

namespace Jl
open Cast
open CastFuel (call_eq_cast)

/-! ### The integer casters on a `json.Number` (the one clause of theirs that re-enters the interpreter) -/

theorem cast_num (ext : Ext) (tgt : IntTy) (s : Bytes) :
    castNamed genTables ext (casterOfInt tgt) (.num s) = castNamed genTables ext (casterOfInt tgt) (.str s) := by
  refine cast_int_clause fun br hok => ?_
  have hnum : numBranchSpec tgt br := of_decide_eq_true hok
  unfold numBranchSpec at hnum
  split at hnum
  · subst hnum
    simp only [evalBranch, evalE, call_eq_cast ext 10]
  · exact absurd hnum id

theorem cast_num_source (ext : Ext) (tgt : IntTy) (v : Int) :
    castNamed genTables ext (casterOfInt tgt) (.num (IntText.formatInt v)) =
      if tgt.inRange v then .ok (.int tgt v) else .err .cast :=
  (cast_num ext tgt _).trans (cast_text_source ext tgt v)

end Jl

namespace Jl.CasterFacts
open Jl Jl.Value Cast

-- `CasterFacts.castTo_cast`: the modules above write `cast.To`'s equation under this namespace, beside the facts
-- about the caster it leads to.
export Jl.CastFuel (castTo_cast)
open Jl.CastFuel (call_eq_cast)
open Jl.CastTyped (forall_ty allTys mem_allTys genTables_ok gen_castTo_none callNamed_nil isCaster_of_clause call_result_ty typeOf_inv)

/-! ### The interpreter over any table -/

section
variable {T : CastTables} {ext : Ext}

/-- The guard `val.Year() < 0 || val.Year() > 9999` that `ToDate` and `ToString` put before
    formatting a time. -/
theorem year_guarded_eq (T : CastTables) (ext : Ext) (g : Nat) (self sent : String) (e : E) (t : GoTime) :
    evalBranch T ext (g + 1) self
        (.guarded (.or (.cmp .lt (.year .val) 0) (.cmp .gt (.year .val) 9999)) sent e) (.time t) =
      if Time.year t < 0 ∨ Time.year t > 9999 then failWith T sent else evalE T ext (.time t) .nil e := by
  simp only [evalBranch, evalG, evalE, cmpInt]
  by_cases h1 : Time.year t < 0
  · simp [h1]
  · by_cases h2 : Time.year t > 9999 <;> simp [h1, h2]

/-! ### The cell -/

/-- One trip of a cell through the text: the column `(f, ty)` holding `v` exports `e`, and `e'` — what the JSON
    reader delivers for `e` — is imported under the same descriptor as `v'`.  With `v' = v` the trip is a fixed
    point of the column (`SelfReadable.FixedPoint`); with `v'` equal to `v` as a value it is lossless (C13). -/
structure Trip (env : Env) (f : Format) (ty : Ty) (v e e' v' : Dyn) : Prop where
  out : exportVal env (.cell v f ty) = .ok e
  back : importCell env f ty e' = .ok (.cell v' f ty, none)

theorem Trip.and {env : Env} {f : Format} {ty : Ty} {v e e' v' : Dyn} (h : Trip env f ty v e e' v') :
    exportVal env (.cell v f ty) = .ok e ∧ importCell env f ty e' = .ok (.cell v' f ty, none) :=
  ⟨h.out, h.back⟩

theorem exportFail_failWith (T : CastTables) (s : String) : exportFail (failWith T s) = .err .unsupportedExport := by
  rcases failWith_cases T s with h | h <;> rw [h] <;> rfl

theorem exportFail_inv {o : Outcome Dyn} {r : Dyn} (h : exportFail o = .ok r) : o = .ok r := by
  cases o with
  | ok a => exact h
  | err e => cases e <;> cases h
  | panic p => cases h

def exportCaster : Format → Option String
  | .string => some "ToString"
  | .numeric => some "ToNumber"
  | .boolean => some "ToBool"
  | .timestamp => some "ToTimestamp"
  | _ => none

theorem exportVal_single {raw : Dyn} {f : Format} {ty : Ty} {name : String}
    (hf : exportCaster f = some name) (hraw : raw ≠ .nil) :
    exportVal ⟨T, ext⟩ (.cell raw f ty) = exportFail (castNamed T ext name raw) := by
  unfold exportVal
  split
  · exact absurd rfl hraw
  · cases f <;> cases hf <;> rfl

theorem export_single {raw r : Dyn} {f : Format} {ty : Ty} {name : String}
    (hf : exportCaster f = some name) (h : castNamed T ext name raw = .ok r) (hraw : raw ≠ .nil) :
    exportVal ⟨T, ext⟩ (.cell raw f ty) = .ok r := by
  rw [exportVal_single hf hraw, h]; rfl

theorem export_single_inv {raw e : Dyn} {f : Format} {ty : Ty} {name : String}
    (hf : exportCaster f = some name) (h : exportVal ⟨T, ext⟩ (.cell raw f ty) = .ok e) (hraw : raw ≠ .nil) :
    castNamed T ext name raw = .ok e :=
  exportFail_inv ((exportVal_single hf hraw).symm.trans h)

theorem export_binary {raw : Dyn} {ty : Ty} {b : Bytes}
    (h : castNamed T ext "ToBinary" raw = .ok (.bytes b)) (hraw : raw ≠ .nil) :
    exportVal ⟨T, ext⟩ (.cell raw .binary ty) = .ok (.str (Base64.encode b)) := by
  unfold exportVal
  split
  · exact absurd rfl hraw
  · simp only [h, exportFail]

/-- date and datetime: `ToDate` / `ToTime`, then `ToString`. -/
def exportVia : Format → Option String
  | .date => some "ToDate"
  | .datetime => some "ToTime"
  | _ => none

theorem exportVal_via {raw : Dyn} {f : Format} {ty : Ty} {name : String}
    (hf : exportVia f = some name) (hraw : raw ≠ .nil) :
    exportVal ⟨T, ext⟩ (.cell raw f ty) =
      match exportFail (castNamed T ext name raw) with
      | .ok t => exportFail (castNamed T ext "ToString" t)
      | o => o := by
  unfold exportVal
  split
  · exact absurd rfl hraw
  · cases f <;> cases hf <;> rfl

theorem export_via {raw t r : Dyn} {f : Format} {ty : Ty} {name : String}
    (hf : exportVia f = some name) (h1 : castNamed T ext name raw = .ok t)
    (h2 : castNamed T ext "ToString" t = .ok r) (hraw : raw ≠ .nil) :
    exportVal ⟨T, ext⟩ (.cell raw f ty) = .ok r := by
  rw [exportVal_via hf hraw, h1]
  simp only [exportFail, h2]

theorem export_via_inv {raw e : Dyn} {f : Format} {ty : Ty} {name : String}
    (hf : exportVia f = some name) (h : exportVal ⟨T, ext⟩ (.cell raw f ty) = .ok e) (hraw : raw ≠ .nil) :
    ∃ t, castNamed T ext name raw = .ok t ∧ castNamed T ext "ToString" t = .ok e := by
  rw [exportVal_via hf hraw] at h
  split at h
  · rename_i t ht
    exact ⟨t, exportFail_inv ht, exportFail_inv h⟩
  · rename_i hne
    exact absurd h (hne e)

/-- What the JSON reader hands to a cell for a written scalar: a string, a number by its
    literal, a bool. -/
def Scalar : Dyn → Prop
  | .str _ | .num _ | .bool _ => True
  | _ => False

theorem importCell_scalar (env : Env) (f : Format) (ty : Ty) {x : Dyn} (hx : Scalar x) :
    importCell env f ty x = importByFormat env f ty x := by
  cases x <;> first | exact hx.elim | rfl

/-- The default caster of the formats that import through `importFrom`. -/
def importCaster : Format → Option String
  | .string => some "ToString"
  | .numeric => some "ToNumber"
  | .boolean => some "ToBool"
  | .date => some "ToDate"
  | .datetime => some "ToTime"
  | .timestamp => some "ToInt64"
  | _ => none

/-! `Import` of what the JSON reader delivers is a conversion followed by `v.raw, err = …` (`ValueGen.assignRaw`): the
    conversion format by format, in any environment.  The failures are read off these equations where they are needed
    (`LineInts.importCell_carrier`, `LineBinary.importCell_binary_str`). -/

theorem importFrom_typed (env : Env) (dflt : String) (x : Dyn) {ty : Ty} (hty : ty ≠ .none) :
    importFrom env dflt x ty = importFail (castTo env.T env.ext ty x) := by
  cases ty <;> first | rfl | exact absurd rfl hty

theorem importCell_from (env : Env) {f : Format} {dflt : String} (hf : importCaster f = some dflt)
    (ty : Ty) {x : Dyn} (hx : Scalar x) :
    importCell env f ty x = ValueGen.assignRaw f ty (importFrom env dflt x ty) := by
  rw [importCell_scalar _ _ _ hx]
  cases f <;> cases hf <;> rfl

theorem importCell_castTo (env : Env) {f : Format} (hf : f = .auto ∨ f = .hidden) (ty : Ty) {x : Dyn}
    (hx : Scalar x) :
    importCell env f ty x = ValueGen.assignRaw f ty (castTo env.T env.ext ty x) := by
  rw [importCell_scalar _ _ _ hx]
  rcases hf with rfl | rfl <;> rfl

theorem importCell_base64 (env : Env) {s : Bytes}
    (hs : castNamed env.T env.ext "ToString" (.str s) = .ok (.str s)) {ty : Ty} (hty : ty ≠ .none) :
    importCell env .binary ty (.str s) = ValueGen.assignRaw .binary ty
      (match Base64.decode s with
      | none => .err .unsupportedImport
      | some b => importFail (castTo env.T env.ext ty (.bytes b))) := by
  refine congrArg (ValueGen.assignRaw .binary ty) ?_
  rw [importFromBinary_eq, hs]
  cases ty <;> first | exact absurd rfl hty | rfl

theorem importCell_typed {f : Format} {ty : Ty} {x r : Dyn} {dflt : String}
    (hf : importCaster f = some dflt) (h : castTo T ext ty x = .ok r) (hx : Scalar x) (hty : ty ≠ .none) :
    importCell ⟨T, ext⟩ f ty x = .ok (.cell r f ty, none) := by
  rw [importCell_from _ hf ty hx, importFrom_typed _ _ _ hty, h]
  rfl

theorem importCell_untyped {f : Format} {x r : Dyn} {dflt : String}
    (hf : importCaster f = some dflt) (h : castNamed T ext dflt x = .ok r) (hx : Scalar x) :
    importCell ⟨T, ext⟩ f .none x = .ok (.cell r f .none, none) := by
  rw [importCell_from _ hf _ hx, importFrom, h]
  rfl

theorem importCell_auto {ty : Ty} {x r : Dyn}
    (h : castTo T ext ty x = .ok r) (hx : Scalar x) :
    importCell ⟨T, ext⟩ .auto ty x = .ok (.cell r .auto ty, none) := by
  rw [importCell_castTo _ (.inl rfl) ty hx, h]
  rfl

theorem importCell_binary {ty : Ty} {s b : Bytes} {r : Dyn}
    (hs : castNamed T ext "ToString" (.str s) = .ok (.str s)) (hd : Base64.decode s = some b)
    (h : castTo T ext ty (.bytes b) = .ok r) (hty : ty ≠ .none) :
    importCell ⟨T, ext⟩ .binary ty (.str s) = .ok (.cell r .binary ty, none) := by
  rw [importCell_base64 ⟨T, ext⟩ hs hty, hd]
  simp only [h]
  rfl

theorem importCell_binary_untyped {s b : Bytes}
    (hs : castNamed T ext "ToString" (.str s) = .ok (.str s)) (hd : Base64.decode s = some b) :
    importCell ⟨T, ext⟩ .binary .none (.str s) = .ok (.cell (.bytes b) .binary .none, none) := by
  simp only [importCell, importByFormat, importFromBinary, hs, hd, importFail]

end

/-! #### What `Export` of a cell returns, over the regenerated table -/

/-- A normal result satisfying `P`, or an error — not a panic: `Within (fun _ => True) (fun _ => False) o` of
    Proofs.Walk, which says nothing of a normal result, together with `P` of that result. -/
inductive Yields (P : Dyn → Prop) : Outcome Dyn → Prop
  | ok {r : Dyn} (h : P r) : Yields P (.ok r)
  | err (e : ErrClass) : Yields P (.err e)

theorem Yields.imp {P Q : Dyn → Prop} {o : Outcome Dyn} (hpq : ∀ r, P r → Q r) : Yields P o → Yields Q o
  | .ok h => .ok (hpq _ h)
  | .err e => .err e

theorem Yields.ne_panic {P : Dyn → Prop} {o : Outcome Dyn} (h : Yields P o) (s : String) : o ≠ .panic s := by
  cases h <;> nofun

theorem Yields.of_ok {P : Dyn → Prop} {o : Outcome Dyn} {r : Dyn} (h : Yields P o) (ho : o = .ok r) : P r := by
  subst ho
  cases h
  assumption

/-- The Go type of what `Export` returns for a non-nil raw value, format by format (`none`: the raw value itself,
    or `ErrUnsupportedFormat`). -/
def exportTy : Format → Option Ty
  | .string | .binary | .date | .datetime => some .str
  | .numeric => some .num
  | .boolean => some .bool
  | .timestamp => some (.int .i64)
  | .auto | .hidden | .bad => none

theorem exportFail_cast (ext : Ext) {name : String} (hn : name ∈ CastTyped.casterNames) {t : Ty}
    (ht : resultTyOfCaster? name = some t) {v : Dyn} (hv : v ≠ .nil) :
    Yields (fun r => r ≠ .nil ∧ typeOf r = t) (exportFail (castNamed genTables ext name v)) := by
  have hg := CastTyped.gen_cast_C10 ext name hn v
  cases h : castNamed genTables ext name v with
  | ok r =>
    rw [h] at hg
    exact .ok ⟨fun hr => hv (hg.1.mp hr), Option.some.inj ((hg.2 hv).trans ht)⟩
  | err e => cases e <;> exact .err _
  | panic s => rw [h] at hg; exact hg.elim

/-- `Export` of a cell never panics, and what it returns has the type its format prints: the assertion `b.([]byte)`
    of the Binary format is met because `ToBinary` of a non-nil value is a `[]byte`, and the second cast of the two
    time formats gets a non-nil value. -/
theorem exportCell_typed (ext : Ext) {raw : Dyn} (hraw : raw ≠ .nil) (f : Format) (typ : Ty) :
    Yields (fun e => match exportTy f with | some t => typeOf e = t | none => e = raw)
      (exportVal ⟨genTables, ext⟩ (.cell raw f typ)) := by
  have single : ∀ {name t}, name ∈ CastTyped.casterNames → resultTyOfCaster? name = some t →
      Yields (fun e => typeOf e = t) (exportFail (castNamed genTables ext name raw)) :=
    fun hn ht => (exportFail_cast ext hn ht hraw).imp fun _ h => h.2
  have via : ∀ {name t}, name ∈ CastTyped.casterNames → resultTyOfCaster? name = some t →
      Yields (fun e => typeOf e = .str)
        (match exportFail (castNamed genTables ext name raw) with
        | .ok t => exportFail (castNamed genTables ext "ToString" t)
        | o => o) := by
    intro name t hn ht
    have h := exportFail_cast ext hn ht hraw
    generalize exportFail (castNamed genTables ext name raw) = o at h
    cases h with
    | ok hr => exact (exportFail_cast ext (by decide) rfl hr.1).imp fun _ h => h.2
    | err e => exact .err e
  cases f with
  | string => rw [exportVal_single rfl hraw]; exact single (by decide) rfl
  | numeric => rw [exportVal_single rfl hraw]; exact single (by decide) rfl
  | boolean => rw [exportVal_single rfl hraw]; exact single (by decide) rfl
  | timestamp => rw [exportVal_single rfl hraw]; exact single (by decide) rfl
  | date => rw [exportVal_via rfl hraw]; exact via (by decide) rfl
  | datetime => rw [exportVal_via rfl hraw]; exact via (by decide) rfl
  | auto => rw [exportVal_auto]; exact .ok rfl
  | hidden => rw [exportVal_hidden]; exact .ok rfl
  | bad => rw [exportVal_bad _ hraw]; exact .err _
  | binary =>
    have h := exportFail_cast ext (name := "ToBinary") (by decide) rfl hraw
    rw [exportVal]
    · generalize exportFail (castNamed genTables ext "ToBinary" raw) = o at h
      cases h with
      | ok hr =>
        rename_i r
        cases r <;> cases hr.2
        exact .ok rfl
      | err e => exact .err e
    · exact hraw

/-! ### The regenerated table: `cast.To` by sample type, and the clauses the facts below rest on -/

/-- Every sample type `cast.To` has a case for goes to a caster whose clause for that very type is
    `return val, nil`. -/
theorem self_clauses : allTys.all (fun ty => ty == .none || ty == .other ||
    match dispatchOf genTables ty with
    | .tail c .val => clauseOf genTables c ty == some (.ret .val)
    | _ => false) = true := by decide +kernel

theorem castTo_keeps (ext : Ext) {ty : Ty} {x : Dyn} (hx : x = .nil ∨ typeOf x = ty) (hty : ty ≠ .other) :
    castTo genTables ext ty x = .ok x := by
  by_cases hn : ty = .none
  · subst hn
    exact gen_castTo_none ext x
  · have h := List.all_eq_true.mp self_clauses ty (mem_allTys ty)
    simp only [Bool.or_eq_true, beq_iff_eq, hn, hty, false_or] at h
    split at h
    · rename_i c hd
      have hc := eq_of_beq h
      rcases hx with rfl | rfl
      · exact (castTo_tail hd ext .nil).trans (callNamed_nil genTables_ok ext (isCaster_of_clause hc) 21)
      · rw [castTo_clause hd hc]
        rfl
    · cases h

theorem castTo_self (ext : Ext) {ty : Ty} {x : Dyn} (hx : typeOf x = ty) (hty : ty ≠ .other) :
    castTo genTables ext ty x = .ok x :=
  castTo_keeps ext (.inr hx) hty

theorem gen_timeStringFormat : genTables.timeStringFormat = "2006-01-02T15:04:05Z07:00" := by decide +kernel

theorem failWith_int64 : failWith genTables "ErrUnableToCastToInt64" = .err .cast :=
  failWith_of_wraps (by decide +kernel)

theorem failWith_string : failWith genTables "ErrUnableToCastToString" = .err .cast :=
  failWith_of_wraps (by decide +kernel)

theorem toString_text_clauses :
    clauseOf genTables "ToString" .str = some (.ret .val) ∧
    clauseOf genTables "ToString" .bytes = some (.ret (.toStr .val)) ∧
    clauseOf genTables "ToString" .num = some (.ret (.toStr .val)) := by decide +kernel

theorem toString_value_clauses :
    clauseOf genTables "ToString" .bool = some (.ret (.fmtBool .val)) ∧
    clauseOf genTables "ToString" .f64 = some (.ret (.fmtFloat .val 102 (-1) 64)) ∧
    clauseOf genTables "ToString" .f32 = some (.ret (.fmtFloat (.toF64 .val) 102 (-1) 32)) ∧
    clauseOf genTables "ToString" .time =
      some (.guarded (.or (.cmp .lt (.year .val) 0) (.cmp .gt (.year .val) 9999)) "ErrUnableToCastToString"
        (.timeFormat .val .timeStringFormat)) := by decide +kernel

theorem toNumber_text_clauses :
    clauseOf genTables "ToNumber" .num = some (.ret .val) ∧
    clauseOf genTables "ToNumber" .str = some (.ret (.toNum .val)) ∧
    clauseOf genTables "ToNumber" .bytes = some (.ret (.toNum (.toStr .val))) := by decide +kernel

theorem toNumber_value_clauses :
    clauseOf genTables "ToNumber" .bool = some (.ifBool (.numLit [0x31]) (.numLit [0x30])) ∧
    clauseOf genTables "ToNumber" .f64 = some (.ret (.toNum (.fmtFloat .val 102 (-1) 64))) ∧
    clauseOf genTables "ToNumber" .f32 = some (.ret (.toNum (.fmtFloat (.toF64 .val) 102 (-1) 32))) ∧
    clauseOf genTables "ToNumber" (.int .i64) = some (.ret (.toNum (.fmtInt .val 10))) := by decide +kernel

theorem toBinary_clauses :
    clauseOf genTables "ToBinary" .bytes = some (.ret .val) ∧
    clauseOf genTables "ToBinary" .str = some (.ret (.toBytes .val)) ∧
    clauseOf genTables "ToBinary" .num = some (.ret (.toBytes .val)) := by decide +kernel

theorem toBool_value_clauses :
    clauseOf genTables "ToBool" .bool = some (.ret .val) ∧
    (∀ t, clauseOf genTables "ToBool" (.int t) = some (.ret (.ne0 .val))) ∧
    clauseOf genTables "ToBool" .f64 = some (.ret (.ne0 .val)) ∧
    clauseOf genTables "ToBool" .f32 = some (.ret (.ne0 .val)) :=
  have h : ∀ ty, (ty = .bool → clauseOf genTables "ToBool" ty = some (.ret .val)) ∧
      ((Tables.isInt ty || Tables.isFlt ty) = true → clauseOf genTables "ToBool" ty = some (.ret (.ne0 .val))) :=
    forall_ty (by decide +kernel)
  ⟨(h _).1 rfl, fun _ => (h _).2 rfl, (h _).2 rfl, (h _).2 rfl⟩

theorem toBool_other_clauses :
    clauseOf genTables "ToBool" .str = some (.special "bool.string") ∧
    clauseOf genTables "ToBool" .num = some (.special "bool.number") ∧
    clauseOf genTables "ToBool" .other = some (.fail "ErrUnableToCastToBool") := by decide +kernel

theorem toFloat64_clauses :
    clauseOf genTables "ToFloat64" .str = some (.parse (.parseFloat 64) .parsed "ErrUnableToCastToFloat64") ∧
    clauseOf genTables "ToFloat64" .num = some (.tail "ToFloat64" (.toStr .val)) ∧
    clauseOf genTables "ToFloat64" .bool = some (.ifBool (.f64Lit 1) (.f64Lit 0)) := by decide +kernel

theorem toFloat32_clauses :
    clauseOf genTables "ToFloat32" .str =
      some (.parse (.parseFloat 32) (.toF32 .parsed) "ErrUnableToCastToFloat32") ∧
    clauseOf genTables "ToFloat32" .num = some (.tail "ToFloat32" (.toStr .val)) ∧
    clauseOf genTables "ToFloat32" .bool = some (.ifBool (.f32Lit 1) (.f32Lit 0)) := by decide +kernel

theorem toTimestamp_clauses :
    clauseOf genTables "ToTimestamp" (.int .i64) = some (.ret .val) ∧
    clauseOf genTables "ToTimestamp" .time = some (.ret (.unix .val)) := by decide +kernel

def toTimeBranch : Ty → Branch
  | .none => .ret .val
  | .time => .ret .val
  | .str => .special "time.string"
  | .bytes => .special "time.bytes"
  | .int .i64 => .ret (.timeUnix .val)
  | _ => .special "time.default"

def toDateBranch : Ty → Branch
  | .none => .ret .val
  | .time => .guarded (.or (.cmp .lt (.year .val) 0) (.cmp .gt (.year .val) 9999))
      "ErrUnableToCastToDate" (.timeFormat .val (.lit "2006-01-02"))
  | .str => .special "date.string"
  | .bytes => .special "date.bytes"
  | .int .i64 => .tail "ToDate" (.timeUnix .val)
  | _ => .special "date.default"

/-! ### The casters on each shape of value -/

theorem importCell_cast {ext : Ext} {f : Format} {ty : Ty} {x r : Dyn} {dflt name : String}
    (hf : importCaster f = some dflt) (hc : CastFuel.toCaster ty = some name)
    (h : castNamed genTables ext name x = .ok r) (hx : Scalar x) :
    importCell ⟨genTables, ext⟩ f ty x = .ok (.cell r f ty, none) :=
  importCell_typed hf ((castTo_cast ext hc x).trans h) hx (by rintro rfl; cases hc)

variable (ext : Ext)

theorem toString_nil : castNamed genTables ext "ToString" .nil = .ok .nil :=
  callNamed_nil genTables_ok ext (isCaster_of_clause toString_text_clauses.1) 22

theorem toString_str (s : Bytes) : castNamed genTables ext "ToString" (.str s) = .ok (.str s) :=
  castNamed_clause (v := .str s) toString_text_clauses.1 ext

theorem toString_bytes (s : Bytes) : castNamed genTables ext "ToString" (.bytes s) = .ok (.str s) :=
  castNamed_clause (v := .bytes s) toString_text_clauses.2.1 ext

theorem toString_num (l : Bytes) : castNamed genTables ext "ToString" (.num l) = .ok (.str l) :=
  castNamed_clause (v := .num l) toString_text_clauses.2.2 ext

theorem toString_bool (b : Bool) :
    castNamed genTables ext "ToString" (.bool b) = .ok (.str (IntText.formatBool b)) :=
  castNamed_clause (v := .bool b) toString_value_clauses.1 ext

theorem toString_time_eq (t : GoTime) :
    castNamed genTables ext "ToString" (.time t) =
      if Time.year t < 0 ∨ Time.year t > 9999 then .err .cast else .ok (.str (Time.formatRFC3339 t)) := by
  rw [castNamed_clause (v := .time t) toString_value_clauses.2.2.2 ext, year_guarded_eq, failWith_string]
  simp only [evalE, layoutString, gen_timeStringFormat, beq_self_eq_true, if_true]

theorem toString_time (t : GoTime) (hy0 : 0 ≤ Time.year t) (hy1 : Time.year t ≤ 9999) :
    castNamed genTables ext "ToString" (.time t) = .ok (.str (Time.formatRFC3339 t)) := by
  rw [toString_time_eq, if_neg (by omega)]

theorem toString_time_inv (t : GoTime) (r : Dyn)
    (h : castNamed genTables ext "ToString" (.time t) = .ok r) :
    r = .str (Time.formatRFC3339 t) ∧ 0 ≤ Time.year t ∧ Time.year t ≤ 9999 := by
  rw [toString_time_eq] at h
  split at h
  · cases h
  · cases h
    exact ⟨rfl, by omega, by omega⟩

theorem toNumber_num (l : Bytes) : castNamed genTables ext "ToNumber" (.num l) = .ok (.num l) :=
  castNamed_clause (v := .num l) toNumber_text_clauses.1 ext

theorem toNumber_str (s : Bytes) : castNamed genTables ext "ToNumber" (.str s) = .ok (.num s) :=
  castNamed_clause (v := .str s) toNumber_text_clauses.2.1 ext

theorem toNumber_bytes (s : Bytes) : castNamed genTables ext "ToNumber" (.bytes s) = .ok (.num s) :=
  castNamed_clause (v := .bytes s) toNumber_text_clauses.2.2 ext

theorem toNumber_bool (b : Bool) :
    castNamed genTables ext "ToNumber" (.bool b) = .ok (.num (if b then [0x31] else [0x30])) := by
  rw [castNamed_clause (v := .bool b) toNumber_value_clauses.1 ext]
  cases b <;> rfl

theorem toNumber_time (t : GoTime) :
    castNamed genTables ext "ToNumber" (.time t) = .ok (.num (IntText.formatInt t.sec)) := by
  -- the clause is `ToNumber(val.Unix())`; evaluated whole, since `toNumber_of_int` wants `t.sec` in the range of int64
  simp [castNamed, callNamed, genTables, Gen.casters, findClause, typeOf, evalBranch, evalE]

theorem toBinary_bytes (b : Bytes) : castNamed genTables ext "ToBinary" (.bytes b) = .ok (.bytes b) :=
  castNamed_clause (v := .bytes b) toBinary_clauses.1 ext

theorem toBinary_str (s : Bytes) : castNamed genTables ext "ToBinary" (.str s) = .ok (.bytes s) :=
  castNamed_clause (v := .str s) toBinary_clauses.2.1 ext

theorem toBinary_num (l : Bytes) : castNamed genTables ext "ToBinary" (.num l) = .ok (.bytes l) :=
  castNamed_clause (v := .num l) toBinary_clauses.2.2 ext

theorem toBinary_time (t : GoTime) :
    castNamed genTables ext "ToBinary" (.time t) = .ok (.bytes (LE.put 8 (LE.toU 64 t.sec))) := by
  -- `binPut` writes `u % 2^64`
  have hm : LE.toU 64 t.sec % 18446744073709551616 = LE.toU 64 t.sec := Nat.mod_eq_of_lt (LE.toU_lt 64 t.sec)
  simp [castNamed, callNamed, genTables, Gen.casters, Gen.binFns, findClause, typeOf, evalBranch,
    evalE, binPut, hm, LE.put]

/-! ToFloat64 of a text (`ToBool` of a text goes through it; both float types at once: `LineFloats` below) -/

theorem toFloat64_str (s : Bytes) (y : Nat) (hp : ext.parseFloat s 64 = some (some y)) :
    castNamed genTables ext "ToFloat64" (.str s) = .ok (.f64 y) := by
  rw [castNamed_clause (v := .str s) toFloat64_clauses.1 ext]
  simp [evalBranch, runParse, hp, evalE]

theorem toFloat64_num (l : Bytes) (y : Nat) (hp : ext.parseFloat l 64 = some (some y)) :
    castNamed genTables ext "ToFloat64" (.num l) = .ok (.f64 y) := by
  rw [castNamed_clause (v := .num l) toFloat64_clauses.2.1 ext]
  simp only [evalBranch, evalE, call_eq_cast ext 10]
  exact toFloat64_str ext l y hp

theorem toBool_bool (b : Bool) : castNamed genTables ext "ToBool" (.bool b) = .ok (.bool b) :=
  castNamed_clause (v := .bool b) toBool_value_clauses.1 ext

theorem toBool_int (t : IntTy) (v : Int) : castNamed genTables ext "ToBool" (.int t v) = .ok (.bool (v != 0)) :=
  castNamed_clause (v := .int t v) (toBool_value_clauses.2.1 t) ext

theorem toBool_time (t : GoTime) :
    castNamed genTables ext "ToBool" (.time t) = .ok (.bool (t.sec != 0)) := by
  simp [castNamed, callNamed, genTables, Gen.casters, findClause, typeOf, evalBranch, evalE]

theorem toBool_str_eq (s : Bytes) :
    castNamed genTables ext "ToBool" (.str s) =
      match IntText.parseBool s with
      | some b => .ok (.bool b)
      | none => nonzero genTables (castNamed genTables ext) (.str s) := by
  rw [castNamed_clause (v := .str s) toBool_other_clauses.1 ext, evalBranch_special, special_bool_string,
    call_eq_cast ext 9]
  rfl

theorem toBool_str_parseBool (s : Bytes) (b : Bool) (h : IntText.parseBool s = some b) :
    castNamed genTables ext "ToBool" (.str s) = .ok (.bool b) := by
  rw [toBool_str_eq, h]

theorem toBool_num (l : Bytes) (y : Nat) (hp : ext.parseFloat l 64 = some (some y)) :
    castNamed genTables ext "ToBool" (.num l) = .ok (.bool (!Float.isZero Float.f64 y)) := by
  rw [castNamed_clause (v := .num l) toBool_other_clauses.2.1 ext, evalBranch_special, special_bool_number,
    call_eq_cast ext 9]
  exact nonzero_of_ok (toFloat64_num ext l y hp)

theorem toBool_other (raw : Dyn) (h : typeOf raw = .other) :
    castNamed genTables ext "ToBool" raw = failWith genTables "ErrUnableToCastToBool" :=
  castNamed_clause (v := raw) (br := .fail "ErrUnableToCastToBool") (h ▸ toBool_other_clauses.2.2) ext

/-! ToInt64 (beyond Proofs.CastInt) -/

theorem toInt64_str (s : Bytes) :
    castNamed genTables ext "ToInt64" (.str s) =
      match IntText.parseInt0 s 64 with
      | some n => .ok (.int .i64 n)
      | none => .err .cast :=
  cast_text ext .i64 s

theorem toInt64_num (l : Bytes) :
    castNamed genTables ext "ToInt64" (.num l) =
      match IntText.parseInt0 l 64 with
      | some n => .ok (.int .i64 n)
      | none => .err .cast :=
  (cast_num ext .i64 l).trans (toInt64_str ext l)

theorem parseInt0_formatInt_i64 (v : Int) (hv : IntTy.i64.inRange v) :
    IntText.parseInt0 (IntText.formatInt v) 64 = some v := by
  have : -(2 ^ 63 : Int) ≤ v ∧ v < 2 ^ 63 := by
    simp [IntTy.inRange, IntTy.min, IntTy.max, IntTy.signed, IntTy.bits] at hv
    omega
  rw [IntText.parseInt0_formatInt]
  exact if_pos this

theorem toInt64_formatInt (v : Int) (hv : IntTy.i64.inRange v) :
    castNamed genTables ext "ToInt64" (.num (IntText.formatInt v)) = .ok (.int .i64 v) := by
  rw [toInt64_num, parseInt0_formatInt_i64 v hv]

theorem toInt64_u64_too_big (v : Int) (hbig : 9223372036854775807 < v) :
    castNamed genTables ext "ToInt64" (.int .u64 v) = .err .cast := by
  rw [castNamed_clause (v := .int .u64 v) (by decide +kernel : clauseOf genTables "ToInt64" (.int .u64) =
    some (.guarded (.cmp .gt .val 9223372036854775807) "ErrUnableToCastToInt64" (.toInt .i64 .val))) ext]
  simp [evalBranch, evalG, evalE, cmpInt, hbig, failWith_int64]

theorem toInt64_bytes (bs : Bytes) (hl : bs.length = 8) :
    castNamed genTables ext "ToInt64" (.bytes bs) = .ok (.int .i64 (LE.ofU 64 (LE.get bs))) := by
  have h := (castTo_cast ext (ty := .int .i64) rfl (.bytes bs)).symm.trans
    (decode_fixed ext (ty := .int .i64) rfl bs)
  rwa [if_pos (by rw [hl]; rfl)] at h

theorem toInt64_ok {w i : Dyn} (hw : w ≠ .nil) (h : castNamed genTables ext "ToInt64" w = .ok i) :
    ∃ x, i = .int .i64 x :=
  typeOf_inv (call_result_ty ext (t := .int .i64) (by decide +kernel) (by decide +kernel) nofun _ hw h)

theorem toString_ok {w i : Dyn} (hw : w ≠ .nil) (h : castNamed genTables ext "ToString" w = .ok i) :
    ∃ s, i = .str s :=
  typeOf_inv (call_result_ty ext (t := .str) (by decide +kernel) (by decide +kernel) nofun _ hw h)

theorem toTimestamp_dflt (v : Dyn) (hv : typeOf v ∉ [.none, .int .i64, .str, .bytes, .time]) :
    castNamed genTables ext "ToTimestamp" v = castNamed genTables ext "ToInt64" v := by
  rw [castNamed_clause (v := v) (forall_ty (p := fun ty => ty ∉ [.none, .int .i64, .str, .bytes, .time] →
    clauseOf genTables "ToTimestamp" ty = some (.tail "ToInt64" .val)) (by decide +kernel) _ hv) ext,
    evalBranch_tail, call_eq_cast ext 10]

theorem toTimestamp_time (t : GoTime) :
    castNamed genTables ext "ToTimestamp" (.time t) = .ok (.int .i64 t.sec) :=
  castNamed_clause (v := .time t) toTimestamp_clauses.2 ext

theorem toTimestamp_bool (b : Bool) :
    castNamed genTables ext "ToTimestamp" (.bool b) = .ok (.int .i64 (if b then 1 else 0)) :=
  (toTimestamp_dflt ext (.bool b) (by simp [typeOf])).trans (cast_bool_source ext .i64 b)

theorem toTimestamp_int_eq (t : IntTy) (v : Int) (hv : t.inRange v) :
    castNamed genTables ext "ToTimestamp" (.int t v) =
      if IntTy.i64.inRange v then .ok (.int .i64 v) else .err .cast := by
  by_cases ht : t = .i64
  · subst ht
    rw [if_pos hv]
    exact castNamed_clause (v := .int .i64 v) toTimestamp_clauses.1 ext
  · exact (toTimestamp_dflt ext (.int t v) (by simpa [typeOf] using ht)).trans (cast_int_source ext .i64 t v hv)

/-- The bound `v ≤ MaxInt64` is needed: a uint64 above it is rejected (`toInt64_u64_too_big`). -/
theorem toTimestamp_int (t : IntTy) (v : Int) (hv : t.inRange v)
    (hmax : v ≤ 9223372036854775807) :
    castNamed genTables ext "ToTimestamp" (.int t v) = .ok (.int .i64 v) :=
  (toTimestamp_int_eq ext t v hv).trans
    (if_pos ⟨Int.le_trans (show IntTy.i64.min ≤ t.min by cases t <;> decide) hv.1, hmax⟩)

/-- ToTimestamp of a json.Number: ParseInt(literal, 0, 64) — base prefixes, underscores and a
    leading `+` included. -/
theorem toTimestamp_num (l : Bytes) :
    castNamed genTables ext "ToTimestamp" (.num l) =
      match IntText.parseInt0 l 64 with
      | some n => .ok (.int .i64 n)
      | none => .err .cast :=
  (toTimestamp_dflt ext (.num l) (by simp [typeOf])).trans (toInt64_num ext l)

theorem toTimestamp_float {src : Dyn} {x : FVal} (hx : fvalOf src = some x) :
    castNamed genTables ext "ToTimestamp" src =
      if GettersExact.FloatFits .i64 x then .ok (.int .i64 (GettersExact.truncOf x)) else .err .cast :=
  (toTimestamp_dflt ext src (by cases src <;> cases hx <;> simp [typeOf])).trans (cast_float ext .i64 hx)

theorem toTime_branch (v : Dyn) :
    castNamed genTables ext "ToTime" v = evalBranch genTables ext 23 "ToTime" (toTimeBranch (typeOf v)) v :=
  castNamed_clause (v := v) (forall_ty (p := fun ty => clauseOf genTables "ToTime" ty = some (toTimeBranch ty))
    (by decide +kernel) _) ext

theorem toTime_time (t : GoTime) : castNamed genTables ext "ToTime" (.time t) = .ok (.time t) :=
  toTime_branch ext (.time t)

/-- time.Unix(v, 0), rendered in the process zone; the model answers inside ±2^62 seconds. -/
theorem timeUnix_of {T : CastTables} {ext : Ext} {v off : Int} (hz : ext.zoneOffset v = some off)
    (hv : -(2 ^ 62 : Int) < v ∧ v < 2 ^ 62) :
    evalE T ext (.int .i64 v) .nil (.timeUnix .val) = .ok (.time ⟨v, 0, off⟩) := by
  simp [evalE, hz]
  omega

theorem timeUnix_ok {T : CastTables} {ext : Ext} {x : Int} {r : Dyn}
    (h : evalE T ext (.int .i64 x) .nil (.timeUnix .val) = .ok r) :
    ∃ off, ext.zoneOffset x = some off ∧ r = .time ⟨x, 0, off⟩ := by
  simp only [evalE] at h
  split at h
  · cases h
  · cases hz : ext.zoneOffset x with
    | none => simp [hz] at h
    | some off =>
      simp only [hz, Outcome.ok.injEq] at h
      exact ⟨off, rfl, h.symm⟩

theorem toTime_i64_eq (v : Int) :
    castNamed genTables ext "ToTime" (.int .i64 v) = evalE genTables ext (.int .i64 v) .nil (.timeUnix .val) :=
  toTime_branch ext (.int .i64 v)

theorem toTime_i64 (v off : Int) (hz : ext.zoneOffset v = some off) (hv : -(2 ^ 62 : Int) < v ∧ v < 2 ^ 62) :
    castNamed genTables ext "ToTime" (.int .i64 v) = .ok (.time ⟨v, 0, off⟩) :=
  (toTime_i64_eq ext v).trans (timeUnix_of hz hv)

theorem toTime_str_eq (s : Bytes) :
    castNamed genTables ext "ToTime" (.str s) =
      match Time.parseRFC3339 s with
      | some t => .ok (.time t)
      | none => via genTables (castNamed genTables ext) "ToInt64" "ToTime" "ErrUnableToCastToTime" (.str s) := by
  rw [toTime_branch]
  show special genTables ext 22 "time.string" (.str s) = _
  rw [special_time_string, gen_timeStringFormat, call_eq_cast ext 9]
  rfl

theorem toTime_bytes_eq (s : Bytes) :
    castNamed genTables ext "ToTime" (.bytes s) =
      orElse (castNamed genTables ext "ToTime" (.str s))
        (via genTables (castNamed genTables ext) "ToInt64" "ToTime" "ErrUnableToCastToTime" (.bytes s)) := by
  rw [toTime_branch]
  show special genTables ext 22 "time.bytes" (.bytes s) = _
  rw [special_time_bytes, call_eq_cast ext 9]

theorem toTime_dflt (v : Dyn) (hv : toTimeBranch (typeOf v) = .special "time.default") :
    castNamed genTables ext "ToTime" v =
      via genTables (castNamed genTables ext) "ToInt64" "ToTime" "ErrUnableToCastToTime" v := by
  rw [toTime_branch, hv, evalBranch_special, special_time_default, call_eq_cast ext 9]

/-- No zone function is consulted (in Go the *location* of the result is Local or a fixed
    zone depending on the process zone; the offset, which is all that rendering uses, is the
    parsed one either way). -/
theorem toTime_str (s : Bytes) (t : GoTime) (h : Time.parseRFC3339 s = some t) :
    castNamed genTables ext "ToTime" (.str s) = .ok (.time t) := by
  rw [toTime_str_eq, h]

theorem toTime_bytes (s : Bytes) (t : GoTime) (h : Time.parseRFC3339 s = some t) :
    castNamed genTables ext "ToTime" (.bytes s) = .ok (.time t) := by
  rw [toTime_bytes_eq, toTime_str ext s t h, orElse_ok]

theorem toTime_str_int (s : Bytes) (n off : Int) (hA : Time.parseRFC3339 s = none)
    (hB : IntText.parseInt0 s 64 = some n) (hz : ext.zoneOffset n = some off)
    (hn : -(2 ^ 62 : Int) < n ∧ n < 2 ^ 62) :
    castNamed genTables ext "ToTime" (.str s) = .ok (.time ⟨n, 0, off⟩) := by
  rw [toTime_str_eq, hA, via_of_ok (i := .int .i64 n) (by rw [toInt64_str, hB]), toTime_i64 ext n off hz hn]

theorem toTime_str_fail (s : Bytes) (hA : Time.parseRFC3339 s = none) (hB : IntText.parseInt0 s 64 = none) :
    castNamed genTables ext "ToTime" (.str s) = failWith genTables "ErrUnableToCastToTime" := by
  rw [toTime_str_eq, hA]
  simp only [via, toInt64_str, hB]

theorem toTime_num (v off : Int) (hz : ext.zoneOffset v = some off) (hv : -(2 ^ 62 : Int) < v ∧ v < 2 ^ 62) :
    castNamed genTables ext "ToTime" (.num (IntText.formatInt v)) = .ok (.time ⟨v, 0, off⟩) := by
  have hr : IntTy.i64.inRange v := by
    simp [IntTy.inRange, IntTy.min, IntTy.max, IntTy.signed, IntTy.bits]; omega
  rw [toTime_dflt ext _ rfl, via_of_ok (toInt64_formatInt ext v hr),
    toTime_i64 ext v off hz hv]

theorem toTime_bool (b : Bool) (off : Int) (hz : ext.zoneOffset (if b then 1 else 0) = some off) :
    castNamed genTables ext "ToTime" (.bool b) = .ok (.time ⟨if b then 1 else 0, 0, off⟩) := by
  rw [toTime_dflt ext _ rfl, via_of_ok (first := "ToInt64") (cast_bool_source ext .i64 b),
    toTime_i64 ext _ off hz (by cases b <;> decide)]

/-- Both readings of `string(bytes)` are tried first; then the bytes as a little-endian int64 of Unix seconds. -/
theorem toTime_bytes_int (bs : Bytes) (hl : bs.length = 8)
    (hA : Time.parseRFC3339 bs = none) (hB : IntText.parseInt0 bs 64 = none) (off : Int)
    (hz : ext.zoneOffset (LE.ofU 64 (LE.get bs)) = some off)
    (hv : -(2 ^ 62 : Int) < LE.ofU 64 (LE.get bs) ∧ LE.ofU 64 (LE.get bs) < 2 ^ 62) :
    castNamed genTables ext "ToTime" (.bytes bs) = .ok (.time ⟨LE.ofU 64 (LE.get bs), 0, off⟩) := by
  rw [toTime_bytes_eq, toTime_str_fail ext bs hA hB, orElse_failWith, via_of_ok (toInt64_bytes ext bs hl),
    toTime_i64 ext _ off hz hv]

/-- Where the time `ToTime` returns comes from: the value itself, the RFC 3339 reading of its text, or a
    Unix second (whatever reading of the value gave it) rendered at the offset the process zone has there. -/
inductive TimeOrigin (ext : Ext) : Dyn → GoTime → Prop
  | self (t : GoTime) : TimeOrigin ext (.time t) t
  | str {s : Bytes} {t : GoTime} : Time.parseRFC3339 s = some t → TimeOrigin ext (.str s) t
  | bytes {s : Bytes} {t : GoTime} : Time.parseRFC3339 s = some t → TimeOrigin ext (.bytes s) t
  | unix (v : Dyn) {x off : Int} : ext.zoneOffset x = some off → TimeOrigin ext v ⟨x, 0, off⟩

theorem toTime_ok (v r : Dyn) (h : castNamed genTables ext "ToTime" v = .ok r) :
    (v = .nil ∧ r = .nil) ∨ ∃ t, r = .time t ∧ TimeOrigin ext v t := by
  -- what `ToInt64` hands on is an int64, which `time.Unix` renders in the process zone
  have viaInt : ∀ w r, w ≠ .nil →
      via genTables (castNamed genTables ext) "ToInt64" "ToTime" "ErrUnableToCastToTime" w = .ok r →
      ∃ t, r = .time t ∧ TimeOrigin ext w t := fun w r hw h => by
    obtain ⟨i, h64, hi⟩ := via_ok h
    obtain ⟨x, rfl⟩ := toInt64_ok ext hw h64
    obtain ⟨off, hz, rfl⟩ := timeUnix_ok ((toTime_i64_eq ext x).symm.trans hi)
    exact ⟨_, rfl, .unix w hz⟩
  have str : ∀ s r, castNamed genTables ext "ToTime" (.str s) = .ok r →
      ∃ t, r = .time t ∧ (Time.parseRFC3339 s = some t ∨ ∃ x off, ext.zoneOffset x = some off ∧ t = ⟨x, 0, off⟩) :=
    fun s r h => by
      rw [toTime_str_eq] at h
      split at h
      · cases h; exact ⟨_, rfl, .inl ‹_›⟩
      · obtain ⟨t, rfl, ho⟩ := viaInt (.str s) r nofun h
        cases ho with
        | str hp => exact ⟨t, rfl, .inl hp⟩
        | unix _ hz => exact ⟨_, rfl, .inr ⟨_, _, hz, rfl⟩⟩
  have dflt : ∀ w, castNamed genTables ext "ToTime" w = .ok r →
      toTimeBranch (typeOf w) = .special "time.default" → ∃ t, r = .time t ∧ TimeOrigin ext w t := fun w h hb =>
    viaInt w r (fun hn => by subst hn; cases hb) ((toTime_dflt ext w hb).symm.trans h)
  cases v with
  | nil => rw [toTime_branch] at h; cases h; exact .inl ⟨rfl, rfl⟩
  | time t => rw [toTime_time] at h; cases h; exact .inr ⟨t, rfl, .self t⟩
  | str s =>
    obtain ⟨t, rfl, hp | ⟨x, off, hz, rfl⟩⟩ := str s r h
    · exact .inr ⟨t, rfl, .str hp⟩
    · exact .inr ⟨_, rfl, .unix _ hz⟩
  | bytes s =>
    rw [toTime_bytes_eq] at h
    rcases orElse_inv h with h | h
    · obtain ⟨t, rfl, hp | ⟨x, off, hz, rfl⟩⟩ := str s r h
      · exact .inr ⟨t, rfl, .bytes hp⟩
      · exact .inr ⟨_, rfl, .unix _ hz⟩
    · exact .inr (viaInt (.bytes s) r nofun h)
  | int t x =>
    cases t with
    | i64 =>
      obtain ⟨off, hz, rfl⟩ := timeUnix_ok ((toTime_i64_eq ext x).symm.trans h)
      exact .inr ⟨_, rfl, .unix _ hz⟩
    | _ => exact .inr (dflt _ h rfl)
  | _ => exact .inr (dflt _ h rfl)

theorem toDate_branch (v : Dyn) :
    castNamed genTables ext "ToDate" v = evalBranch genTables ext 23 "ToDate" (toDateBranch (typeOf v)) v :=
  castNamed_clause (v := v) (forall_ty (p := fun ty => clauseOf genTables "ToDate" ty = some (toDateBranch ty))
    (by decide +kernel) _) ext

theorem toDate_str_eq (s : Bytes) :
    castNamed genTables ext "ToDate" (.str s) =
      if Time.parseDateOk s then .ok (.str s)
      else via genTables (castNamed genTables ext) "ToInt64" "ToDate" "ErrUnableToCastToDate" (.str s) := by
  rw [toDate_branch]
  show special genTables ext 22 "date.string" (.str s) = _
  rw [special_date_string, call_eq_cast ext 9]

theorem toDate_str (d : Bytes) (hd : Time.parseDateOk d = true) :
    castNamed genTables ext "ToDate" (.str d) = .ok (.str d) := by
  rw [toDate_str_eq, if_pos hd]

theorem toDate_time_eq (t : GoTime) :
    castNamed genTables ext "ToDate" (.time t) =
      if Time.year t < 0 ∨ Time.year t > 9999 then failWith genTables "ErrUnableToCastToDate"
      else .ok (.str (Time.formatDate t)) := by
  rw [toDate_branch]
  exact year_guarded_eq genTables ext 22 _ _ _ t

theorem toDate_time (t : GoTime) (hy0 : 0 ≤ Time.year t) (hy1 : Time.year t ≤ 9999) :
    castNamed genTables ext "ToDate" (.time t) = .ok (.str (Time.formatDate t)) := by
  rw [toDate_time_eq, if_neg (by omega)]

theorem toDate_i64_eq (x : Int) :
    castNamed genTables ext "ToDate" (.int .i64 x) =
      match evalE genTables ext (.int .i64 x) .nil (.timeUnix .val) with
      | .ok w => castNamed genTables ext "ToDate" w
      | o => o := by
  rw [toDate_branch]
  show (match evalE genTables ext (.int .i64 x) .nil (.timeUnix .val) with
    | .ok w => callNamed genTables ext 22 "ToDate" w
    | o => o) = _
  rw [call_eq_cast ext 10]

theorem toDate_i64 (v off : Int) (hz : ext.zoneOffset v = some off) (hv : -(2 ^ 62 : Int) < v ∧ v < 2 ^ 62) :
    castNamed genTables ext "ToDate" (.int .i64 v) = castNamed genTables ext "ToDate" (.time ⟨v, 0, off⟩) := by
  rw [toDate_i64_eq, timeUnix_of hz hv]

theorem toDate_str_int (s : Bytes) (n : Int) (hA : Time.parseDateOk s = false)
    (hB : IntText.parseInt0 s 64 = some n) :
    castNamed genTables ext "ToDate" (.str s) = castNamed genTables ext "ToDate" (.int .i64 n) := by
  rw [toDate_str_eq, if_neg (by rw [hA]; nofun), via_of_ok (i := .int .i64 n) (by rw [toInt64_str, hB])]

theorem toDate_bytes_eq (s : Bytes) :
    castNamed genTables ext "ToDate" (.bytes s) =
      orElse (castNamed genTables ext "ToDate" (.str s))
        (via genTables (castNamed genTables ext) "ToInt64" "ToDate" "ErrUnableToCastToDate" (.bytes s)) := by
  rw [toDate_branch]
  show special genTables ext 22 "date.bytes" (.bytes s) = _
  rw [special_date_bytes, call_eq_cast ext 9]

theorem toDate_bytes (d : Bytes) (hd : Time.parseDateOk d = true) :
    castNamed genTables ext "ToDate" (.bytes d) = .ok (.str d) := by
  rw [toDate_bytes_eq, toDate_str ext d hd, orElse_ok]

theorem toDate_dflt (v : Dyn) (hv : toDateBranch (typeOf v) = .special "date.default") :
    castNamed genTables ext "ToDate" v =
      via genTables (castNamed genTables ext) "ToString" "ToDate" "ErrUnableToCastToTime" v := by
  rw [toDate_branch, hv, evalBranch_special, special_date_default, call_eq_cast ext 9]

theorem toDate_num (d : Bytes) (hd : Time.parseDateOk d = true) :
    castNamed genTables ext "ToDate" (.num d) = .ok (.str d) := by
  rw [toDate_dflt ext _ rfl, via_of_ok (toString_num ext d), toDate_str ext d hd]

theorem toDate_ok (v r : Dyn) (h : castNamed genTables ext "ToDate" v = .ok r) :
    r = .nil ∨ ∃ s, r = .str s ∧ Time.parseDateOk s = true := by
  have time : ∀ t r, castNamed genTables ext "ToDate" (.time t) = .ok r →
      r = .nil ∨ ∃ s, r = .str s ∧ Time.parseDateOk s = true := fun t r h => by
    rw [toDate_time_eq] at h
    split at h
    · exact absurd h (failWith_ne_ok _ _ _)
    · cases h
      exact .inr ⟨_, rfl, (Time.parseDatePart_formatDate t (by omega) (by omega)).2⟩
  have i64 : ∀ x r, castNamed genTables ext "ToDate" (.int .i64 x) = .ok r →
      r = .nil ∨ ∃ s, r = .str s ∧ Time.parseDateOk s = true := fun x r h => by
    rw [toDate_i64_eq] at h
    cases he : evalE genTables ext (.int .i64 x) .nil (.timeUnix .val) with
    | ok w =>
      obtain ⟨off, -, rfl⟩ := timeUnix_ok he
      rw [he] at h
      exact time _ r h
    | err e => rw [he] at h; cases h
    | panic p => rw [he] at h; cases h
  have viaInt : ∀ w r, w ≠ .nil →
      via genTables (castNamed genTables ext) "ToInt64" "ToDate" "ErrUnableToCastToDate" w = .ok r →
      r = .nil ∨ ∃ s, r = .str s ∧ Time.parseDateOk s = true := fun w r hw h => by
    obtain ⟨i, h64, hi⟩ := via_ok h
    obtain ⟨x, rfl⟩ := toInt64_ok ext hw h64
    exact i64 x r hi
  have str : ∀ s r, castNamed genTables ext "ToDate" (.str s) = .ok r →
      r = .nil ∨ ∃ s, r = .str s ∧ Time.parseDateOk s = true := fun s r h => by
    rw [toDate_str_eq] at h
    split at h
    · cases h; exact .inr ⟨s, rfl, ‹_›⟩
    · exact viaInt (.str s) r nofun h
  have dflt : ∀ w, castNamed genTables ext "ToDate" w = .ok r →
      toDateBranch (typeOf w) = .special "date.default" →
      r = .nil ∨ ∃ s, r = .str s ∧ Time.parseDateOk s = true := fun w h hb => by
    rw [toDate_dflt ext w hb] at h
    obtain ⟨i, hs, hi⟩ := via_ok h
    obtain ⟨s, rfl⟩ := toString_ok ext (fun hn => by subst hn; cases hb) hs
    exact str s r hi
  cases v with
  | nil => rw [toDate_branch] at h; cases h; exact .inl rfl
  | time t => exact time t r h
  | str s => exact str s r h
  | bytes s =>
    rw [toDate_bytes_eq] at h
    rcases orElse_inv h with h | h
    · exact str s r h
    · exact viaInt (.bytes s) r nofun h
  | int t x =>
    cases t with
    | i64 => exact i64 x r h
    | _ => exact dflt _ h rfl
  | _ => exact dflt _ h rfl

end Jl.CasterFacts

/-! ### float64 and float32 as one family -/

-- In the namespace of Proofs.LineFloats, whose statements name `FT`; it stands here because Proofs.Pairings and
-- Proofs.SelfReadable, which do not import that module, state their float facts over it too.
namespace Jl.LineFloats
open Jl Jl.Value Jl.Cast Jl.CastTyped Jl.CasterFacts

inductive FT
  | f64
  | f32
  deriving DecidableEq, Repr

namespace FT

def ty : FT → Ty
  | .f64 => .f64
  | .f32 => .f32

/-- The bit size handed to `strconv.ParseFloat` / `strconv.FormatFloat`. -/
def bits : FT → Nat
  | .f64 => 64
  | .f32 => 32

def fmt : FT → Float.Fmt
  | .f64 => Float.f64
  | .f32 => Float.f32

def dyn : FT → Nat → Dyn
  | .f64, v => .f64 v
  | .f32, v => .f32 v

/-- What the caster makes of the float64 `strconv.ParseFloat` returned: itself, or `float32(·)`. -/
def narrow : FT → Nat → Nat
  | .f64, r => r
  | .f32, r => Float.f64to32 r

/-- The float64 handed to `strconv.FormatFloat`: the value itself, or `float64(·)` of a float32. -/
def widen : FT → Nat → Nat
  | .f64, v => v
  | .f32, v => Float.f32to64 v

end FT

theorem typeOf_dyn (T : FT) (v : Nat) : typeOf (T.dyn v) = T.ty := by cases T <;> rfl

theorem dyn_ne_nil (T : FT) (v : Nat) : T.dyn v ≠ .nil := by cases T <;> simp [FT.dyn]

/-- What `cast.To(T, ·)` makes of each answer of `strconv.ParseFloat(lit, bits of T)`. -/
def parsedAs (ext : Ext) (T : FT) (lit : Bytes) : Outcome Dyn :=
  match ext.parseFloat lit T.bits with
  | none => .err .ext
  | some none => .err .cast
  | some (some r) => .ok (T.dyn (T.narrow r))

def FT.ofParsed : FT → E
  | .f64 => .parsed
  | .f32 => .toF32 .parsed

/-- `strconv.FormatFloat(float64(val), 'f', -1, bits of T)` as the extractor renders it. -/
def FT.render : FT → E
  | .f64 => .fmtFloat .val 102 (-1) 64
  | .f32 => .fmtFloat (.toF64 .val) 102 (-1) 32

theorem float_caster (T : FT) : ∃ c s,
    (∀ ext v, castTo genTables ext T.ty v = castNamed genTables ext c v) ∧
    clauseOf genTables c .str = some (.parse (.parseFloat T.bits) T.ofParsed s) ∧
    clauseOf genTables c .num = some (.tail c (.toStr .val)) := by
  cases T
  · exact ⟨_, _, fun ext v => castTo_cast ext rfl v, toFloat64_clauses.1,
      toFloat64_clauses.2.1⟩
  · exact ⟨_, _, fun ext v => castTo_cast ext rfl v, toFloat32_clauses.1,
      toFloat32_clauses.2.1⟩

theorem render_clauses (T : FT) :
    clauseOf genTables "ToNumber" T.ty = some (.ret (.toNum T.render)) ∧
    clauseOf genTables "ToString" T.ty = some (.ret T.render) := by
  cases T
  · exact ⟨toNumber_value_clauses.2.1, toString_value_clauses.2.1⟩
  · exact ⟨toNumber_value_clauses.2.2.1, toString_value_clauses.2.2.1⟩

theorem cast_float_str (ext : Ext) (T : FT) (lit : Bytes) {c s : String}
    (hs : clauseOf genTables c .str = some (.parse (.parseFloat T.bits) T.ofParsed s)) :
    castNamed genTables ext c (.str lit) = parsedAs ext T lit := by
  rw [castNamed_clause (v := .str lit) hs]
  unfold parsedAs
  cases T <;> cases h : ext.parseFloat lit _ with
  | none => simp [evalBranch, runParse, h]
  | some o =>
    cases o with
    | none => simp [evalBranch, runParse, h, failWith, parse_wraps genTables_ok hs]
    | some r => simp [evalBranch, runParse, h, evalE, FT.ofParsed, FT.dyn, FT.narrow]

theorem evalE_render (T' : CastTables) (ext : Ext) (T : FT) (v : Nat) (p : Dyn) :
    evalE T' ext (T.dyn v) p T.render =
      match ext.fmtFloat (T.widen v) T.bits with
      | some s => .ok (.str s)
      | none => .err .ext := by
  cases T <;> rfl

/-- No test of finiteness. -/
theorem toNumber_float (ext : Ext) (T : FT) (v : Nat) :
    castNamed genTables ext "ToNumber" (T.dyn v) =
      match ext.fmtFloat (T.widen v) T.bits with
      | some s => .ok (.num s)
      | none => .err .ext := by
  have hc := (render_clauses T).1
  rw [← typeOf_dyn T v] at hc
  rw [castNamed_clause hc]
  simp only [evalBranch, evalE, evalE_render]
  cases ext.fmtFloat (T.widen v) T.bits <;> rfl

theorem toString_float (ext : Ext) (T : FT) (v : Nat) :
    castNamed genTables ext "ToString" (T.dyn v) =
      match ext.fmtFloat (T.widen v) T.bits with
      | some s => .ok (.str s)
      | none => .err .ext := by
  have hc := (render_clauses T).2
  rw [← typeOf_dyn T v] at hc
  rw [castNamed_clause hc]
  simp only [evalBranch, evalE_render]

/-! ### `cast.To(T, ·)` and the casters on a float, once for both types -/

theorem FT.ty_ne_none (T : FT) : T.ty ≠ .none := by cases T <;> nofun

theorem fvalOf_dyn (T : FT) (x : Nat) : fvalOf (T.dyn x) = some (Float.toFVal T.fmt x) := by cases T <;> rfl

theorem castTo_float_str (ext : Ext) (T : FT) (lit : Bytes) :
    castTo genTables ext T.ty (.str lit) = parsedAs ext T lit := by
  obtain ⟨c, s, hd, hs, -⟩ := float_caster T
  rw [hd]
  exact cast_float_str ext T lit hs

theorem castTo_float_num (ext : Ext) (T : FT) (lit : Bytes) :
    castTo genTables ext T.ty (.num lit) = parsedAs ext T lit := by
  obtain ⟨c, s, hd, hs, hn⟩ := float_caster T
  rw [hd, castNamed_clause (v := .num lit) hn]
  show callNamed genTables ext 22 c (.str lit) = _
  rw [CastFuel.call_eq_cast ext 10]
  exact cast_float_str ext T lit hs

theorem parsedAs_ok {ext : Ext} {T : FT} {lit : Bytes} {r : Nat} (hp : ext.parseFloat lit T.bits = some (some r)) :
    parsedAs ext T lit = .ok (T.dyn (T.narrow r)) := by
  simp only [parsedAs, hp]

/-- Text rendering followed by the cast back, given strconv's two answers for this value. -/
theorem float_text_rt (ext : Ext) (T : FT) {b r : Nat} {s : Bytes} (hf : ext.fmtFloat (T.widen b) T.bits = some s)
    (hp : ext.parseFloat s T.bits = some (some r)) (hr : T.narrow r = b) :
    castNamed genTables ext "ToString" (T.dyn b) = .ok (.str s) ∧ castTo genTables ext T.ty (.str s) = .ok (T.dyn b) ∧
    castNamed genTables ext "ToNumber" (T.dyn b) = .ok (.num s) ∧ castTo genTables ext T.ty (.num s) = .ok (T.dyn b) := by
  subst hr
  exact ⟨(toString_float ext T _).trans (by rw [hf]), (castTo_float_str ext T s).trans (parsedAs_ok hp),
    (toNumber_float ext T _).trans (by rw [hf]), (castTo_float_num ext T s).trans (parsedAs_ok hp)⟩

theorem toBool_float (ext : Ext) (T : FT) (x : Nat) :
    castNamed genTables ext "ToBool" (T.dyn x) = .ok (.bool (!Float.isZero T.fmt x)) := by
  cases T
  · exact castNamed_clause (v := .f64 x) toBool_value_clauses.2.2.1 ext
  · exact castNamed_clause (v := .f32 x) toBool_value_clauses.2.2.2 ext

theorem castTo_float_bool (ext : Ext) (T : FT) (b : Bool) :
    castTo genTables ext T.ty (.bool b) = .ok (T.dyn (Float.ofInt T.fmt (if b then 1 else 0))) := by
  cases T
  · refine (castTo_cast ext (ty := .f64) rfl _).trans
      ((castNamed_clause (v := .bool b) toFloat64_clauses.2.2 ext).trans ?_)
    cases b <;> rfl
  · refine (castTo_cast ext (ty := .f32) rfl _).trans
      ((castNamed_clause (v := .bool b) toFloat32_clauses.2.2 ext).trans ?_)
    cases b <;> rfl

end Jl.LineFloats
