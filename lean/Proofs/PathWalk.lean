/-
  Proofs.PathWalk — walking a list of keys through nested rows, for any cell behaviour (no cast table).
  `ImportAtPath` over split keys is "read what the keys lead to, `Import` into it, put the result back"
  (`importAtKeys_eq`): the read is `getValueAtKeys`, the put is `putAtKeys`, which hands the row back where the
  keys lead nowhere.  The two form a lens (`get_put`, `put_put`, `get_put_other`).
-/
import Model.Path
import Proofs.Row
import Proofs.Order

namespace Jl.Path
open Jl Jl.Value

/-! ### Splitting a path -/

/-- `strings.Split` never returns an empty list. -/
theorem splitDots_ne_nil (p : Bytes) : splitDots p ≠ [] := by
  fun_cases splitDots p <;> simp

theorem splitDots_rec {P : Bytes → List Bytes → Prop} (nil : P [] [[]])
    (dot : ∀ rest ks, ks ≠ [] → P rest ks → P (0x2E :: rest) ([] :: ks))
    (byte : ∀ c rest k ks, c ≠ 0x2E → P rest (k :: ks) → P (c :: rest) ((c :: k) :: ks)) :
    ∀ p, P p (splitDots p) := by
  intro p
  fun_induction splitDots p with
  | case1 => exact nil
  | case2 c rest h ih => rw [beq_iff_eq.mp h]; exact dot rest _ (splitDots_ne_nil rest) ih
  | case3 c rest h hs => exact absurd hs (splitDots_ne_nil rest)
  | case4 c rest h k ks hs ih => rw [hs] at ih; exact byte c rest k ks (fun e => h (beq_iff_eq.mpr e)) ih

/-! ### The two representations of a nested row -/

theorem asRow_withRow (v : Val) (sub : List (Bytes × Val)) : asRow (withRow v sub) = some sub := by
  cases v <;> simp [withRow, asRow]

theorem withRow_withRow (v : Val) (s₁ s₂ : List (Bytes × Val)) :
    withRow (withRow v s₁) s₂ = withRow v s₂ := by
  cases v <;> rfl

theorem withRow_same (v : Val) (sub : List (Bytes × Val)) (h : asRow v = some sub) :
    withRow v sub = v := by
  unfold asRow at h
  split at h <;> cases h <;> simp [withRow, Members.ofList_toList]

/-! ### `ImportAtPath` as a lens: read, `Import`, put back

Every function of Model.Path descends along the keys the same way: no key, one key, and — more keys to come — the
first key missing, leading to a value that neither is nor wraps a row, or to a sub-row in which the descent goes
on.  `fun_induction` gives these cases; in each the functions unfold by their equations. -/

theorem get_one (row : List (Bytes × Val)) (k : Bytes) : getValueAtKeys row [k] = lookup row k := rfl

theorem get_missing (row : List (Bytes × Val)) (k : Bytes) (rest : List Bytes)
    (hl : lookup row k = none) : getValueAtKeys row (k :: rest) = none := by
  cases rest <;> simp only [getValueAtKeys, hl]

theorem get_scalar {row : List (Bytes × Val)} {k : Bytes} {rest : List Bytes} {w : Val}
    (hr : rest ≠ []) (hl : lookup row k = some w) (ha : asRow w = none) :
    getValueAtKeys row (k :: rest) = none := by
  cases rest with
  | nil => exact absurd rfl hr
  | cons => simp only [getValueAtKeys, hl, ha]

theorem get_down {row sub : List (Bytes × Val)} {k : Bytes} {rest : List Bytes} {w : Val}
    (hr : rest ≠ []) (hl : lookup row k = some w) (ha : asRow w = some sub) :
    getValueAtKeys row (k :: rest) = getValueAtKeys sub rest := by
  cases rest with
  | nil => exact absurd rfl hr
  | cons => simp only [getValueAtKeys, hl, ha]

/-- The row with `v'` where `keys` lead; the row itself where they lead nowhere. -/
def putAtKeys (row : List (Bytes × Val)) : List Bytes → Val → List (Bytes × Val)
  | [], _ => row
  | [k], v' =>
    match lookup row k with
    | none => row
    | some _ => upsert row k v'
  | k :: rest, v' =>
    match lookup row k with
    | none => row
    | some w =>
      match asRow w with
      | none => row
      | some sub => upsert row k (withRow w (putAtKeys sub rest v'))

theorem put_unwalkable (keys : List Bytes) (row : List (Bytes × Val)) (v' : Val)
    (hg : getValueAtKeys row keys = none) : putAtKeys row keys v' = row := by
  fun_induction putAtKeys row keys v' <;>
    simp_all [getValueAtKeys, withRow_same, lookup, upsert, OMap.upsert_same]

theorem importAtKeys_eq (env : Env) (x : Dyn) (keys : List Bytes) (row : List (Bytes × Val))
    (hne : keys ≠ []) :
    importAtKeys env row keys x =
      match getValueAtKeys row keys with
      | none => .ok (row, some .pathNotFound)
      | some v =>
        match importVal env v x with
        | .ok (v', e) => .ok (putAtKeys row keys v', e)
        | .err e => .err e
        | .panic s => .panic s := by
  fun_induction getValueAtKeys row keys with
  | case2 row k => cases hl : lookup row k <;> simp [importAtKeys, putAtKeys, hl] <;> rfl
  | case5 row k rest hr w hl sub ha ih =>
    simp only [importAtKeys, putAtKeys, hl, ha, ih hr]
    cases getValueAtKeys sub rest with
    | none => simp [withRow_same w sub ha, upsert, OMap.upsert_same row k w hl]
    | some v => simp only []; cases importVal env v x <;> rfl
  | _ => simp_all [importAtKeys]

theorem get_put (keys : List Bytes) (row : List (Bytes × Val)) (v v' : Val)
    (hg : getValueAtKeys row keys = some v) (hne : keys ≠ []) :
    getValueAtKeys (putAtKeys row keys v') keys = some v' := by
  fun_induction putAtKeys row keys v' generalizing v <;>
    simp_all [getValueAtKeys, Order.lookup_upsert_self, asRow_withRow]

theorem put_put (keys : List Bytes) (row : List (Bytes × Val)) (a b : Val) :
    putAtKeys (putAtKeys row keys a) keys b = putAtKeys row keys b := by
  fun_induction putAtKeys row keys a <;>
    simp_all [putAtKeys, asRow_withRow, withRow_withRow, lookup, upsert, OMap.lookup_upsert_self,
      OMap.upsert_upsert]

/-- A put at readable keys stores under the first key: `v'` itself when that key is the last, else the value
    that was there, rebuilt around a new sub-row. -/
theorem put_of_get {row : List (Bytes × Val)} {k : Bytes} {rest : List Bytes} {v : Val} (v' : Val)
    (hg : getValueAtKeys row (k :: rest) = some v) :
    ∃ w, lookup row k = some w ∧
      ((rest = [] ∧ w = v ∧ putAtKeys row (k :: rest) v' = upsert row k v') ∨
        ∃ sub sub', asRow w = some sub ∧ putAtKeys row (k :: rest) v' = upsert row k (withRow w sub')) := by
  cases hl : lookup row k with
  | none => cases rest <;> simp [getValueAtKeys, hl] at hg
  | some w =>
    refine ⟨w, rfl, ?_⟩
    cases rest with
    | nil => exact .inl ⟨rfl, by simpa [getValueAtKeys, hl] using hg, by simp only [putAtKeys, hl]⟩
    | cons k2 rest =>
      cases ha : asRow w with
      | none => simp [getValueAtKeys, hl, ha] at hg
      | some sub => exact .inr ⟨sub, _, rfl, by simp only [putAtKeys, hl, ha]; rfl⟩

theorem put_first_level (row : List (Bytes × Val)) (k : Bytes) (rest : List Bytes) (v' : Val) :
    (∀ k', k' ≠ k → lookup (putAtKeys row (k :: rest) v') k' = lookup row k') ∧
      OMap.keys (putAtKeys row (k :: rest) v') = OMap.keys row := by
  cases hg : getValueAtKeys row (k :: rest) with
  | none => rw [put_unwalkable _ row v' hg]; exact ⟨fun _ _ => rfl, rfl⟩
  | some v =>
    obtain ⟨w, hl, ⟨_, _, hp⟩ | ⟨_, _, _, hp⟩⟩ := put_of_get v' hg <;> rw [hp] <;>
      exact ⟨fun k' hk => OMap.lookup_upsert_ne _ _ hk,
        OMap.keys_upsert_of_mem _ _ _ (OMap.mem_keys_of_lookup hl)⟩

theorem get_put_other : ∀ (ps : List Bytes) (row : List (Bytes × Val)) (v' : Val) (qs : List Bytes),
    ¬ qs <+: ps → ¬ ps <+: qs → getValueAtKeys (putAtKeys row ps v') qs = getValueAtKeys row qs
  | [], _, _, _, _, h2 => absurd List.nil_prefix h2
  | _ :: _, _, _, [], h1, _ => absurd List.nil_prefix h1
  | k :: rest, row, v', q :: qrest, h1, h2 => by
    by_cases hq : q = k
    · subst hq
      have hr : rest ≠ [] := fun e => h2 (e ▸ List.cons_prefix_cons.mpr ⟨rfl, List.nil_prefix⟩)
      have hqr : qrest ≠ [] := fun e => h1 (e ▸ List.cons_prefix_cons.mpr ⟨rfl, List.nil_prefix⟩)
      have ih := fun sub => get_put_other rest sub v' qrest
        (fun hp => h1 (List.cons_prefix_cons.mpr ⟨rfl, hp⟩)) (fun hp => h2 (List.cons_prefix_cons.mpr ⟨rfl, hp⟩))
      cases hl : lookup row q with
      | none => simp [putAtKeys, hl]
      | some w =>
        cases ha : asRow w <;>
          simp [putAtKeys, getValueAtKeys, hl, ha, ih, Order.lookup_upsert_self, asRow_withRow]
    · cases qrest <;> simp only [getValueAtKeys, (put_first_level row k rest v').1 q hq]

theorem importAtKeys_inv {env : Env} {x : Dyn} {keys : List Bytes} {row row' : List (Bytes × Val)}
    {e : Option ErrClass} (hne : keys ≠ []) (h : importAtKeys env row keys x = .ok (row', e)) :
    (getValueAtKeys row keys = none ∧ row' = row ∧ e = some .pathNotFound) ∨
    ∃ v v', getValueAtKeys row keys = some v ∧ importVal env v x = .ok (v', e) ∧
      row' = putAtKeys row keys v' := by
  rw [importAtKeys_eq env x keys row hne] at h
  split at h
  · cases h; exact .inl ⟨‹_›, rfl, rfl⟩
  · split at h <;> cases h
    exact .inr ⟨_, _, ‹_›, ‹_›, rfl⟩

end Jl.Path
