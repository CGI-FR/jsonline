/-
  Proofs.PathRoundTrip — C18, writing through a dotted path and reading through it: `ImportAtPath`
  (Model.Path.importAtKeys) against `GetValueAtPath` (getValueAtKeys) and `FindValuesAtPath` (findValues), for
  every row (nested rows bare or Auto-wrapped, any mixture), every depth, every path.  The statements over split
  keys are those of Proofs.PathWalk; here they are read at the path level, and what depends on the cast tables is
  added.
-/
import Model.Path
import Model.CastGen
import Proofs.PathWalk
import Proofs.ImportClass
import Proofs.DecEq

namespace Jl.PathRoundTrip
open Jl Jl.Value Jl.Path Jl.ImportClass

theorem upsert_upsert (row : List (Bytes × Val)) (k : Bytes) (a b : Val) :
    upsert (upsert row k a) k b = upsert row k b :=
  OMap.upsert_upsert row k a b

/-! ### 1. Reading back what was written -/

theorem importAtPath_inv {env : Env} {row row' : List (Bytes × Val)} {path : Bytes} {x : Dyn}
    {e : Option ErrClass} (h : importAtPath env row path x = .ok (row', e)) :
    (getValueAtPath row path = none ∧ row' = row ∧ e = some .pathNotFound) ∨
    ∃ v v', getValueAtPath row path = some v ∧ importVal env v x = .ok (v', e) ∧
      row' = putAtKeys row (splitDots path) v' :=
  importAtKeys_inv (splitDots_ne_nil path) h

theorem get_after_import (env : Env) (row row' : List (Bytes × Val)) (path : Bytes) (x : Dyn)
    (h : importAtPath env row path x = .ok (row', none)) :
    ∃ v v', getValueAtPath row path = some v ∧ importVal env v x = .ok (v', none) ∧
      getValueAtPath row' path = some v' := by
  rcases importAtPath_inv h with ⟨_, _, he⟩ | ⟨v, v', hg, hi, rfl⟩
  · cases he
  · exact ⟨v, v', hg, hi, get_put _ row v v' hg (splitDots_ne_nil path)⟩

/-- A value that is not itself a `jsonline.Value` cell (a Value given to `Import` replaces the
    descriptor: `importCell`, third case). -/
def Plain (x : Dyn) : Prop := ∀ r f t, x ≠ .val (.cell r f t)

theorem get_after_import_auto (ext : Ext) (row row' : List (Bytes × Val)) (path : Bytes) (x : Dyn)
    (e : Option ErrClass) (r : Dyn) (f : Format) (hf : f = .auto ∨ f = .hidden) (hx : Plain x)
    (hc : getValueAtPath row path = some (.cell r f .none))
    (h : importAtPath ⟨genTables, ext⟩ row path x = .ok (row', e)) :
    e = none ∧ getValueAtPath row' path = some (.cell x f .none) ∧ getAtPath row' path = some x := by
  rcases importAtPath_inv h with ⟨hn, _, _⟩ | ⟨v, c', hg, hi, rfl⟩
  · rw [hc] at hn; cases hn
  · cases hg.symm.trans hc
    rw [Order.importVal_cell, importCell_auto_none ext f x hf hx] at hi
    cases hi
    have hg' := get_put _ row _ (.cell x f .none) hc (splitDots_ne_nil path)
    exact ⟨rfl, hg', by simp [getAtPath, getValueAtPath, hg', Cells.raw]⟩

theorem import_auto_ok (ext : Ext) (row : List (Bytes × Val)) (path : Bytes) (x : Dyn)
    (r : Dyn) (f : Format) (hf : f = .auto ∨ f = .hidden) (hx : Plain x)
    (hc : getValueAtPath row path = some (.cell r f .none)) :
    ∃ row', importAtPath ⟨genTables, ext⟩ row path x = .ok (row', none) :=
  ⟨putAtKeys row (splitDots path) (.cell x f .none), by
    rw [importAtPath, importAtKeys_eq _ x _ row (splitDots_ne_nil path), show getValueAtKeys row _ = _ from hc]
    simp only [Order.importVal_cell, importCell_auto_none ext f x hf hx]⟩

/-! ### 2. Every other path keeps its value -/

theorem import_keeps_other_paths (env : Env) (row row' : List (Bytes × Val)) (path q : Bytes)
    (x : Dyn) (e : Option ErrClass) (h : importAtPath env row path x = .ok (row', e))
    (h1 : ¬ splitDots q <+: splitDots path) (h2 : ¬ splitDots path <+: splitDots q) :
    getValueAtPath row' q = getValueAtPath row q := by
  rcases importAtPath_inv h with ⟨_, rfl, _⟩ | ⟨_, v', _, _, rfl⟩
  · rfl
  · exact get_put_other _ row v' _ h1 h2

theorem import_keeps_other_raws (env : Env) (row row' : List (Bytes × Val)) (path q : Bytes)
    (x : Dyn) (e : Option ErrClass) (h : importAtPath env row path x = .ok (row', e))
    (h1 : ¬ splitDots q <+: splitDots path) (h2 : ¬ splitDots path <+: splitDots q) :
    getAtPath row' q = getAtPath row q := by
  simp only [getAtPath, import_keeps_other_paths env row row' path q x e h h1 h2]

/-- The keys of the row, their order included, stay (`C18.import_touches_only_addressed`, path level). -/
theorem import_keeps_keys (env : Env) (row row' : List (Bytes × Val)) (path : Bytes) (x : Dyn)
    (e : Option ErrClass) (h : importAtPath env row path x = .ok (row', e)) :
    OMap.keys row' = OMap.keys row := by
  rcases importAtPath_inv h with ⟨_, rfl, _⟩ | ⟨_, v', _, _, rfl⟩
  · rfl
  · obtain ⟨k, rest, hs⟩ := List.exists_cons_of_ne_nil (splitDots_ne_nil path)
    rw [hs]
    exact (put_first_level row k rest v').2

/-! ### 3. A path that cannot be walked -/

theorem import_missing_is_error_and_noop (env : Env) (row : List (Bytes × Val)) (path : Bytes)
    (x : Dyn) (h : getValueAtPath row path = none) :
    importAtPath env row path x = .ok (row, some .pathNotFound) := by
  rw [importAtPath, importAtKeys_eq env x _ row (splitDots_ne_nil path), show getValueAtKeys row _ = none from h]

/-- The three ways not to be walkable, spelt out at the first level (deeper levels: through
    `import_missing_is_error_and_noop` and `C18.missing_segment_is_absent` / `below_scalar_is_absent`). -/
theorem import_missing_segment (env : Env) (row : List (Bytes × Val)) (k : Bytes) (rest : List Bytes)
    (x : Dyn) (h : lookup row k = none) :
    importAtKeys env row (k :: rest) x = .ok (row, some .pathNotFound) :=
  by cases rest <;> simp only [importAtKeys, h]

theorem import_below_scalar (env : Env) (row : List (Bytes × Val)) (k k2 : Bytes) (rest : List Bytes)
    (x : Dyn) (v : Val) (h : lookup row k = some v) (hs : asRow v = none) :
    importAtKeys env row (k :: k2 :: rest) x = .ok (row, some .pathNotFound) :=
  by simp only [importAtKeys, h, hs]

theorem import_through_gomap (env : Env) (row : List (Bytes × Val)) (k k2 : Bytes) (rest : List Bytes)
    (x : Dyn) (m : DynMap) (f : Format) (t : Ty) (h : lookup row k = some (.cell (.gomap m) f t)) :
    importAtKeys env row (k :: k2 :: rest) x = .ok (row, some .pathNotFound) :=
  import_below_scalar env row k k2 rest x _ h rfl

/-! ### 4. ErrPathNotFound is answered only then (generated tables) -/

theorem importVal_not_pathNotFound (ext : Ext) (c c' : Val) (x : Dyn) :
    importVal ⟨genTables, ext⟩ c x ≠ .ok (c', some .pathNotFound) := by
  intro h
  -- `importVal` is `importInto` at fuel 64 (Model.Value)
  rcases importInto_err ext 64 c x c' _ h with h | h | h <;> cases h

theorem import_pathNotFound_iff (ext : Ext) (row row' : List (Bytes × Val)) (path : Bytes) (x : Dyn)
    (e : Option ErrClass) (h : importAtPath ⟨genTables, ext⟩ row path x = .ok (row', e)) :
    e = some .pathNotFound ↔ getValueAtPath row path = none := by
  constructor
  · intro he
    subst he
    rcases importAtPath_inv h with ⟨hn, _, _⟩ | ⟨v, v', _, hi, _⟩
    · exact hn
    · exact absurd hi (importVal_not_pathNotFound ext v v' x)
  · intro hg
    rw [import_missing_is_error_and_noop _ row path x hg] at h
    cases h; rfl

theorem import_pathNotFound_noop (ext : Ext) (row row' : List (Bytes × Val)) (path : Bytes) (x : Dyn)
    (h : importAtPath ⟨genTables, ext⟩ row path x = .ok (row', some .pathNotFound)) : row' = row := by
  have hg := (import_pathNotFound_iff ext row row' path x _ h).mp rfl
  rw [import_missing_is_error_and_noop _ row path x hg] at h
  cases h; rfl

/-! ### 5. Two imports at one path -/

/-- For every descriptor (not only Auto / no raw type), every environment and every `x₂`, as soon as `x₁` is a
    plain value (`import_import_needs_plain`); and whether or not the first import left an error. -/
theorem import_import (env : Env) (row row₁ : List (Bytes × Val)) (path : Bytes) (x₁ x₂ : Dyn)
    (e₁ : Option ErrClass) (r : Dyn) (f : Format) (t : Ty)
    (hc : getValueAtPath row path = some (.cell r f t)) (hx₁ : Plain x₁)
    (h₁ : importAtPath env row path x₁ = .ok (row₁, e₁)) :
    importAtPath env row₁ path x₂ = importAtPath env row path x₂ := by
  have hne := splitDots_ne_nil path
  rcases importAtPath_inv h₁ with ⟨hn, _, _⟩ | ⟨v, v₁, hg, hi, rfl⟩
  · rw [hc] at hn; cases hn
  · cases hg.symm.trans hc
    -- a plain value leaves the cell its descriptor
    obtain ⟨r₁, rfl, _⟩ := Order.importCell_raw hx₁ hi
    -- `Import` into a cell looks at the descriptor only, and the second put overwrites the first
    simp only [importAtPath, importAtKeys_eq env x₂ _ _ hne, get_put _ row _ _ hc hne,
      show getValueAtKeys row _ = _ from hc, Order.importVal_cell, put_put]

/-- "The most recently stored value", through paths. -/
theorem import_import_auto (ext : Ext) (row row₁ row₂ : List (Bytes × Val)) (path : Bytes)
    (x₁ x₂ : Dyn) (e₁ e₂ : Option ErrClass) (r : Dyn) (f : Format) (hf : f = .auto ∨ f = .hidden)
    (hx₁ : Plain x₁) (hx₂ : Plain x₂) (hc : getValueAtPath row path = some (.cell r f .none))
    (h₁ : importAtPath ⟨genTables, ext⟩ row path x₁ = .ok (row₁, e₁))
    (h₂ : importAtPath ⟨genTables, ext⟩ row₁ path x₂ = .ok (row₂, e₂)) :
    importAtPath ⟨genTables, ext⟩ row path x₂ = .ok (row₂, e₂) ∧ e₁ = none ∧ e₂ = none ∧
      getAtPath row₂ path = some x₂ := by
  have h := import_import _ row row₁ path x₁ x₂ e₁ r f .none hc hx₁ h₁
  rw [h₂] at h
  obtain ⟨he₁, _, _⟩ := get_after_import_auto ext row row₁ path x₁ e₁ r f hf hx₁ hc h₁
  obtain ⟨he₂, _, hraw⟩ := get_after_import_auto ext row row₂ path x₂ e₂ r f hf hx₂ hc h.symm
  exact ⟨h.symm, he₁, he₂, hraw⟩

/-- Why `x₁` must be plain: a `jsonline.Value` given to `Import` replaces the descriptor of the
    addressed cell, and the second import is judged by the new one.  Here the Auto cell `k` is
    given a Value of an unknown format; `"v"` is then refused, though the original cell takes it. -/
theorem import_import_needs_plain (ext : Ext) :
    let env : Env := ⟨genTables, ext⟩
    let k : Bytes := [0x6B]
    let row : List (Bytes × Val) := [(k, .cell .nil .auto .none)]
    let x₁ : Dyn := .val (.cell .nil .bad .none)
    let x₂ : Dyn := .str [0x76]
    ∃ row₁, importAtPath env row k x₁ = .ok (row₁, none) ∧
      importAtPath env row₁ k x₂ = .ok ([(k, .cell .nil .bad .none)], some .unsupportedFormat) ∧
      importAtPath env row k x₂ = .ok ([(k, .cell x₂ .auto .none)], none) := by
  refine ⟨[([0x6B], .cell .nil .bad .none)], rfl, rfl, ?_⟩
  show importAtKeys _ _ [[0x6B]] _ = _
  rw [importAtKeys_eq _ _ _ _ (List.cons_ne_nil _ _),
    show getValueAtKeys [([0x6B], Val.cell .nil .auto .none)] [[0x6B]] = some (.cell .nil .auto .none) from rfl]
  simp only [Order.importVal_cell,
    importCell_auto_none ext .auto (.str [0x76]) (Or.inl rfl) (by intro r f t h; cases h)]
  rfl

/-! ### 6. The two readers -/

theorem splitDots_length (p : Bytes) : (splitDots p).length ≤ p.length + 1 :=
  splitDots_rec (P := fun p ks => ks.length ≤ p.length + 1) (Nat.le_refl _)
    (fun _ _ _ ih => Nat.succ_le_succ ih) (fun _ _ _ _ _ ih => Nat.le_succ_of_le ih) p

/-- "No array lies on the path": the first value on the way that neither is nor wraps a row,
    if there is one before the last key, is not an array (`[]interface{}`). -/
def NoArrayOn (row : List (Bytes × Val)) : List Bytes → Prop
  | [] => True
  | [_] => True
  | k :: rest =>
    match lookup row k with
    | none => True
    | some v =>
      match asRow v with
      | some sub => NoArrayOn sub rest
      | none => ∀ xs, Cells.raw v ≠ .arr xs

theorem noArrayOn_of_get (keys : List Bytes) (row : List (Bytes × Val)) (v : Val)
    (hg : getValueAtKeys row keys = some v) : NoArrayOn row keys := by
  fun_induction getValueAtKeys row keys <;> simp_all [NoArrayOn]

theorem find_keys (fuel : Nat) (row : List (Bytes × Val)) (keys : List Bytes) (hne : keys ≠ [])
    (hf : keys.length ≤ fuel) (hna : NoArrayOn row keys) :
    findValues fuel row keys = (getValueAtKeys row keys).map fun v => [v] := by
  fun_induction findValues fuel row keys <;> simp_all [getValueAtKeys, NoArrayOn]

theorem find_single (row : List (Bytes × Val)) (path : Bytes)
    (hna : NoArrayOn row (splitDots path)) :
    findValuesAtPath row path = (getValueAtPath row path).map fun v => [v] := by
  exact find_keys _ row _ (splitDots_ne_nil path) (by have := splitDots_length path; omega) hna

theorem find_of_get (row : List (Bytes × Val)) (path : Bytes) (v : Val)
    (hg : getValueAtPath row path = some v) : findValuesAtPath row path = some [v] := by
  rw [find_single row path (noArrayOn_of_get _ row v hg), hg]; rfl

/-- Why the hypothesis: through an array the two readers part — `GetValueAtPath` reports
    absence, `FindValuesAtPath` a (possibly empty) list. -/
theorem find_through_array (fuel : Nat) (row : List (Bytes × Val)) (k k2 : Bytes) (rest : List Bytes)
    (v : Val) (xs : DynList) (hl : lookup row k = some v) (ha : asRow v = none)
    (hx : Cells.raw v = .arr xs) :
    getValueAtKeys row (k :: k2 :: rest) = none ∧
      (findValues (fuel + 1) row (k :: k2 :: rest)).isSome = true := by
  constructor
  · simp only [getValueAtKeys, hl, ha]
  · simp only [findValues, hl, ha, hx]; rfl

/-! ### 7. The statements are not vacuous: a parsed line -/

namespace Demo

def env : Env := ⟨genTables, Ext.empty⟩

/-- `{"a":{"b":{"c":1,"d":null}},"s":1}` -/
def line : Bytes :=
  [0x7B, 0x22, 0x61, 0x22, 0x3A, 0x7B, 0x22, 0x62, 0x22, 0x3A, 0x7B, 0x22, 0x63, 0x22, 0x3A, 0x31,
   0x2C, 0x22, 0x64, 0x22, 0x3A, 0x6E, 0x75, 0x6C, 0x6C, 0x7D, 0x7D, 0x2C, 0x22, 0x73, 0x22, 0x3A,
   0x31, 0x7D]

/-- the row `UnmarshalJSON` builds from the line: nested objects are Auto cells wrapping rows -/
def inner (c : Dyn) : Val :=
  .cell (.val (.row (.cons [0x63] (.cell c .auto .none) (.cons [0x64] (.cell .nil .auto .none) .nil))))
    .auto .none

def rowWith (c : Dyn) : List (Bytes × Val) :=
  [([0x61], .cell (.val (.row (.cons [0x62] (inner c) .nil))) .auto .none),
   ([0x73], .cell (.num [0x31]) .auto .none)]

def row : List (Bytes × Val) := rowWith (.num [0x31])

def pABC : Bytes := [0x61, 0x2E, 0x62, 0x2E, 0x63]   -- a.b.c
def pABD : Bytes := [0x61, 0x2E, 0x62, 0x2E, 0x64]   -- a.b.d
def pSX : Bytes := [0x73, 0x2E, 0x78]                -- s.x
def seven : Dyn := .int .int 7

theorem parsed : unmarshalInto env [] line = .ok (row, none) := by
  decide +kernel


theorem get_abc (c : Dyn) : getValueAtPath (rowWith c) pABC = some (.cell c .auto .none) := rfl

theorem get_abd (c : Dyn) : getValueAtPath (rowWith c) pABD = some (.cell .nil .auto .none) := rfl

theorem demo :
    unmarshalInto env [] line = .ok (row, none) ∧
    ∃ row', importAtPath env row pABC seven = .ok (row', none) ∧
      getAtPath row' pABC = some seven ∧
      getValueAtPath row' pABD = getValueAtPath row pABD ∧
      getValueAtPath row pABD = some (.cell .nil .auto .none) ∧
      importAtPath env row' pSX seven = .ok (row', some .pathNotFound) ∧
      importAtPath env row pSX seven = .ok (row, some .pathNotFound) := by
  refine ⟨parsed, rowWith seven, by decide +kernel, ?_, ?_, get_abd _, ?_, ?_⟩
  · simp [getAtPath, get_abc, Cells.raw]
  · rw [get_abd, show row = rowWith (.num [0x31]) from rfl, get_abd]
  · exact import_missing_is_error_and_noop env _ pSX seven rfl
  · exact import_missing_is_error_and_noop env _ pSX seven rfl

/-- The same facts obtained from the general theorems (their hypotheses are met here). -/
theorem demo_general (row' : List (Bytes × Val)) (e : Option ErrClass)
    (h : importAtPath env row pABC seven = .ok (row', e)) :
    e = none ∧ getAtPath row' pABC = some seven ∧
      getValueAtPath row' pABD = getValueAtPath row pABD := by
  obtain ⟨he, _, hr⟩ := get_after_import_auto Ext.empty row row' pABC seven e (.num [0x31]) .auto
    (Or.inl rfl) (by intro r f t h; cases h) (get_abc _) h
  refine ⟨he, hr, import_keeps_other_paths env row row' pABC pABD seven e h ?_ ?_⟩
  · decide +kernel
  · decide +kernel

theorem demo_find : findValuesAtPath row pABC = some [.cell (.num [0x31]) .auto .none] :=
  find_of_get row pABC _ (get_abc _)

end Demo

/-! A built row: the nested row is a bare row cell, and stays one. -/
namespace DemoBuilt

def env : Env := ⟨genTables, Ext.empty⟩

def rowWith (c : Dyn) : List (Bytes × Val) :=
  [([0x61], .row (.cons [0x62] (.cell c .auto .none) (.cons [0x63] (.cell (.bool true) .auto .none) .nil)))]

def row : List (Bytes × Val) := rowWith .nil
def pAB : Bytes := [0x61, 0x2E, 0x62]   -- a.b
def pAC : Bytes := [0x61, 0x2E, 0x63]   -- a.c
def x : Dyn := .str [0x76]


theorem get_ab (c : Dyn) : getValueAtPath (rowWith c) pAB = some (.cell c .auto .none) := rfl

theorem import_ab : importAtPath env row pAB x = .ok (rowWith x, none) := by
  decide +kernel

theorem demo (row' : List (Bytes × Val)) (e : Option ErrClass)
    (h : importAtPath env row pAB x = .ok (row', e)) :
    e = none ∧ getAtPath row' pAB = some x ∧ getValueAtPath row' pAC = getValueAtPath row pAC ∧
      getValueAtPath row pAC = some (.cell (.bool true) .auto .none) := by
  obtain ⟨he, _, hr⟩ := get_after_import_auto Ext.empty row row' pAB x e .nil .auto
    (Or.inl rfl) (by intro r f t h; cases h) (get_ab _) h
  refine ⟨he, hr, import_keeps_other_paths env row row' pAB pAC x e h ?_ ?_, ?_⟩
  · decide +kernel
  · decide +kernel
  · rfl

end DemoBuilt

end Jl.PathRoundTrip
