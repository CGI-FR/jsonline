/-
  Proofs.CastFuel — the fuel of `callNamed` is bookkeeping.  For a table whose calls descend in a rank on (caster,
  dynamic type of the argument), a call has its final value from that rank on (the type of what one caster hands to the
  next comes from Proofs.CastTyped).  For the regenerated table the rank is computed from the table and checked by
  evaluation: `callNamed genTables ext k` is `castNamed genTables ext` for every `k ≥ 12`, and `cast.To` is the caster of
  the sample's type.
-/
import Proofs.CastTyped

namespace Jl.CastFuel
open Jl Cast CastTyped

section
variable (T : CastTables) (r : String → Ty → Nat)

/-- Fuel from which `callNamed T ext · name v` is final when `v : ty`.  A name that is no caster's is a
    function of binary_ops.go, which runs without fuel, or unknown. -/
def callRank (name : String) (ty : Ty) : Nat := if isCaster T name then r name ty else 1

def specialCalls (vt : Ty) (id : String) : List (String × Ty) :=
  if id == "bool.string" || id == "bool.number" then [("ToFloat64", vt)]
  else if id == "date.string" then [("ToInt64", vt), ("ToDate", wantFor (.int .i64) vt)]
  else if id == "date.bytes" then [("ToDate", .str), ("ToInt64", vt), ("ToDate", wantFor (.int .i64) vt)]
  else if id == "date.default" then [("ToString", vt), ("ToDate", wantFor .str vt)]
  else if id == "time.string" || id == "time.default" then [("ToInt64", vt), ("ToTime", wantFor (.int .i64) vt)]
  else if id == "time.bytes" then [("ToTime", .str), ("ToInt64", vt), ("ToTime", wantFor (.int .i64) vt)]
  else []

def maxOver (l : List Nat) : Nat := l.foldr max 0

theorem le_maxOver {l : List Nat} {n : Nat} (h : n ∈ l) : n ≤ maxOver l := by
  induction l with
  | nil => cases h
  | cons a l ih =>
    rcases List.mem_cons.mp h with rfl | h
    · exact Nat.le_max_left _ _
    · exact Nat.le_trans (ih h) (Nat.le_max_right _ _)

def branchRank (vt : Ty) : Branch → Nat
  | .tail callee e =>
    1 + match tyE T.binFns vt .none e with
      | some a => callRank T r callee a
      | none => maxOver (allTys.map (callRank T r callee))
  | .special id => 2 + maxOver ((specialCalls vt id).map fun p => callRank T r p.1 p.2)
  | _ => 1

/-- The bodies recognised verbatim go on with what `ToInt64` and `ToString` return: these have to be casters for their
    results to be typed. -/
def rankOK : Bool :=
  isCaster T "ToInt64" && isCaster T "ToString" &&
  T.casters.all fun c => allTys.all fun vt => branchRank T r vt (findClause c vt) < r c.name vt

/-- One round of computing a rank: what the clauses need if their callees have rank `r`. -/
def rankStep (name : String) (ty : Ty) : Nat :=
  match T.casters.find? (fun c => c.name == name) with
  | some c => branchRank T r ty (findClause c ty) + 1
  | none => 1

end

/-! ### A call is final from its rank on -/

section
variable {T : CastTables} {ext : Ext}

theorem via_congr {call call' : String → Dyn → Outcome Dyn} {first callee sent : String} {v : Dyn}
    (h1 : call first v = call' first v) (h2 : ∀ i, call' first v = .ok i → call callee i = call' callee i) :
    via T call first callee sent v = via T call' first callee sent v := by
  unfold via
  rw [h1]
  cases h : call' first v with
  | ok i => exact h2 i h
  | err e => cases e <;> rfl
  | panic p => rfl

theorem ok_ty (hT : tablesOK T = true) {name : String} (hn : isCaster T name = true) {t : Ty}
    (ht : resultTyOfCaster? name = some t) {m : Nat} {v i : Dyn} (h : callNamed T ext m name v = .ok i) :
    typeOf i = wantFor t (typeOf v) := by
  have := callNamed_good ext hT hn ht m v
  rwa [h] at this

theorem special_final (hT : tablesOK T = true) (h64 : isCaster T "ToInt64" = true)
    (hstr : isCaster T "ToString" = true) {m : Nat} {id : String} {v : Dyn}
    (h : ∀ c w, (c, typeOf w) ∈ specialCalls (typeOf v) id →
      callNamed T ext (m + 1) c w = callNamed T ext m c w) :
    special T ext (m + 2) id v = special T ext (m + 1) id v := by
  have hvia : ∀ (first callee sent : String) (t : Ty), isCaster T first = true →
      resultTyOfCaster? first = some t → (first, typeOf v) ∈ specialCalls (typeOf v) id →
      (callee, wantFor t (typeOf v)) ∈ specialCalls (typeOf v) id →
      via T (callNamed T ext (m + 1)) first callee sent v = via T (callNamed T ext m) first callee sent v :=
    fun _ _ _ _ hc ht m1 m2 => via_congr (h _ _ m1) fun i hi => h _ _ (by rw [ok_ty hT hc ht hi]; exact m2)
  have hnz : ("ToFloat64", typeOf v) ∈ specialCalls (typeOf v) id →
      nonzero T (callNamed T ext (m + 1)) v = nonzero T (callNamed T ext m) v :=
    fun m1 => by unfold nonzero; rw [h _ _ m1]
  by_cases e1 : id = "binary.default"
  · subst e1; rfl
  by_cases e2 : id = "bool.string"
  · subst e2
    rw [special_bool_string, special_bool_string, hnz (by simp [specialCalls])]
  by_cases e3 : id = "bool.number"
  · subst e3
    rw [special_bool_number, special_bool_number, hnz (by simp [specialCalls])]
  by_cases e4 : id = "date.string"
  · subst e4
    rw [special_date_string, special_date_string,
      hvia _ _ _ (.int .i64) h64 rfl (by simp [specialCalls]) (by simp [specialCalls])]
  by_cases e5 : id = "date.bytes"
  · subst e5
    have hd : ∀ s, callNamed T ext (m + 1) "ToDate" (.str s) = callNamed T ext m "ToDate" (.str s) :=
      fun s => h _ _ (by simp [specialCalls, typeOf])
    simp only [special_date_bytes, hd,
      hvia "ToInt64" "ToDate" "ErrUnableToCastToDate" (.int .i64) h64 rfl (by simp [specialCalls]) (by simp [specialCalls])]
  by_cases e6 : id = "date.default"
  · subst e6
    rw [special_date_default, special_date_default,
      hvia _ _ _ .str hstr rfl (by simp [specialCalls]) (by simp [specialCalls])]
  by_cases e7 : id = "time.string"
  · subst e7
    rw [special_time_string, special_time_string,
      hvia _ _ _ (.int .i64) h64 rfl (by simp [specialCalls]) (by simp [specialCalls])]
  by_cases e8 : id = "time.bytes"
  · subst e8
    have hd : ∀ s, callNamed T ext (m + 1) "ToTime" (.str s) = callNamed T ext m "ToTime" (.str s) :=
      fun s => h _ _ (by simp [specialCalls, typeOf])
    simp only [special_time_bytes, hd,
      hvia "ToInt64" "ToTime" "ErrUnableToCastToTime" (.int .i64) h64 rfl (by simp [specialCalls]) (by simp [specialCalls])]
  by_cases e9 : id = "time.default"
  · subst e9
    rw [special_time_default, special_time_default,
      hvia _ _ _ (.int .i64) h64 rfl (by simp [specialCalls]) (by simp [specialCalls])]
  by_cases e10 : id = "timestamp.string"
  · subst e10; rfl
  simp [special, e1, e2, e3, e4, e5, e6, e7, e8, e9, e10]

theorem one_le_branchRank (T : CastTables) (r : String → Ty → Nat) (vt : Ty) (br : Branch) :
    1 ≤ branchRank T r vt br := by
  cases br <;> simp only [branchRank] <;> omega

theorem evalBranch_final (hT : tablesOK T = true) {r : String → Ty → Nat} (hr : rankOK T r = true) {j : Nat}
    (ih : ∀ m, m ≤ j → ∀ name v, callRank T r name (typeOf v) ≤ m →
      callNamed T ext (m + 1) name v = callNamed T ext m name v)
    (self : String) (br : Branch) (v : Dyn) (hb : branchRank T r (typeOf v) br ≤ j + 1) :
    evalBranch T ext (j + 2) self br v = evalBranch T ext (j + 1) self br v := by
  simp only [rankOK, Bool.and_eq_true] at hr
  cases br with
  | tail callee e =>
    simp only [evalBranch]
    cases he : evalE T ext v .nil e with
    | ok w =>
      refine ih j (Nat.le_refl _) callee w ?_
      simp only [branchRank] at hb
      cases ht : tyE T.binFns (typeOf v) .none e with
      | some a =>
        simp only [ht] at hb
        rw [(evalE_typed T ext v .nil (tablesOKFor_unpack hT).2.1 e a w ht he).1]
        omega
      | none =>
        simp only [ht] at hb
        have := le_maxOver (List.mem_map_of_mem (f := callRank T r callee) (mem_allTys (typeOf w)))
        omega
    | err _ => rfl
    | panic _ => rfl
  | special id =>
    simp only [branchRank] at hb
    cases j with
    | zero => omega
    | succ m =>
      refine special_final hT hr.1.1 hr.1.2 fun c w hm => ih m (Nat.le_succ m) c w ?_
      have : callRank T r c (typeOf w) ≤ _ :=
        le_maxOver (List.mem_map_of_mem (f := fun p => callRank T r p.1 p.2) hm)
      omega
  | _ => rfl

theorem callNamed_final (hT : tablesOK T = true) {r : String → Ty → Nat} (hr : rankOK T r = true) :
    ∀ k name v, callRank T r name (typeOf v) ≤ k → callNamed T ext (k + 1) name v = callNamed T ext k name v := by
  intro k
  induction k using Nat.strongRecOn with
  | _ k ih =>
    intro name v hk
    cases hc : T.casters.find? (fun c => c.name == name) with
    | none =>
      have h1 : isCaster T name = false := by rw [isCaster, hc]; rfl
      simp only [callRank, h1, Bool.false_eq_true, if_false] at hk
      obtain ⟨k, rfl⟩ : ∃ k', k = k' + 1 := ⟨k - 1, by omega⟩
      rw [callNamed, callNamed, hc]
    | some c =>
      have h1 : isCaster T name = true := by rw [isCaster, hc]; rfl
      obtain ⟨hmem, rfl⟩ := find_caster hc
      have hlt : branchRank T r (typeOf v) (findClause c (typeOf v)) < r c.name (typeOf v) := by
        simp only [rankOK, Bool.and_eq_true, List.all_eq_true, decide_eq_true_eq] at hr
        exact hr.2 c hmem _ (mem_allTys _)
      have := one_le_branchRank T r (typeOf v) (findClause c (typeOf v))
      rw [callRank, h1, if_pos rfl] at hk
      obtain ⟨j, rfl⟩ : ∃ j, k = j + 2 := ⟨k - 2, by omega⟩
      rw [callNamed_caster hc, callNamed_caster hc]
      exact evalBranch_final hT hr (fun m hm => ih m (by omega)) _ _ v (by omega)

end

/-- The rank of the regenerated table: six rounds from nothing.  A round makes the rank right for call
    chains one caster longer; a caster in the chain costs two units (`callNamed`, `evalBranch`), three where it
    calls from a body recognised verbatim (`special`).  That six rounds are enough and where the rank then
    stands, at most 12, is not argued but evaluated (`genRank_ok`). -/
def genRank : String → Ty → Nat :=
  rankStep genTables <| rankStep genTables <| rankStep genTables <| rankStep genTables <|
    rankStep genTables <| rankStep genTables fun _ _ => 0

theorem genRank_ok : (rankOK genTables genRank &&
    genTables.casters.all fun c => allTys.all fun ty => genRank c.name ty ≤ 12) = true := by decide +kernel

theorem genRank_bound (name : String) (ty : Ty) : callRank genTables genRank name ty ≤ 12 := by
  unfold callRank
  split
  · rename_i h
    obtain ⟨c, hc⟩ := Option.isSome_iff_exists.mp h
    obtain ⟨hmem, rfl⟩ := find_caster hc
    have := (Bool.and_eq_true _ _).mp genRank_ok |>.2
    simp only [List.all_eq_true, decide_eq_true_eq] at this
    exact this c hmem ty (mem_allTys ty)
  · decide

theorem call_eq_cast (ext : Ext) (k : Nat) : callNamed genTables ext (k + 12) = castNamed genTables ext := by
  funext name v
  have up : ∀ j, callNamed genTables ext (12 + j) name v = callNamed genTables ext 12 name v := by
    intro j
    induction j with
    | zero => rfl
    | succ j ih =>
      rw [← ih]
      exact callNamed_final genTables_ok ((Bool.and_eq_true _ _).mp genRank_ok).1 (12 + j) name v
        (Nat.le_trans (genRank_bound name _) (Nat.le_add_right 12 j))
  rw [Nat.add_comm, up k, castNamed, ← up 12]

/-- The caster `cast.To` hands a value to, by the type of the sample (nil and the types without a
    case aside). -/
def toCaster : Ty → Option String
  | .int t => some (casterOfInt t)
  | .f64 => some "ToFloat64"
  | .f32 => some "ToFloat32"
  | .bool => some "ToBool"
  | .str => some "ToString"
  | .bytes => some "ToBinary"
  | .num => some "ToNumber"
  | .time => some "ToTime"
  | _ => none

theorem dispatch_toCaster {ty : Ty} {name : String} (h : toCaster ty = some name) :
    dispatchOf genTables ty = .tail name .val := by
  have := forall_ty (p := fun ty => (toCaster ty).all fun n => dispatchOf genTables ty == .tail n .val)
    (by decide +kernel) ty
  rw [h] at this
  exact eq_of_beq this

theorem castTo_cast (ext : Ext) {ty : Ty} {name : String} (h : toCaster ty = some name) (v : Dyn) :
    castTo genTables ext ty v = castNamed genTables ext name v :=
  (castTo_tail (dispatch_toCaster h) ext v).trans (congrFun (congrFun (call_eq_cast ext 11) name) v)

end Jl.CastFuel
