/-
  Proofs.LineAccept — which lines a TEMPLATED importer accepts (property C16, second half).  With a
  template the members of the text are imported, one after the other, into the cells of the row
  `CreateRowEmpty` made, and the first import that fails makes the whole line an error:

    getRow env ti line = .ok (r, none)  ↔  IsObjectText line ∧ ConvertsAll env ti line

  where `ConvertsAll` is an executable fold over the members the reader delivers, written with
  `importCell` alone.  The fold is characterised member by member, repeated names included
  (`convertsAll_iff`), the class of the error is given in every other case (`lineVerdict`), and the
  equivalence is carried through the exporter (`jlLine_accepts_iff`).
-/
import Model.Template
import Model.JsonGrammar
import Proofs.JsonAccept
import Proofs.Order
import Proofs.LineInts
import Proofs.DecEq
import Proofs.JsonPrint
import Proofs.NoPanic
import Proofs.ImportClass

namespace Jl.LineAccept
open Jl Jl.Value Jl.Template Jl.Cast Jl.CastTyped


/-! ### 0. Vocabulary -/

abbrev Row := List (Bytes × Val)

/-- Every value the row holds is a cell (not a row used as a value).  `CloneRow` establishes it
    (`NewValue` always makes a cell) and every member import keeps it. -/
def CellRow (o : Row) : Prop := ∀ k c, lookup o k = some c → ∃ raw f ty, c = Val.cell raw f ty

/-- What `parseobject` does with the member `(k, x)` on the row `o`, in terms of cells alone: `importCell`
    with the format and raw type of the cell the row holds AT THAT MOMENT under `k` (those of the declared
    column, or what an earlier member of the same name left there), or a fresh Auto cell for a new name. -/
def memberImport (env : Env) (o : Row) (k : Bytes) (x : Dyn) : Outcome (Val × Option ErrClass) :=
  match lookup o k with
  | some c => importCell env (Cells.format c) (Cells.rawType c) x
  | none => .ok (Cells.autoCell x, none)

/-- The error class of the first member whose import fails, folding the members in order over the row
    as it evolves.  `.err`/`.panic`: the import itself did not finish (only ever `.err .ext`, `getRow_err`). -/
def firstError (env : Env) : Row → List (Bytes × Dyn) → Outcome (Option ErrClass)
  | _, [] => .ok none
  | o, (k, x) :: ms =>
    match memberImport env o k x with
    | .ok (c', none) => firstError env (upsert o k c') ms
    | .ok (_, some e) => .ok (some e)
    | .err e => .err e
    | .panic s => .panic s

/-- `firstError` with the class forgotten (`convertsFrom_iff_firstError`); a `Bool`, so that `ConvertsAll`
    is evaluated on concrete lines. -/
def convertsFrom (env : Env) : Row → List (Bytes × Dyn) → Bool
  | _, [] => true
  | o, (k, x) :: ms =>
    match memberImport env o k x with
    | .ok (c', none) => convertsFrom env (upsert o k c') ms
    | .ok (_, some _) => false
    | .err _ => false
    | .panic _ => false

/-- The declared columns of the line convert: the template's row can be made, the values of the
    members the reader delivers can be built, and the fold `convertsFrom` over them succeeds. -/
def ConvertsAll (env : Env) (ti : Tmpl) (line : Bytes) : Bool :=
  match cloneRow env ti with
  | .ok row =>
    match ofJVMembers env (Json.unmarshal line).1 with
    | .ok l => convertsFrom env row l
    | .err _ => false
    | .panic _ => false
  | .err _ => false
  | .panic _ => false

def errOf {α : Type} : Outcome (α × Option ErrClass) → Outcome (Option ErrClass)
  | .ok (_, e) => .ok e
  | .err e => .err e
  | .panic s => .panic s

/-- What `GetRow` reports for a line, computed without building the row: the error class of the
    first failing import if there is one, else `.syntax` when the text is not one JSON object,
    else nothing. -/
def lineVerdict (env : Env) (ti : Tmpl) (line : Bytes) : Outcome (Option ErrClass) :=
  match cloneRow env ti with
  | .ok row =>
    match ofJVMembers env (Json.unmarshal line).1 with
    | .ok l =>
      match firstError env row l with
      | .ok none => .ok (if Json.accepts line then none else some .syntax)
      | .ok (some e) => .ok (some e)
      | .err e => .err e
      | .panic s => .panic s
    | .err e => .err e
    | .panic s => .panic s
  | .err e => .err e
  | .panic s => .panic s

theorem convertsFrom_iff_firstError (env : Env) (l : List (Bytes × Dyn)) :
    ∀ o, convertsFrom env o l = true ↔ firstError env o l = .ok none := by
  induction l with
  | nil => intro o; simp [convertsFrom, firstError]
  | cons kx l ih =>
    intro o
    obtain ⟨k, x⟩ := kx
    simp only [convertsFrom, firstError]
    split
    · exact ih _
    · simp
    · simp
    · simp

/-! ### 1. Rows of cells: `importVal` is `importCell` -/

theorem cellRow_nil : CellRow [] := by
  intro k c h
  simp [lookup, OMap.lookup] at h

theorem cellRow_upsert {o : Row} (h : CellRow o) (k : Bytes) (raw : Dyn) (f : Format) (ty : Ty) :
    CellRow (upsert o k (.cell raw f ty)) := by
  intro k' c hc
  by_cases hk : k = k'
  · subst hk
    rw [Order.lookup_upsert_self] at hc
    cases hc
    exact ⟨_, _, _, rfl⟩
  · rw [Order.lookup_upsert_ne _ _ hk] at hc
    exact h k' c hc

theorem cloneRow_cellRow (env : Env) (t row : Row) (h : cloneRow env t = .ok row) : CellRow row :=
  walk.rel (R := fun a b => CellRow a → CellRow b) (fun _ => id) (fun h1 h2 => h2 ∘ h1)
    (fun kv _ acc _ _ h1 ha => by
      obtain ⟨c, hc, rfl⟩ := store_inv h1
      obtain ⟨raw, rfl⟩ := Order.newValue_cell (cloneStep_ok.1 hc).1
      exact cellRow_upsert ha _ _ _ _) (cloneInto_walk.1 h) cellRow_nil

theorem importCell_cell (env : Env) (f : Format) (ty : Ty) (x : Dyn) (c : Val)
    (e : Option ErrClass) (h : importCell env f ty x = .ok (c, e)) :
    ∃ raw f' ty', c = .cell raw f' ty' := by
  have hs := h ▸ Order.importCell_spec env f ty x
  cases e with
  | none => rcases hs with ⟨r, f', t', rfl, _⟩ | ⟨r, rfl, _⟩ <;> exact ⟨_, _, _, rfl⟩
  | some e => exact ⟨_, _, _, hs.1⟩

theorem memberImport_cell (env : Env) (o : Row) (k : Bytes) (x : Dyn) (c : Val)
    (e : Option ErrClass) (h : memberImport env o k x = .ok (c, e)) :
    ∃ raw f ty, c = .cell raw f ty := by
  unfold memberImport at h
  split at h
  · exact importCell_cell env _ _ x c e h
  · simp only [Outcome.ok.injEq, Prod.mk.injEq] at h
    exact ⟨_, _, _, h.1.symm⟩

theorem parseMember_eq (env : Env) (o : Row) (ho : CellRow o) (k : Bytes) (x : Dyn) :
    parseMember env o k x =
      match memberImport env o k x with
      | .ok (c', e) => .ok (upsert o k c', e)
      | .err e => .err e
      | .panic s => .panic s := by
  unfold parseMember memberImport
  cases hl : lookup o k with
  | none => simp
  | some c =>
    obtain ⟨raw, f, ty, rfl⟩ := ho k c hl
    simp only [Order.importVal_cell, Cells.format, Cells.rawType]
    split <;> simp_all

theorem parseMember_cellRow (env : Env) (o o' : Row) (ho : CellRow o) (k : Bytes) (x : Dyn)
    (e : Option ErrClass) (h : parseMember env o k x = .ok (o', e)) : CellRow o' := by
  rw [parseMember_eq env o ho] at h
  split at h
  · rename_i c' e' hm
    simp only [Outcome.ok.injEq, Prod.mk.injEq] at h
    obtain ⟨raw, f, ty, rfl⟩ := memberImport_cell env o k x c' e' hm
    rw [← h.1]
    exact cellRow_upsert ho _ _ _ _
  · cases h
  · cases h

theorem parseMembers_errOf (env : Env) (l : List (Bytes × Dyn)) :
    ∀ o, CellRow o → errOf (parseMembers env o l) = firstError env o l := by
  induction l with
  | nil => intro o _; rfl
  | cons kx l ih =>
    intro o ho
    obtain ⟨k, x⟩ := kx
    simp only [parseMembers, firstError]
    rw [parseMember_eq env o ho]
    cases hm : memberImport env o k x with
    | ok ce =>
      obtain ⟨c', e⟩ := ce
      cases e with
      | none =>
        simp only
        obtain ⟨raw, f, ty, rfl⟩ := memberImport_cell env o k x c' none hm
        exact ih _ (cellRow_upsert ho _ _ _ _)
      | some e => rfl
    | err e => rfl
    | panic s => rfl

theorem parseMembers_cellRow (env : Env) (l : List (Bytes × Dyn)) :
    ∀ (o o' : Row) (e : Option ErrClass), CellRow o → parseMembers env o l = .ok (o', e) →
      CellRow o' :=
  fun o o' e ho h =>
    walk.rel (R := fun a b => CellRow a → CellRow b) (fun _ => id) (fun h1 h2 => h2 ∘ h1)
      (fun kx _ o o1 e h1 ho => parseMember_cellRow env o o1 ho kx.1 kx.2 e (by rwa [parseMember_eq_store]))
      (by rwa [parseMembers_eq_walk] at h) ho

theorem errOf_ok_iff {α : Type} (o : Outcome (α × Option ErrClass)) (e : Option ErrClass) :
    errOf o = .ok e ↔ ∃ a, o = .ok (a, e) := by
  cases o with
  | ok ae =>
    obtain ⟨a, e'⟩ := ae
    simp [errOf]
  | err e' => simp [errOf]
  | panic s => simp [errOf]

theorem errOf_err_iff {α : Type} (o : Outcome (α × Option ErrClass)) (e : ErrClass) :
    errOf o = .err e ↔ o = .err e := by
  cases o with
  | ok ae => obtain ⟨a, e'⟩ := ae; simp [errOf]
  | err e' => simp [errOf]
  | panic s => simp [errOf]

theorem errOf_panic_iff {α : Type} (o : Outcome (α × Option ErrClass)) (s : String) :
    errOf o = .panic s ↔ o = .panic s := by
  cases o with
  | ok ae => obtain ⟨a, e'⟩ := ae; simp [errOf]
  | err e' => simp [errOf]
  | panic s' => simp [errOf]

/-! ### 2. `GetRow`: the verdict -/

theorem getRow_verdict (env : Env) (ti : Tmpl) (line : Bytes) :
    errOf (getRow env ti line) = lineVerdict env ti line := by
  rw [getRow_eq]
  unfold lineVerdict
  cases hc : cloneRow env ti with
  | ok row =>
    rw [Outcome.bind_ok, unmarshalInto_eq]
    cases ofJVMembers env (Json.unmarshal line).1 with
    | ok l =>
      simp only [Outcome.bind_ok]
      rw [← parseMembers_errOf env l row (cloneRow_cellRow env ti row hc)]
      rcases parseMembers env row l with ⟨o', _ | e⟩ | e | s <;> rfl
    | err e => rfl
    | panic s => rfl
  | err e => rfl
  | panic s => rfl

/-! ### 3. The equivalence -/

theorem lineVerdict_none_iff (env : Env) (ti : Tmpl) (line : Bytes) :
    lineVerdict env ti line = .ok none ↔
      Json.accepts line = true ∧ ConvertsAll env ti line = true := by
  unfold lineVerdict ConvertsAll
  cases cloneRow env ti with
  | ok row =>
    simp only
    cases ofJVMembers env (Json.unmarshal line).1 with
    | ok l =>
      simp only
      rw [convertsFrom_iff_firstError]
      cases firstError env row l with
      | ok e =>
        cases e with
        | none => cases Json.accepts line <;> simp
        | some e => simp
      | err e => simp
      | panic s => simp
    | err e => simp
    | panic s => simp
  | err e => simp
  | panic s => simp

/-- `GetRow` delivers a row and no error iff the line is exactly one JSON object and the members convert.
    No hypothesis is needed: `ConvertsAll` is `false` when `CloneRow` of the template does not finish. -/
theorem getRow_accepts_iff (env : Env) (ti : Tmpl) (line : Bytes) :
    (∃ r, getRow env ti line = .ok (r, none)) ↔
      Grammar.IsObjectText line ∧ ConvertsAll env ti line = true := by
  rw [← errOf_ok_iff, getRow_verdict, lineVerdict_none_iff, JsonAcc.accepts_iff]

theorem getRow_accepts_iff_of_clone (env : Env) (ti : Tmpl) (line : Bytes) (row : Row)
    (hc : cloneRow env ti = .ok row) :
    (∃ r, getRow env ti line = .ok (r, none)) ↔
      Grammar.IsObjectText line ∧
        ∃ l, ofJVMembers env (Json.unmarshal line).1 = .ok l ∧ convertsFrom env row l = true := by
  rw [getRow_accepts_iff]
  unfold ConvertsAll
  rw [hc]
  simp only
  cases ofJVMembers env (Json.unmarshal line).1 with
  | ok l => simp
  | err e => simp
  | panic s => simp

/-! #### Every line, repeated names included: descriptors never change -/

def descAt (o : Row) (k : Bytes) : Option (Format × Ty) :=
  (lookup o k).map fun c => (Cells.format c, Cells.rawType c)

/-- `Import` of `x` on a cell of format `f` and raw type `ty` returns no error; the cell's raw value
    plays no part. -/
def ImportsOK (env : Env) (f : Format) (ty : Ty) (x : Dyn) : Prop :=
  ∃ c', importCell env f ty x = .ok (c', none)

theorem memberImport_desc (env : Env) (o : Row) (k : Bytes) (x : Dyn) :
    memberImport env o k x =
      match descAt o k with
      | some d => importCell env d.1 d.2 x
      | none => .ok (Cells.autoCell x, none) := by
  unfold memberImport descAt
  cases lookup o k <;> rfl

theorem descAt_step (env : Env) (o : Row) (k : Bytes) (x : Dyn) (c' : Val)
    (hx : LineLevel.JsonShape x) (hm : memberImport env o k x = .ok (c', none)) (k' : Bytes) :
    descAt (upsert o k c') k' =
      if k' = k then (match descAt o k with | some d => some d | none => some (.auto, .none))
      else descAt o k' := by
  by_cases hk : k' = k
  · subst hk
    simp only [if_true]
    unfold descAt
    rw [Order.lookup_upsert_self]
    unfold memberImport at hm
    cases hl : lookup o k' with
    | none =>
      rw [hl] at hm
      simp only [Outcome.ok.injEq, Prod.mk.injEq, and_true] at hm
      subst hm
      rfl
    | some c =>
      rw [hl] at hm
      simp only at hm
      obtain ⟨raw, rfl, _⟩ := Order.importCell_raw hx.not_cell hm
      rfl
  · simp only [hk, if_false]
    unfold descAt
    rw [Order.lookup_upsert_ne _ _ (fun e => hk e.symm)]

/-- The condition a member `(k, x)` puts on the line, `pre` being the members before it: under a
    declared name the import into the column's descriptor returns no error; under an undeclared
    name nothing the first time, and the import into an Auto cell without raw type afterwards. -/
def MemberOK (env : Env) (o : Row) (pre : List (Bytes × Dyn)) (k : Bytes) (x : Dyn) : Prop :=
  match descAt o k with
  | some d => ImportsOK env d.1 d.2 x
  | none => k ∈ pre.map Prod.fst → ImportsOK env .auto .none x

theorem memberOK_step (env : Env) (o : Row) (k0 : Bytes) (x0 : Dyn) (c' : Val)
    (hx : LineLevel.JsonShape x0) (hm : memberImport env o k0 x0 = .ok (c', none))
    (pre : List (Bytes × Dyn)) (k : Bytes) (x : Dyn) :
    MemberOK env (upsert o k0 c') pre k x ↔ MemberOK env o ((k0, x0) :: pre) k x := by
  unfold MemberOK
  rw [descAt_step env o k0 x0 c' hx hm k]
  by_cases hk : k = k0
  · subst hk
    simp only [if_true]
    cases descAt o k with
    | none => simp
    | some d => simp
  · simp only [hk, if_false]
    cases descAt o k with
    | none => simp [hk]
    | some d => simp

/-- Because a value the decoder delivers never changes a descriptor (`descAt_step`), the fold is a
    conjunction of conditions on the row as `CloneRow` left it. -/
theorem convertsFrom_iff (env : Env) (l : List (Bytes × Dyn)) :
    ∀ o, (∀ kx ∈ l, LineLevel.JsonShape kx.2) →
      (convertsFrom env o l = true ↔
        ∀ pre k x post, l = pre ++ (k, x) :: post → MemberOK env o pre k x) := by
  induction l with
  | nil => intro o _; simp [convertsFrom]
  | cons kx l ih =>
    intro o hl
    obtain ⟨k0, x0⟩ := kx
    have hx0 := hl (k0, x0) List.mem_cons_self
    have hl' : ∀ kx ∈ l, LineLevel.JsonShape kx.2 := fun kx h => hl kx (List.mem_cons_of_mem _ h)
    have hsplit : (∀ pre k x post, (k0, x0) :: l = pre ++ (k, x) :: post → MemberOK env o pre k x) ↔
        MemberOK env o [] k0 x0 ∧
          ∀ pre k x post, l = pre ++ (k, x) :: post → MemberOK env o ((k0, x0) :: pre) k x := by
      constructor
      · intro h
        exact ⟨h [] k0 x0 l rfl, fun pre k x post e => h ((k0, x0) :: pre) k x post (by rw [e]; rfl)⟩
      · rintro ⟨h0, h1⟩ pre k x post e
        rcases List.cons_eq_append_iff.1 e with ⟨rfl, e⟩ | ⟨pre, rfl, rfl⟩
        · cases e
          exact h0
        · exact h1 pre k x post rfl
    have h0 : MemberOK env o [] k0 x0 ↔ ∃ c', memberImport env o k0 x0 = .ok (c', none) := by
      unfold MemberOK
      rw [memberImport_desc]
      cases descAt o k0 with
      | none => simp
      | some d => rfl
    rw [hsplit, h0]
    simp only [convertsFrom]
    cases hm : memberImport env o k0 x0 with
    | ok ce =>
      obtain ⟨c', e⟩ := ce
      cases e with
      | none =>
        simp only [Outcome.ok.injEq, Prod.mk.injEq, and_true, exists_eq', true_and]
        rw [ih _ hl']
        constructor
        · intro h pre k x post e
          exact (memberOK_step env o k0 x0 c' hx0 hm pre k x).1 (h pre k x post e)
        · intro h pre k x post e
          exact (memberOK_step env o k0 x0 c' hx0 hm pre k x).2 (h pre k x post e)
      | some e => simp
    | err e => simp
    | panic s => simp


theorem convertsAll_iff (env : Env) (ti : Tmpl) (line : Bytes) :
    ConvertsAll env ti line = true ↔
      ∃ row l, cloneRow env ti = .ok row ∧ ofJVMembers env (Json.unmarshal line).1 = .ok l ∧
        ∀ pre k x post, l = pre ++ (k, x) :: post → MemberOK env row pre k x := by
  unfold ConvertsAll
  cases hc : cloneRow env ti with
  | ok row =>
    simp only
    cases hl : ofJVMembers env (Json.unmarshal line).1 with
    | ok l =>
      simp only [Outcome.ok.injEq, exists_and_left, exists_eq_left']
      exact convertsFrom_iff env l row (LineLevel.ofJVMembers_shape env _ l hl)
    | err e => simp
    | panic s => simp
  | err e => simp
  | panic s => simp

/-! ### 4. Every other line is an error, and which one -/

theorem getRow_error_iff (env : Env) (ti : Tmpl) (line : Bytes) (e : ErrClass) :
    (∃ r, getRow env ti line = .ok (r, some e)) ↔ lineVerdict env ti line = .ok (some e) := by
  rw [← errOf_ok_iff, getRow_verdict]

theorem getRow_err_iff (env : Env) (ti : Tmpl) (line : Bytes) (e : ErrClass) :
    getRow env ti line = .err e ↔ lineVerdict env ti line = .err e := by
  rw [← errOf_err_iff, getRow_verdict]

theorem getRow_panic_iff (env : Env) (ti : Tmpl) (line : Bytes) (s : String) :
    getRow env ti line = .panic s ↔ lineVerdict env ti line = .panic s := by
  rw [← errOf_panic_iff, getRow_verdict]

theorem getRow_not_object_text_rejected (env : Env) (ti : Tmpl) (line : Bytes)
    (hn : ¬ Grammar.IsObjectText line) (r : Row) : getRow env ti line ≠ .ok (r, none) := by
  intro h
  exact hn ((getRow_accepts_iff env ti line).1 ⟨r, h⟩).1

theorem firstError_some_iff (env : Env) (e : ErrClass) (l : List (Bytes × Dyn)) :
    ∀ o, CellRow o →
      (firstError env o l = .ok (some e) ↔
        ∃ pre k x post o' c, l = pre ++ (k, x) :: post ∧ parseMembers env o pre = .ok (o', none) ∧
          memberImport env o' k x = .ok (c, some e)) := by
  induction l with
  | nil =>
    intro o _
    simp [firstError]
  | cons kx l ih =>
    intro o ho
    obtain ⟨k0, x0⟩ := kx
    -- the failing member is the head, or lies in `l` after the head was stored without error
    have hstep : (∃ pre k x post o' c, (k0, x0) :: l = pre ++ (k, x) :: post ∧
          parseMembers env o pre = .ok (o', none) ∧ memberImport env o' k x = .ok (c, some e)) ↔
        (∃ c, memberImport env o k0 x0 = .ok (c, some e)) ∨
        ∃ c0, memberImport env o k0 x0 = .ok (c0, none) ∧
          ∃ pre k x post o' c, l = pre ++ (k, x) :: post ∧
            parseMembers env (upsert o k0 c0) pre = .ok (o', none) ∧
            memberImport env o' k x = .ok (c, some e) := by
      constructor
      · rintro ⟨pre, k, x, post, o', c, hsplit, hp, hi⟩
        rcases List.cons_eq_append_iff.1 hsplit with ⟨rfl, hsplit⟩ | ⟨pre, rfl, rfl⟩
        · cases hsplit
          cases hp
          exact .inl ⟨c, hi⟩
        · simp only [parseMembers, parseMember_eq env o ho] at hp
          cases hm : memberImport env o k0 x0 with
          | ok ce =>
            obtain ⟨c0, e0⟩ := ce
            rw [hm] at hp
            cases e0 with
            | none => exact .inr ⟨c0, rfl, pre, k, x, post, o', c, rfl, hp, hi⟩
            | some e0 => cases hp
          | err e' => rw [hm] at hp; cases hp
          | panic s => rw [hm] at hp; cases hp
      · rintro (⟨c, hi⟩ | ⟨c0, hm, pre, k, x, post, o', c, rfl, hp, hi⟩)
        · exact ⟨[], k0, x0, l, o, c, rfl, rfl, hi⟩
        · refine ⟨(k0, x0) :: pre, k, x, post, o', c, rfl, ?_, hi⟩
          simp only [parseMembers, parseMember_eq env o ho, hm]
          exact hp
    rw [hstep]
    simp only [firstError]
    cases hm : memberImport env o k0 x0 with
    | ok ce =>
      obtain ⟨c0, e0⟩ := ce
      cases e0 with
      | none =>
        obtain ⟨raw, f, ty, rfl⟩ := memberImport_cell env o k0 x0 c0 none hm
        refine (ih _ (cellRow_upsert ho _ _ _ _)).trans ⟨fun h => .inr ⟨_, rfl, h⟩, ?_⟩
        rintro (⟨c, hc⟩ | ⟨c0, hc, h⟩)
        · cases hc
        · cases hc
          exact h
      | some e0 =>
        constructor
        · intro h
          cases h
          exact .inl ⟨c0, rfl⟩
        · rintro (⟨c, hc⟩ | ⟨c1, hc, -⟩)
          · cases hc
            rfl
          · cases hc
    | err e' =>
      constructor
      · intro h
        cases h
      · rintro (⟨c, hc⟩ | ⟨c1, hc, -⟩) <;> cases hc
    | panic s' =>
      constructor
      · intro h
        cases h
      · rintro (⟨c, hc⟩ | ⟨c1, hc, -⟩) <;> cases hc

/-! ### 5. The only `.err` is the EXT marker (any environment) -/

theorem newValue_err (env : Env) (v : Dyn) (f : Format) (ty : Ty) (e : ErrClass)
    (h : newValue env v f ty = .err e) : e = .ext := by
  unfold newValue at h
  split at h
  · cases h
  · cases h; rfl
  · cases h
  · cases h

/-- In any environment the only `.err` of the leaves is the EXT marker; so it is for everything
    built on them (`NoPanic.within_getRow`, `NoPanic.within_jlLine`, …). -/
theorem leaves_ext (env : Env) : NoPanic.Leaves (· = .ext) (fun _ => True) env where
  ext := rfl
  cell f ty x := (Order.importCell_spec env f ty x).within rfl fun _ _ => trivial
  new x f ty := by
    cases h : newValue env x f ty with
    | err e => exact newValue_err env x f ty e h
    | _ => trivial
  marshal _ _ _ := trivial

theorem ofJV_err (env : Env) (e : ErrClass) : ∀ v : JV, ofJV env v = .err e → e = .ext :=
  fun v h => (NoPanic.within_ofJV (leaves_ext env) v).err h

theorem ofJVList_err (env : Env) (e : ErrClass) : ∀ xs : JVList, ofJVList env xs = .err e → e = .ext :=
  fun xs h => (NoPanic.within_ofJVList (leaves_ext env) xs).err h

/-- The model's EXT marker (a standard-library answer the environment does not supply), never an error
    of the code: those are all `.ok (_, some e)`. -/
theorem getRow_err (env : Env) (ti : Tmpl) (line : Bytes) (e : ErrClass)
    (h : getRow env ti line = .err e) : e = .ext :=
  (NoPanic.within_getRow (leaves_ext env) ti line).err h

/-! ### 6. The regenerated tables: values are always built, prototypes always clone -/

/-- The rows `handledelim` builds for nested objects. -/
def AutoRow (o : Row) : Prop := ∀ k c, lookup o k = some c → ∃ raw, c = Val.cell raw .auto .none

theorem AutoRow.cellRow {o : Row} (h : AutoRow o) : CellRow o := by
  intro k c hc
  obtain ⟨raw, rfl⟩ := h k c hc
  exact ⟨_, _, _, rfl⟩

theorem gen_importCell_auto (ext : Ext) (x : Dyn) (hx : LineLevel.JsonShape x) :
    importCell ⟨genTables, ext⟩ .auto .none x = .ok (.cell x .auto .none, none) :=
  ImportClass.importCell_auto_none ext .auto x (.inl rfl) fun r f t h => by rw [h] at hx; exact hx

theorem gen_ofJV_ok (ext : Ext) : ∀ v : JV, ∃ d, ofJV ⟨genTables, ext⟩ v = .ok d :=
  fun v => ⟨_, LineValues.ofJV_norm _ (LineValues.noneId_gen ext) v⟩

theorem gen_ofJVList_ok (ext : Ext) : ∀ xs : JVList, ∃ l, ofJVList ⟨genTables, ext⟩ xs = .ok l :=
  fun xs => ⟨_, LineValues.ofJVList_norm _ (LineValues.noneId_gen ext) xs⟩

theorem gen_ofJVMembers_ok (ext : Ext) :
    ∀ ms : JVMembers, ∃ l, ofJVMembers ⟨genTables, ext⟩ ms = .ok l :=
  fun ms => ⟨_, LineValues.ofJVMembers_norm _ (LineValues.noneId_gen ext) ms⟩

/-- The value `handledelim` builds for a parsed value over the regenerated tables (total). -/
def dynOf (ext : Ext) (v : JV) : Dyn :=
  match ofJV ⟨genTables, ext⟩ v with
  | .ok d => d
  | .err _ => .nil
  | .panic _ => .nil

theorem gen_ofJV (ext : Ext) (v : JV) : ofJV ⟨genTables, ext⟩ v = .ok (dynOf ext v) := by
  obtain ⟨d, hd⟩ := gen_ofJV_ok ext v
  simp only [dynOf, hd]

def dynMembers (ext : Ext) (ms : JVMembers) : List (Bytes × Dyn) :=
  ms.toList.map fun kv => (kv.1, dynOf ext kv.2)

theorem gen_ofJVMembers (ext : Ext) : ∀ ms : JVMembers,
    ofJVMembers ⟨genTables, ext⟩ ms = .ok (dynMembers ext ms)
  | .nil => rfl
  | .cons k v ms => by
    rw [ofJVMembers, gen_ofJV ext v]
    simp only [gen_ofJVMembers ext ms]
    rfl

/-- A template made of cell prototypes: every column is `With(name, format, rawtype)`. -/
def Proto (t : Tmpl) : Prop := ∀ kc ∈ t, ∃ f ty, kc.2 = Val.cell .nil f ty

theorem gen_cloneInto_proto_ok (ext : Ext) (t : Tmpl) :
    ∀ acc, Proto t → ∃ row, cloneInto ⟨genTables, ext⟩ acc t = .ok row := by
  induction t with
  | nil => intro acc _; exact ⟨acc, rfl⟩
  | cons kc t ih =>
    intro acc hp
    obtain ⟨k, c⟩ := kc
    obtain ⟨f, ty, hc⟩ := hp (k, c) List.mem_cons_self
    simp only at hc
    subst hc
    simp only [cloneInto, cloneValue, Cells.raw, Cells.format, Cells.rawType, LineCast.gen_newValue_nil]
    exact ih _ (fun kc h => hp kc (List.mem_cons_of_mem _ h))

/-- So the hypothesis `cloneRow env ti = .ok row` of `getRow_accepts_iff_of_clone` is automatic over the
    regenerated tables. -/
theorem gen_cloneRow_proto_ok (ext : Ext) (t : Tmpl) (hp : Proto t) :
    ∃ row, cloneRow ⟨genTables, ext⟩ t = .ok row :=
  gen_cloneInto_proto_ok ext t [] hp

theorem gen_cloneRow_proto (ext : Ext) (t : Tmpl) (hnd : (OMap.keys t).Nodup) (hp : Proto t) :
    cloneRow ⟨genTables, ext⟩ t = .ok t :=
  Order.cloneRow_proto _ t hnd hp fun _ f ty _ => LineCast.gen_newValue_nil ext f ty

theorem proto_nil : Proto [] := fun _ h => by cases h

theorem proto_withCol {t : Tmpl} (h : Proto t) (k : Bytes) (f : Format) (ty : Ty) :
    Proto (withCol t k f ty) := by
  intro kc hkc
  rcases OMap.mem_upsert hkc with h' | h'
  · exact h kc h'
  · exact ⟨f, ty, by rw [h']⟩

theorem nodup_withCol {t : Tmpl} (h : (OMap.keys t).Nodup) (k : Bytes) (f : Format) (ty : Ty) :
    (OMap.keys (withCol t k f ty)).Nodup := OMap.nodup_upsert _ _ _ h

/-! ### 7. The equivalence and the errors over the regenerated tables -/

theorem gen_convertsAll_eq (ext : Ext) (ti : Tmpl) (line : Bytes) (hnd : (OMap.keys ti).Nodup)
    (hp : Proto ti) :
    ConvertsAll ⟨genTables, ext⟩ ti line =
      convertsFrom ⟨genTables, ext⟩ ti (dynMembers ext (Json.unmarshal line).1) := by
  unfold ConvertsAll
  rw [gen_cloneRow_proto ext ti hnd hp]
  simp only [gen_ofJVMembers]

theorem gen_getRow_accepts_iff (ext : Ext) (ti : Tmpl) (line : Bytes)
    (hnd : (OMap.keys ti).Nodup) (hp : Proto ti) :
    (∃ r, getRow ⟨genTables, ext⟩ ti line = .ok (r, none)) ↔
      Grammar.IsObjectText line ∧
        convertsFrom ⟨genTables, ext⟩ ti (dynMembers ext (Json.unmarshal line).1) = true := by
  rw [getRow_accepts_iff, gen_convertsAll_eq ext ti line hnd hp]

theorem dynMembers_shape (ext : Ext) (ms : JVMembers) :
    ∀ kx ∈ dynMembers ext ms, LineLevel.JsonShape kx.2 :=
  LineLevel.ofJVMembers_shape _ ms _ (gen_ofJVMembers ext ms)

/-- `convertsAll_iff` over the regenerated tables: every member, repeated or not, imports into its declared
    column; members under undeclared names never fail. -/
theorem gen_convertsAll_iff (ext : Ext) (ti : Tmpl) (line : Bytes)
    (hnd : (OMap.keys ti).Nodup) (hp : Proto ti) :
    ConvertsAll ⟨genTables, ext⟩ ti line = true ↔
      ∀ k v, (k, v) ∈ (Json.unmarshal line).1.toList →
        ∀ f ty, OMap.lookup ti k = some (.cell .nil f ty) →
          ImportsOK ⟨genTables, ext⟩ f ty (dynOf ext v) := by
  rw [gen_convertsAll_eq ext ti line hnd hp,
    convertsFrom_iff _ _ ti (dynMembers_shape ext _)]
  constructor
  · intro h k v hkv f ty hl
    have hm : (k, dynOf ext v) ∈ dynMembers ext (Json.unmarshal line).1 :=
      List.mem_map.2 ⟨(k, v), hkv, rfl⟩
    obtain ⟨pre, post, hsplit⟩ := List.append_of_mem hm
    have := h pre k (dynOf ext v) post hsplit
    unfold MemberOK descAt at this
    rw [show lookup ti k = some (.cell .nil f ty) from hl] at this
    exact this
  · intro h pre k x post hsplit
    have hm : (k, x) ∈ dynMembers ext (Json.unmarshal line).1 := by
      rw [hsplit]; exact List.mem_append_right _ List.mem_cons_self
    unfold MemberOK descAt
    cases hl : lookup ti k with
    | none =>
      intro _
      exact ⟨_, gen_importCell_auto ext x (dynMembers_shape ext _ (k, x) hm)⟩
    | some c =>
      obtain ⟨kv, hkv, he⟩ := List.mem_map.1 hm
      obtain ⟨k', v⟩ := kv
      simp only [Prod.mk.injEq] at he
      obtain ⟨rfl, rfl⟩ := he
      obtain ⟨f, ty, hcell⟩ := hp (k', c) (OMap.mem_of_lookup hl)
      simp only at hcell
      subst hcell
      exact h k' v hkv f ty hl

/-- `gen_convertsAll_iff` once more, under the further hypothesis that the line repeats no name; the
    proof does not use it (`gen_convertsAll_iff` speaks of every member, repeated or not). -/
theorem gen_convertsAll_iff_of_nodup (ext : Ext) (ti : Tmpl) (line : Bytes)
    (hnd : (OMap.keys ti).Nodup) (hp : Proto ti) (hin : (Order.inputKeys line).Nodup) :
    ConvertsAll ⟨genTables, ext⟩ ti line = true ↔
      ∀ k v, (k, v) ∈ (Json.unmarshal line).1.toList →
        ∀ f ty, OMap.lookup ti k = some (.cell .nil f ty) →
          ∃ c', importCell ⟨genTables, ext⟩ f ty (dynOf ext v) = .ok (c', none) :=
  gen_convertsAll_iff ext ti line hnd hp

theorem gen_getRow_cases (ext : Ext) (ti : Tmpl) (line : Bytes) :
    (∃ r, getRow ⟨genTables, ext⟩ ti line = .ok (r, none)) ∨
      (∃ r e, getRow ⟨genTables, ext⟩ ti line = .ok (r, some e)) ∨
      getRow ⟨genTables, ext⟩ ti line = .err .ext := by
  cases h : getRow ⟨genTables, ext⟩ ti line with
  | ok re =>
    obtain ⟨r, e⟩ := re
    cases e with
    | none => exact .inl ⟨r, rfl⟩
    | some e => exact .inr (.inl ⟨r, e, rfl⟩)
  | err e =>
    rw [getRow_err _ ti line e h]
    exact .inr (.inr rfl)
  | panic s => exact absurd h (NoPanic.getRow_no_panic ext ti line s)

theorem gen_getRow_rejected (ext : Ext) (ti : Tmpl) (line : Bytes)
    (h : ¬ (Grammar.IsObjectText line ∧ ConvertsAll ⟨genTables, ext⟩ ti line = true)) :
    (∃ r e, getRow ⟨genTables, ext⟩ ti line = .ok (r, some e)) ∨
      getRow ⟨genTables, ext⟩ ti line = .err .ext := by
  rcases gen_getRow_cases ext ti line with h1 | h1
  · exact absurd ((getRow_accepts_iff _ ti line).1 h1) h
  · exact h1

/-- When the members delivered before a syntax error all convert, `GetRow` reports `.syntax`; when one of
    them fails to import first, the class of that import's error (the decoder had not reached the syntax
    error yet). -/
theorem gen_getRow_by_firstError (ext : Ext) (ti : Tmpl) (line : Bytes)
    (hnd : (OMap.keys ti).Nodup) (hp : Proto ti) :
    match firstError ⟨genTables, ext⟩ ti (dynMembers ext (Json.unmarshal line).1) with
    | .ok none => ∃ r, getRow ⟨genTables, ext⟩ ti line =
        .ok (r, if Json.accepts line then none else some .syntax)
    | .ok (some e) => ∃ r, getRow ⟨genTables, ext⟩ ti line = .ok (r, some e)
    | .err _ => getRow ⟨genTables, ext⟩ ti line = .err .ext
    | .panic _ => False := by
  have hv := getRow_verdict ⟨genTables, ext⟩ ti line
  unfold lineVerdict at hv
  rw [gen_cloneRow_proto ext ti hnd hp] at hv
  simp only [gen_ofJVMembers] at hv
  cases hf : firstError ⟨genTables, ext⟩ ti (dynMembers ext (Json.unmarshal line).1) with
  | ok e => rw [hf] at hv; cases e <;> exact (errOf_ok_iff _ _).1 hv
  | err e =>
    rw [hf] at hv
    have h := (errOf_err_iff _ _).1 hv
    exact h.trans (congrArg Outcome.err (getRow_err _ ti line e h))
  | panic s =>
    rw [hf] at hv
    exact NoPanic.getRow_no_panic ext ti line s ((errOf_panic_iff _ _).1 hv)

theorem gen_getRow_not_object_text (ext : Ext) (ti : Tmpl) (line : Bytes)
    (hnd : (OMap.keys ti).Nodup) (hp : Proto ti) (hn : ¬ Grammar.IsObjectText line) :
    match firstError ⟨genTables, ext⟩ ti (dynMembers ext (Json.unmarshal line).1) with
    | .ok none => ∃ r, getRow ⟨genTables, ext⟩ ti line = .ok (r, some .syntax)
    | .ok (some e) => ∃ r, getRow ⟨genTables, ext⟩ ti line = .ok (r, some e)
    | .err _ => getRow ⟨genTables, ext⟩ ti line = .err .ext
    | .panic _ => False := by
  have h := gen_getRow_by_firstError ext ti line hnd hp
  rw [(JsonAcc.rejects_iff line).2 hn] at h
  exact h

theorem gen_getRow_not_converting (ext : Ext) (ti : Tmpl) (line : Bytes)
    (hnd : (OMap.keys ti).Nodup) (hp : Proto ti)
    (hconv : ConvertsAll ⟨genTables, ext⟩ ti line = false) :
    match firstError ⟨genTables, ext⟩ ti (dynMembers ext (Json.unmarshal line).1) with
    | .ok none => False
    | .ok (some e) => ∃ r, getRow ⟨genTables, ext⟩ ti line = .ok (r, some e)
    | .err _ => getRow ⟨genTables, ext⟩ ti line = .err .ext
    | .panic _ => False := by
  rw [gen_convertsAll_eq ext ti line hnd hp] at hconv
  have h := gen_getRow_by_firstError ext ti line hnd hp
  split <;> rename_i hf <;> rw [hf] at h
  · rw [(convertsFrom_iff_firstError _ _ _).2 hf] at hconv
    cases hconv
  all_goals exact h

theorem gen_importCell_class (ext : Ext) (f : Format) (ty : Ty) (x : Dyn) (c : Val) (e : ErrClass)
    (h : importCell ⟨genTables, ext⟩ f ty x = .ok (c, some e)) :
    e = .unsupportedImport ∨ e = .cast ∨ e = .unsupportedFormat := by
  rcases ImportClass.importCell_err ext f ty x c e h with h | h | h
  · exact .inr (.inl h)
  · exact .inl h
  · exact .inr (.inr h)

/-! ### 8. Through the exporter -/

/-- The row `GetRow` hands to the exporter (`[]` when it hands none). -/
def importedRow (env : Env) (ti : Tmpl) (line : Bytes) : Row :=
  match getRow env ti line with
  | .ok (r, _) => r
  | .err _ => []
  | .panic _ => []

/-- Every visible cell of the row marshals (`Value.MarshalJSON` returns bytes). -/
def rendersRow (env : Env) (row' : Row) : Bool :=
  row'.all fun kv => Cells.format kv.2 == .hidden || (RowPrint.marshalVal env kv.2).isOk

/-- The exporter's `CreateRow(Row r)` builds a row, and every visible cell of THAT row marshals. -/
def RendersAll (env : Env) (to : Tmpl) (r : Row) : Bool :=
  match createRow env to (.val (.row (Members.ofList r))) with
  | .ok (row', none) => rendersRow env row'
  | .ok (_, some _) => false
  | .err _ => false
  | .panic _ => false

theorem marshalMembers_isOk (env : Env) (row' : Row) :
    (RowPrint.marshalMembers env (Members.ofList row')).isOk = rendersRow env row' := by
  induction row' with
  | nil => rw [Members.ofList, RowPrint.marshalMembers.eq_def]; rfl
  | cons kv row' ih =>
    obtain ⟨k, v⟩ := kv
    rw [Members.ofList, RowPrint.marshalMembers.eq_def]
    simp only [rendersRow, List.all_cons]
    rw [show (row'.all fun kv => Cells.format kv.2 == .hidden ||
      (RowPrint.marshalVal env kv.2).isOk) = rendersRow env row' from rfl, ← ih]
    by_cases hh : Cells.format v = .hidden
    · simp [hh]
    · have hb : (Cells.format v == Format.hidden) = false := by simpa using hh
      simp only [hb, Bool.false_eq_true, if_false, Bool.false_or]
      cases RowPrint.marshalVal env v with
      | ok b =>
        cases RowPrint.marshalMembers env (Members.ofList row') <;> simp [Outcome.isOk]
      | err e => simp [Outcome.isOk]
      | panic s => simp [Outcome.isOk]

theorem marshalRow_ok_iff (env : Env) (row' : Row) :
    (∃ b, RowPrint.marshalRow env (Members.ofList row') = .ok b) ↔ rendersRow env row' = true := by
  rw [← marshalMembers_isOk, marshalRow_bind]
  cases RowPrint.marshalMembers env (Members.ofList row') <;> simp [Outcome.isOk]

theorem importedRow_of_getRow {env : Env} {ti : Tmpl} {line : Bytes} {r : Row}
    {e : Option ErrClass} (h : getRow env ti line = .ok (r, e)) : importedRow env ti line = r := by
  simp only [importedRow, h]

/-- `jl` writes a line for an input line iff the line is exactly one JSON object, its members convert
    under the importer's template, and every visible cell of the row the exporter builds from the imported
    row marshals. -/
theorem jlLine_accepts_iff (env : Env) (ti to : Tmpl) (line : Bytes) :
    (∃ b, jlLine env ti to line = .ok (b, none)) ↔
      Grammar.IsObjectText line ∧ ConvertsAll env ti line = true ∧
        RendersAll env to (importedRow env ti line) = true := by
  constructor
  · rintro ⟨b, h⟩
    obtain ⟨r, row', body, hget, hcr, hb, _⟩ := Order.jlLine_ok env ti to line b h
    obtain ⟨h1, h2⟩ := (getRow_accepts_iff env ti line).1 ⟨r, hget⟩
    refine ⟨h1, h2, ?_⟩
    rw [importedRow_of_getRow hget]
    simp only [RendersAll, hcr]
    exact (marshalRow_ok_iff env row').1 ⟨body, hb⟩
  · rintro ⟨h1, h2, h3⟩
    obtain ⟨r, hget⟩ := (getRow_accepts_iff env ti line).2 ⟨h1, h2⟩
    rw [importedRow_of_getRow hget] at h3
    unfold RendersAll at h3
    split at h3
    · rename_i row' hcr
      obtain ⟨body, hb⟩ := (marshalRow_ok_iff env row').2 h3
      exact ⟨body ++ [0x0A], Order.jlLine_of_steps hget hcr hb⟩
    · cases h3
    · cases h3
    · cases h3

theorem jlLine_accepted_output (env : Env) (ti to : Tmpl) (line b : Bytes)
    (h : jlLine env ti to line = .ok (b, none)) :
    ∃ row' body, createRow env to (.val (.row (Members.ofList (importedRow env ti line)))) =
        .ok (row', none) ∧
      RowPrint.marshalRow env (Members.ofList row') = .ok body ∧ b = body ++ [0x0A] := by
  obtain ⟨r, row', body, hget, hcr, hb, he⟩ := Order.jlLine_ok env ti to line b h
  rw [importedRow_of_getRow hget]
  exact ⟨row', body, hcr, hb, he⟩

theorem jlLine_err (env : Env) (ti to : Tmpl) (line : Bytes) (e : ErrClass)
    (h : jlLine env ti to line = .err e) : e = .ext :=
  (NoPanic.within_jlLine (leaves_ext env) ti to line).err h

theorem gen_jlLine_cases (ext : Ext) (ti to : Tmpl) (line : Bytes) :
    (∃ body, jlLine ⟨genTables, ext⟩ ti to line = .ok (body ++ [0x0A], none)) ∨
      (∃ e, jlLine ⟨genTables, ext⟩ ti to line = .ok ([], some e)) ∨
      jlLine ⟨genTables, ext⟩ ti to line = .err .ext := by
  cases h : jlLine ⟨genTables, ext⟩ ti to line with
  | ok be =>
    obtain ⟨b, e⟩ := be
    cases e with
    | none =>
      obtain ⟨_, _, body, _, _, _, rfl⟩ := Order.jlLine_ok _ ti to line b h
      exact .inl ⟨body, rfl⟩
    | some e =>
      rw [JsonPrint.jlLine_error _ ti to line b e h]
      exact .inr (.inl ⟨e, rfl⟩)
  | err e =>
    rw [jlLine_err _ ti to line e h]
    exact .inr (.inr rfl)
  | panic s => exact absurd h (NoPanic.jlLine_no_panic ext ti to line s)

theorem gen_jlLine_rejected (ext : Ext) (ti to : Tmpl) (line : Bytes)
    (h : ¬ (Grammar.IsObjectText line ∧ ConvertsAll ⟨genTables, ext⟩ ti line = true ∧
      RendersAll ⟨genTables, ext⟩ to (importedRow ⟨genTables, ext⟩ ti line) = true)) :
    (∃ e, jlLine ⟨genTables, ext⟩ ti to line = .ok ([], some e)) ∨
      jlLine ⟨genTables, ext⟩ ti to line = .err .ext := by
  rcases gen_jlLine_cases ext ti to line with ⟨body, h1⟩ | h1
  · exact absurd ((jlLine_accepts_iff _ ti to line).1 ⟨_, h1⟩) h
  · exact h1

/-! ### 9. Non-vacuity: five lines under a numeric(int8) column `n`

  Over the regenerated tables and `Ext.empty`: `{"n":127}` accepted, `{"n":128}` rejected (the import
  fails with `ErrUnsupportedImportType`), `{"n":1} x` rejected (not an object text, although its one
  delivered member converts), ` {"n":1} ` accepted, `{"m":{"x":[1,2]},"n":null}` accepted. -/
namespace Demo

def env : Env := ⟨genTables, Ext.empty⟩
def ti : Tmpl := withCol [] [0x6E] .numeric (.int .i8)

/-- `{"n":127}` -/
def line127 : Bytes := [0x7B, 0x22, 0x6E, 0x22, 0x3A, 0x31, 0x32, 0x37, 0x7D]
/-- `{"n":128}` -/
def line128 : Bytes := [0x7B, 0x22, 0x6E, 0x22, 0x3A, 0x31, 0x32, 0x38, 0x7D]
/-- `{"n":1} x` -/
def lineTrail : Bytes := [0x7B, 0x22, 0x6E, 0x22, 0x3A, 0x31, 0x7D, 0x20, 0x78]
/-- ` {"n":1} ` -/
def lineWs : Bytes := [0x20, 0x7B, 0x22, 0x6E, 0x22, 0x3A, 0x31, 0x7D, 0x20]
/-- `{"m":{"x":[1,2]},"n":null}` -/
def lineNested : Bytes :=
  [0x7B, 0x22, 0x6D, 0x22, 0x3A, 0x7B, 0x22, 0x78, 0x22, 0x3A, 0x5B, 0x31, 0x2C, 0x32, 0x5D, 0x7D, 0x2C,
   0x22, 0x6E, 0x22, 0x3A, 0x6E, 0x75, 0x6C, 0x6C, 0x7D]

theorem verdicts :
    (Json.accepts line127 = true ∧ ConvertsAll env ti line127 = true) ∧
    (Json.accepts line128 = true ∧ ConvertsAll env ti line128 = false ∧
      firstError env ti (dynMembers Ext.empty (Json.unmarshal line128).1) =
        .ok (some .unsupportedImport)) ∧
    (Json.accepts lineTrail = false ∧ ConvertsAll env ti lineTrail = true) ∧
    (Json.accepts lineWs = true ∧ ConvertsAll env ti lineWs = true) ∧
    (Json.accepts lineNested = true ∧ ConvertsAll env ti lineNested = true) := by
  decide +kernel

theorem objectText_127 : Grammar.IsObjectText line127 := (JsonAcc.accepts_iff _).1 verdicts.1.1

theorem converts_127 : ConvertsAll env ti line127 = true := verdicts.1.2

example : ∃ r, getRow env ti line127 = .ok (r, none) :=
  (getRow_accepts_iff env ti line127).2 ⟨objectText_127, converts_127⟩

theorem objectText_128 : Grammar.IsObjectText line128 := (JsonAcc.accepts_iff _).1 verdicts.2.1.1

theorem converts_128 : ConvertsAll env ti line128 = false := verdicts.2.1.2.1

example : ¬ ∃ r, getRow env ti line128 = .ok (r, none) := by
  rw [getRow_accepts_iff, converts_128]; simp

theorem not_objectText_trail : ¬ Grammar.IsObjectText lineTrail :=
  (JsonAcc.rejects_iff _).1 verdicts.2.2.1.1

theorem converts_trail : ConvertsAll env ti lineTrail = true := verdicts.2.2.1.2

theorem objectText_ws : Grammar.IsObjectText lineWs := (JsonAcc.accepts_iff _).1 verdicts.2.2.2.1.1

theorem converts_ws : ConvertsAll env ti lineWs = true := verdicts.2.2.2.1.2

theorem objectText_nested : Grammar.IsObjectText lineNested :=
  (JsonAcc.accepts_iff _).1 verdicts.2.2.2.2.1

theorem converts_nested : ConvertsAll env ti lineNested = true := verdicts.2.2.2.2.2

/-! through the exporter, same template on both sides -/

/-- `{"x":[1,2]}` as the reader delivers it. -/
def mTree : JV := .obj (.cons [0x78] (.arr (.cons (.num [0x31]) (.cons (.num [0x32]) .nil))) .nil)

/-- The row of `{"m":{"x":[1,2]},"n":null}`: the declared column first, the nested object in an Auto
    cell. -/
def nestedRow : Row :=
  [([0x6E], .cell .nil .numeric (.int .i8)), ([0x6D], .cell (RoundTrip.dynOf mTree) .auto .none)]

theorem reads :
    Json.unmarshal lineWs = (.cons [0x6E] (.num [0x31]) .nil, true) ∧
    getRow env ti lineTrail = .ok ([([0x6E], .cell (.int .i8 1) .numeric (.int .i8))], some .syntax) := by
  decide +kernel

theorem rows_nested :
    getRow env ti lineNested = .ok (nestedRow, none) ∧
    createRow env ti (.val (.row (Members.ofList nestedRow))) = .ok (nestedRow, none) := by
  decide +kernel

theorem jlLine_127 : jlLine env ti ti line127 = .ok (line127 ++ [0x0A], none) :=
  LineInts.Demo.int8_127

theorem jlLine_128 : jlLine env ti ti line128 = .ok ([], some .unsupportedImport) :=
  LineInts.Demo.int8_128

theorem jlLine_trail : jlLine env ti ti lineTrail = .ok ([], some .syntax) :=
  Order.jlLine_of_rejected reads.2 ti

/-- ` {"n":1} ` comes out as `{"n":1}` and a newline. -/
theorem jlLine_ws : jlLine env ti ti lineWs =
    .ok ([0x7B, 0x22, 0x6E, 0x22, 0x3A, 0x31, 0x7D, 0x0A], none) :=
  (LineInts.int_line_written Ext.empty [0x6E] (.inl rfl) (.inl rfl) .i8 1 lineWs _ reads.1
    (.inl (by decide +kernel)) (by decide +kernel) (by simp)).trans (by decide +kernel)

/-- `{"m":{"x":[1,2]},"n":null}` comes out as `{"n":null,"m":{"x":[1,2]}}` and a newline: the
    declared column first, the nested object kept as it is. -/
theorem jlLine_nested : jlLine env ti ti lineNested =
    .ok ([0x7B, 0x22, 0x6E, 0x22, 0x3A, 0x6E, 0x75, 0x6C, 0x6C, 0x2C, 0x22, 0x6D, 0x22, 0x3A,
      0x7B, 0x22, 0x78, 0x22, 0x3A, 0x5B, 0x31, 0x2C, 0x32, 0x5D, 0x7D, 0x7D, 0x0A], none) := by
  have hn : RowPrint.marshalVal env (.cell .nil .numeric (.int .i8)) = .ok RowPrint.null :=
    LineLevel.marshalVal_of_export (LineLevel.nil_exports_nil _ _ _)
      (by rw [marshalExported_nil])
  have hm : RowPrint.marshalVal env (.cell (RoundTrip.dynOf mTree) .auto .none) =
      .ok (RoundTrip.printV mTree) := by
    have ht : RoundTrip.AllV RoundTrip.StrOK RoundTrip.NumOK mTree := by
      simp only [mTree, RoundTrip.AllV, RoundTrip.AllM, RoundTrip.AllL, RoundTrip.StrOK, RoundTrip.NumOK]
      decide +kernel
    rw [JsonPrint.marshalVal_auto, RoundTrip.marshalDyn_dynOf env RoundTrip.StrOK mTree ht]
  have h := Order.jlLine_of_steps rows_nested.1 rows_nested.2 (JsonPrint.marshalRow_eq env _
    (JsonPrint.marshalMembers_cons env _ _ _ (by decide) hn
      (JsonPrint.marshalMembers_cons env _ _ _ (by decide) hm (JsonPrint.marshalMembers_nil env))))
  exact h.trans (by decide +kernel)

example : Grammar.IsObjectText line127 ∧ ConvertsAll env ti line127 = true ∧
    RendersAll env ti (importedRow env ti line127) = true :=
  (jlLine_accepts_iff env ti ti line127).1 ⟨_, jlLine_127⟩

example : RendersAll env ti (importedRow env ti lineNested) = true :=
  ((jlLine_accepts_iff env ti ti lineNested).1 ⟨_, jlLine_nested⟩).2.2

example : ¬ ∃ b, jlLine env ti ti line128 = .ok (b, none) := by
  rw [jlLine_accepts_iff, converts_128]; simp

example : ¬ ∃ b, jlLine env ti ti lineTrail = .ok (b, none) := by
  rw [jlLine_accepts_iff]; exact fun h => not_objectText_trail h.1

example : firstError env ti (dynMembers Ext.empty (Json.unmarshal line128).1) =
    .ok (some .unsupportedImport) :=
  verdicts.2.1.2.2

end Demo

end Jl.LineAccept
