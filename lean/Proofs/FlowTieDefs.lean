/-
  Proofs.FlowTieDefs — the interpreters of the regenerated flow facts (definitions only)
  (overview: Proofs/FlowTie.lean)
-/
import Model.FlowSpec
import Model.Stream
import Model.ValueSyntax
import Gen.FlowTable
import Gen.Sites
import Model.Template
import Model.Value

namespace Jl.FlowTie
open Jl Jl.Flow Jl.Value Jl.Template

/-- The format / raw type a builder declares, given the arguments of the call. -/
def _root_.Jl.Flow.FormatArg.eval (fparam : Format) : FormatArg → Option Format
  | .const f => some f
  | .param => some fparam
  | .unknown _ => none

def _root_.Jl.Flow.RawTypeArg.eval (tparam : Ty) : RawTypeArg → Option Ty
  | .nil => some .none
  | .param => some tparam
  | .unknown _ => none

/-- A builder of the table run on the prototype `t` with the arguments `(name, fparam, tparam, sub)`
    (`sub` = the prototype of the Template argument, `how` = what `CreateRowEmpty` hands out).
    `none` = abstain. -/
def builderG (env : Env) (how : RowSrc) (b : Builder) (t : Tmpl) (name : Bytes) (fparam : Format) (tparam : Ty)
    (sub : Tmpl) : Option (Outcome Tmpl) :=
  match b with
  | .column cell fa ta =>
    match fa.eval fparam, ta.eval tparam with
    | some f, some typ =>
      match cell with
      | .literal => some (.ok (upsert t name (.cell .nil f typ)))
      | .newValue =>
        some (match newValue env .nil f typ with
          | .ok c => .ok (upsert t name c)
          | .err e => .err e
          | .panic s => .panic s)
    | _, _ => none
  | .subRow =>
    match how with
    | .cloneOfProto =>
      some (match cloneRow env sub with
        | .ok r => .ok (upsert t name (.row (Members.ofList r)))
        | .err e => .err e
        | .panic s => .panic s)
    | _ => none
  | .unknown _ => none

def runBuilder (env : Env) (method : String) (t : Tmpl) (name : Bytes) (fparam : Format) (tparam : Ty) (sub : Tmpl) :
    Option (Outcome Tmpl) :=
  match Gen.flowTable.builders.lookup method with
  | some b => builderG env Gen.flowTable.createRowEmpty b t name fparam tparam sub
  | none => none

/-- The kind of an input, as `CreateRow`'s type switch sees it (nil and every other dynamic type: none of the cases). -/
def kindOf : Dyn → Option InputKind
  | .arr _ => some .slice
  | .gomap _ => some .map
  | .val (.row _) => some .row
  | .bytes _ => some .bytes
  | .str _ => some .string
  | _ => none

/-- The class (`errors.Is`) of the sentinel a `.fail` names. -/
def sentinelClass : String → Option ErrClass
  | "ErrUnsupportedImportType" => some .unsupportedImport
  | "ErrUnsupportedExportType" => some .unsupportedExport
  | "ErrUnsupportedFormat" => some .unsupportedFormat
  | _ => none

/-- One branch of the table on the row `row` (= what `on` says) and the input `v`, from the meaning of the
    constructors: by position = `fillSlice` (GetValueAtIndex / SetValueAtIndex), by key = `fillPairs`
    (GetValue / SetValue), text = `unmarshalInto`.  `none` = abstain. -/
def branchG (env : Env) (row : List (Bytes × Val)) (br : Flow.Branch) (v : Dyn) :
    Option (Outcome (List (Bytes × Val) × Option ErrClass)) :=
  let wrap (o : Outcome (List (Bytes × Val))) : Outcome (List (Bytes × Val) × Option ErrClass) :=
    match o with
    | .ok r => .ok (r, none)
    | .err e => .err e
    | .panic s => .panic s
  match br, v with
  | .fill .cloneOfProto .range "GetValueAtIndex" "SetValueAtIndex" false, .arr xs =>
    some (wrap (fillSlice env row 0 xs.toList))
  | .fill .cloneOfProto .range "GetValue" "SetValue" false, .gomap kvs =>
    some (wrap (fillPairs env row kvs.toList))
  | .fill .cloneOfProto .iterValues "GetValue" "SetValue" true, .val (.row ms) =>
    some (wrap (fillPairs env row (ms.toList.map fun (k, c) => (k, Cells.raw c))))
  | .text .cloneOfProto _ _, .bytes s => some (unmarshalInto env row s)
  | .text .cloneOfProto _ _, .str s => some (unmarshalInto env row s)
  | .fail _ s, _ => (sentinelClass s).map fun c => .ok (row, some c)
  | _, _ => none

/-- `CreateRow(v)` as the table says it: the clone first, then the branch of `v`'s kind. -/
def createRowG (c : Flow.CreateRow) (env : Env) (t : Tmpl) (v : Dyn) :
    Option (Outcome (List (Bytes × Val) × Option ErrClass)) :=
  match cloneRow env t with
  | .err e => some (.err e)
  | .panic s => some (.panic s)
  | .ok row =>
    match kindOf v with
    | some k =>
      match c.cases.lookup k with
      | some br => branchG env row br v
      | none => branchG env row c.dflt v
    | none => branchG env row c.dflt v

/-- `.oneWrite sep _`: `CreateRow`, `MarshalJSON`, ONE write of the bytes followed by `sep`; nothing
    written when one of the two failed.  The bytes of the write, or the error. `none` = abstain. -/
def exportG (e : Flow.Export) (env : Env) (t : Tmpl) (v : Dyn) : Option (Outcome (Bytes × Option ErrClass)) :=
  match e with
  | .oneWrite sep _ =>
    some (
      match createRow env t v with
      | .err e => .err e
      | .panic s => .panic s
      | .ok (_, some e) => .ok ([], some e)
      | .ok (row, none) =>
        match RowPrint.marshalRow env (Members.ofList row) with
        | .ok b => .ok (b ++ [UInt8.ofNat sep], none)
        | .err .ext => .err .ext
        | .err e => .ok ([], some e)
        | .panic s => .panic s)
  | .unknown _ => none

/-- `.scannerErrThenParse`: after a scan that left no error, `CreateRowEmpty` of the importer's template and
    `UnmarshalJSON` of the scanned bytes. -/
def getRowG (g : Flow.GetRow) (how : RowSrc) (env : Env) (t : Tmpl) (line : Bytes) :
    Option (Outcome (List (Bytes × Val) × Option ErrClass)) :=
  match g, how with
  | .scannerErrThenParse _ _, .cloneOfProto =>
    some (
      match cloneRow env t with
      | .err e => .err e
      | .panic s => .panic s
      | .ok row => unmarshalInto env row line)
  | _, _ => none

def procG : Processor → Option Stream.Proc
  | .returnsErr => some .default
  | .returnsNil => some .tolerant
  | .unknown _ => none

/-- What `Stream.loop` records for a processor call: (row ≠ nil, an error was passed).  `rowWithErr` =
    what GetRow returns as row together with an error; `failed` = the call follows a GetRow error. -/
def _root_.Jl.Flow.ProcCall.recorded (c : ProcCall) (rowWithErr : RowRet) (failed : Bool) : Bool × Bool :=
  (match c.row with
   | .nil => false
   | .row => if failed then (match rowWithErr with | .nil => false | .row => true) else true,
   match c.err with
   | .none => false
   | _ => true)

end Jl.FlowTie
