/-
  Proofs.RowSteps — every mutator of row.go is a chain of `setValue`s: `Set`, `ImportAtKey` and one member of
  `parseobject` each leave `r.setValue k c` for some cell `c`; `Import` of a slice or a map and `UnmarshalJSON`
  repeat such a step until the first error.  So a relation between rows that is reflexive, transitive and holds
  across `r ↦ r.setValue k c` holds across every step and every history (`step_rel`, `run_rel`), whatever the
  cells do and whether or not a step reports an error.
-/
import Model.Row

namespace Jl.LRow
variable {C V E : Type}

theorem set_eq_setValue (ops : CellOps C V E) (r : LRow C) (k : Bytes) (x : V) :
    ∃ c, r.set ops k x = r.setValue k c := by
  unfold set
  cases r.m k <;> exact ⟨_, rfl⟩

theorem importAtKey_eq_setValue (ops : CellOps C V E) (r : LRow C) (k : Bytes) (x : V) :
    ∃ c, (r.importAtKey ops k x).1 = r.setValue k c := by
  unfold importAtKey
  cases r.m k <;> exact ⟨_, rfl⟩

theorem parseMember_eq_setValue (ops : CellOps C V E) (r : LRow C) (k : Bytes) (x : V) :
    ∃ c, (r.parseMember ops k x).1 = r.setValue k c := by
  unfold parseMember setValue ensure
  cases r.m k <;> exact ⟨_, rfl⟩

section Loops
variable {σ α : Type}

/-- `loop` repeats `f` over a list and stops at the first error (`i`: the running index of a slice). -/
structure UntilErr (f : Nat → σ → α → σ × Option E) (loop : Nat → σ → List α → σ × Option E) :
    Prop where
  nil : ∀ i s, loop i s [] = (s, none)
  cons : ∀ i s a as, loop i s (a :: as) =
    if (f i s a).2.isSome then f i s a else loop (i + 1) (f i s a).1 as

variable {f : Nat → σ → α → σ × Option E} {loop : Nat → σ → List α → σ × Option E}

theorem UntilErr.rel (L : UntilErr f loop) (P : σ → σ → Prop) (refl : ∀ s, P s s)
    (trans : ∀ {a b c}, P a b → P b c → P a c) (hf : ∀ i s a, P s (f i s a).1) :
    ∀ as i s, P s (loop i s as).1 := by
  intro as
  induction as with
  | nil => intro i s; rw [L.nil]; exact refl s
  | cons a as ih =>
    intro i s
    rw [L.cons]
    split
    · exact hf i s a
    · exact trans (hf i s a) (ih (i + 1) _)

theorem UntilErr.rel₂ (L : UntilErr f loop) (S : σ → σ → Prop)
    (hf : ∀ i s₁ s₂ a, S s₁ s₂ → (f i s₁ a).2 = none → (f i s₂ a).2 = none →
      S (f i s₁ a).1 (f i s₂ a).1) :
    ∀ as i s₁ s₂, S s₁ s₂ → (loop i s₁ as).2 = none → (loop i s₂ as).2 = none →
      S (loop i s₁ as).1 (loop i s₂ as).1 := by
  intro as
  induction as with
  | nil => intro i s₁ s₂ h _ _; rw [L.nil, L.nil]; exact h
  | cons a as ih =>
    intro i s₁ s₂ h e₁ e₂
    rw [L.cons] at e₁ e₂ ⊢
    rw [L.cons]
    cases n₁ : (f i s₁ a).2 with
    | some err => simp [n₁] at e₁
    | none =>
      cases n₂ : (f i s₂ a).2 with
      | some err => simp [n₂] at e₂
      | none =>
        simp only [n₁, n₂, Option.isSome_none, Bool.false_eq_true, if_false] at e₁ e₂ ⊢
        exact ih (i + 1) _ _ (hf i s₁ s₂ a h n₁ n₂) e₁ e₂

end Loops

theorem importSliceFrom_untilErr (ops : CellOps C V E) :
    UntilErr (fun i (r : LRow C) x => r.importAtKey ops (r.keyAt i) x)
      fun i r xs => r.importSliceFrom ops i xs where
  nil _ _ := rfl
  cons i r x xs := by
    rw [importSliceFrom]
    rcases r.importAtKey ops (r.keyAt i) x with ⟨r', _ | e⟩ <;> rfl

theorem importMap_untilErr (ops : CellOps C V E) :
    UntilErr (fun _ (r : LRow C) (kv : Bytes × V) => r.importAtKey ops kv.1 kv.2)
      fun _ r kvs => r.importMap ops kvs where
  nil _ _ := rfl
  cons _ r kv kvs := by
    obtain ⟨k, x⟩ := kv
    rw [importMap]
    rcases r.importAtKey ops k x with ⟨r', _ | e⟩ <;> rfl

theorem parseMembers_untilErr (ops : CellOps C V E) :
    UntilErr (fun _ (r : LRow C) (kv : Bytes × V) => r.parseMember ops kv.1 kv.2)
      fun _ r ms => r.parseMembers ops ms where
  nil _ _ := rfl
  cons _ r kv ms := by
    obtain ⟨k, x⟩ := kv
    rw [parseMembers]
    rcases r.parseMember ops k x with ⟨r', _ | e⟩ <;> rfl

theorem step_rel (P : LRow C → LRow C → Prop) (refl : ∀ r, P r r)
    (trans : ∀ {a b c}, P a b → P b c → P a c) (hset : ∀ r k c, P r (r.setValue k c))
    (ops : CellOps C V E) (r : LRow C) (op : RowOp C V) : P r (r.step ops op).1 := by
  have via : ∀ {r r' : LRow C} {k}, (∃ c, r' = r.setValue k c) → P r r' := fun ⟨c, e⟩ => e ▸ hset _ _ c
  have hi : ∀ r k x, P r (r.importAtKey ops k x).1 := fun r k x => via (importAtKey_eq_setValue ops r k x)
  cases op with
  | set k x => exact via (set_eq_setValue ops r k x)
  | setAt i x => exact via (set_eq_setValue ops r _ x)
  | setValue k c => exact hset r k c
  | setValueAt i c => exact hset r _ c
  | importAtKey k x => exact hi r k x
  | importAtIndex i x => exact hi r _ x
  | importSlice xs => exact (importSliceFrom_untilErr ops).rel P refl trans (fun _ r x => hi r _ x) xs 0 r
  | importMap kvs => exact (importMap_untilErr ops).rel P refl trans (fun _ r kv => hi r _ _) kvs 0 r
  | unmarshal ms => exact (parseMembers_untilErr ops).rel P refl trans (fun _ r kv => via (parseMember_eq_setValue ops r _ _)) ms 0 r

theorem run_rel (P : LRow C → LRow C → Prop) (refl : ∀ r, P r r)
    (trans : ∀ {a b c}, P a b → P b c → P a c) (hset : ∀ r k c, P r (r.setValue k c))
    (ops : CellOps C V E) (hist : List (RowOp C V)) (r : LRow C) : P r (r.run ops hist) := by
  induction hist generalizing r with
  | nil => exact refl r
  | cons op rest ih => exact trans (step_rel P refl trans hset ops r op) (ih _)

theorem run_append (ops : CellOps C V E) (r : LRow C) (h₁ h₂ : List (RowOp C V)) :
    r.run ops (h₁ ++ h₂) = (r.run ops h₁).run ops h₂ := by
  induction h₁ generalizing r with
  | nil => rfl
  | cons op rest ih => exact ih _

/-! ### The key list only grows at its end -/

theorem ensure_prefix (r : LRow C) (k : Bytes) : r.l <+: r.ensure k := by
  unfold ensure
  split
  · exact List.prefix_refl _
  · exact List.prefix_append _ _

theorem run_prefix (ops : CellOps C V E) (hist : List (RowOp C V)) (r : LRow C) :
    r.l <+: (r.run ops hist).l :=
  run_rel (fun a b => a.l <+: b.l) (fun _ => List.prefix_refl _) List.IsPrefix.trans
    (fun r k _ => ensure_prefix r k) ops hist r

end Jl.LRow
