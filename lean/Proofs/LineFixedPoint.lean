/-
  Proofs.LineFixedPoint — C05 at LINE level: an emitted line is a fixed point of its output
  template,

      jlLine env ti to line = .ok (b, none)  →
        ∃ body, b = body ++ [0x0A] ∧ jlLine env to to body = .ok (b, none)

  for templates with any number of columns, under hypotheses that exclude the known deviations
  (`swallowed-cast`, `offset-24-60`, ill-formed UTF-8 in the JSON transport).  The second pass is
  compared with the first cell by cell: a visible declared cell has to be `CellFixed`, an
  undeclared one `FreeFixed`.
-/
import Model.Tables
import Model.Value
import Model.Template
import Model.RowPrint
import Model.CastGen
import Proofs.Pairings
import Proofs.SelfReadable
import Proofs.JsonPrint
import Proofs.Order
import Proofs.RoundTrip
import Proofs.RowRoundTripN
import Proofs.CellTable
import Proofs.LineValues
import Proofs.DecEq

namespace Jl.LineFixedPoint
open Jl Jl.Value Jl.Template Jl.RowPrint Jl.JsonPrint Jl.JsonQuote Cast

/-! ### The row `CreateRow` makes of a row -/

theorem filled (env : Env) (row0 r row' : List (Bytes × Val)) (hr : (OMap.keys r).Nodup)
    (hfill : walk (fillStep env) row0 (r.map fun (k, c) => (k, Cells.raw c)) = .ok (row', none))
    (k : Bytes) :
    (∀ c, OMap.lookup r k = some c → ∃ c', OMap.lookup row' k = some c' ∧
      fillStep env (OMap.lookup row0 k) (Cells.raw c) = .ok (c', none)) ∧
    (OMap.lookup r k = none → OMap.lookup row' k = OMap.lookup row0 k) := by
  refine ⟨fun c hc => ?_, fun hn => ?_⟩
  · obtain ⟨c', hc', hl'⟩ := walk.lookup_of_mem hfill (by rw [Order.keys_map_raw]; exact hr)
      (List.mem_map.mpr ⟨(k, c), OMap.mem_of_lookup hc, rfl⟩)
    exact ⟨c', hl', hc'⟩
  · exact walk.lookup_of_not_mem hfill
      (by rw [Order.keys_map_raw]; exact (OMap.lookup_eq_none_iff r k).mp hn)

theorem filled_declared (env : Env) (to row0 r row' : List (Bytes × Val))
    (hto : (OMap.keys to).Nodup) (hr : (OMap.keys r).Nodup) (h0 : cloneRow env to = .ok row0)
    (hfill : walk (fillStep env) row0 (r.map fun (k, c) => (k, Cells.raw c)) = .ok (row', none))
    (k : Bytes) (v : Val) (hv : OMap.lookup to k = some v) :
    ∃ raw0 raw', cloneValue env v = .ok (.cell raw0 (Cells.format v) (Cells.rawType v)) ∧
      OMap.lookup row0 k = some (.cell raw0 (Cells.format v) (Cells.rawType v)) ∧
      OMap.lookup row' k = some (.cell raw' (Cells.format v) (Cells.rawType v)) ∧
      (∀ c, OMap.lookup r k = some c → newValue env (Cells.raw c) (Cells.format v) (Cells.rawType v) =
        .ok (.cell raw' (Cells.format v) (Cells.rawType v))) ∧
      (OMap.lookup r k = none → raw' = raw0) := by
  obtain ⟨c0, hc0, hl0⟩ := Order.cloneRow_lookup env to row0 h0 hto k v hv
  obtain ⟨raw0, rfl⟩ := Order.newValue_cell hc0
  obtain ⟨hin, hout⟩ := filled env row0 r row' hr hfill k
  cases hrk : OMap.lookup r k with
  | none => exact ⟨raw0, raw0, hc0, hl0, by rw [hout hrk, hl0], nofun, fun _ => rfl⟩
  | some c =>
    obtain ⟨c', hl', hfc⟩ := hin c hrk
    rw [hl0] at hfc
    have hfc := (fillStep_some.1 hfc).1
    obtain ⟨raw', rfl⟩ := Order.newValue_cell hfc
    exact ⟨raw0, raw', hc0, hl0, hl', fun c2 hc2 => by cases hc2; exact hfc, nofun⟩

theorem filled_undeclared (env : Env) (to row0 r row' : List (Bytes × Val))
    (hr : (OMap.keys r).Nodup) (h0 : cloneRow env to = .ok row0)
    (hfill : walk (fillStep env) row0 (r.map fun (k, c) => (k, Cells.raw c)) = .ok (row', none))
    (k : Bytes) (hk : k ∉ OMap.keys to) :
    OMap.lookup row0 k = none ∧
      OMap.lookup row' k = (OMap.lookup r k).map fun c => Cells.autoCell (Cells.raw c) := by
  have hn0 : OMap.lookup row0 k = none :=
    OMap.lookup_none_of_not_mem row0 k fun h => hk ((Order.mem_cloneRow_keys h0 k).mp h)
  obtain ⟨hin, hout⟩ := filled env row0 r row' hr hfill k
  refine ⟨hn0, ?_⟩
  cases hrk : OMap.lookup r k with
  | none => rw [hout hrk, hn0]; rfl
  | some c =>
    obtain ⟨c', hl', hfc⟩ := hin c hrk
    rw [hn0] at hfc
    rw [hl', (fillStep_none.1 hfc).1]; rfl

/-! ### What the reader delivers for a printed row -/

theorem reread (env : Env) (hx : FloatTextOK env.ext) (o row : List (Bytes × Val)) (body : Bytes)
    (hnd : (OMap.keys row).Nodup)
    (hm : marshalRow env (Members.ofList row) = .ok body)
    (hkeys : ∀ k ∈ visibleKeys row, sanitize k = k)
    (R : Bytes → Val → Val → Prop)
    (himp : ∀ k c, OMap.lookup row k = some c → Cells.format c ≠ .hidden →
      ∃ d cn, ofJV env (treeVal env c) = .ok d ∧
        memberStep env (OMap.lookup o k) d = .ok (cn, none) ∧ R k c cn) :
    ∃ o', unmarshalInto env o body = .ok (o', none) ∧
      OMap.keys o' = Order.appendNew (OMap.keys o) (visibleKeys row) ∧
      (∀ k, k ∉ visibleKeys row → OMap.lookup o' k = OMap.lookup o k) ∧
      ∀ k c, OMap.lookup row k = some c → Cells.format c ≠ .hidden →
        ∃ cn, OMap.lookup o' k = some cn ∧ R k c cn := by
  obtain ⟨parts, hparts, _⟩ := marshalRow_shape hm
  -- `l`: the members of the text are the visible cells of the row, each read as its printed tree
  obtain ⟨l, hout, hlk, hlmem⟩ := RowRoundTripN.rowOut_of_cells env
    (fun k c d => ∃ cn, memberStep env (OMap.lookup o k) d = .ok (cn, none) ∧ R k c cn) row (by
      intro k c hmem hv
      obtain ⟨b, hb⟩ := LineLevel.marshalMembers_mem env row parts hparts k c hmem hv
      obtain ⟨d, cn, hd, hcn⟩ := himp k c (OMap.lookup_of_mem hnd hmem) hv
      exact ⟨hkeys k (RowRoundTripN.mem_visibleKeys hmem hv), d,
        RowRoundTripN.cellOut_of_tree env hx c b d hb hd, cn, hcn⟩)
  obtain ⟨bytes, ms, hmar, hu, hl⟩ := hout.text
  cases hm.symm.trans hmar
  obtain ⟨o', hst, hin, hout⟩ := walk.pointwise (step := memberStep env)
    (P := fun k cn => ∀ c, OMap.lookup row k = some c → R k c cn) l o
    (by rw [hlk]; exact Order.visibleKeys_nodup hnd) (by
      intro k d hd
      obtain ⟨c, hc, _, cn, hcn, hR⟩ := hlmem k d hd
      exact ⟨cn, hcn, fun c' hc' => by cases (OMap.lookup_of_mem hnd hc).symm.trans hc'; exact hR⟩)
  have hp := (parseMembers_eq_walk env l o).trans hst
  refine ⟨o', Order.unmarshalInto_of_steps hu hl hp, by
    rw [Order.parseMembers_keys_ok env l o o' hp, hlk], fun k hk => hout k (hlk ▸ hk),
    fun k c hc hv => ?_⟩
  obtain ⟨cn, hcn, hR⟩ := hin k (hlk ▸ RowRoundTripN.mem_visibleKeys (OMap.mem_of_lookup hc) hv)
  exact ⟨cn, hcn, hR c hc⟩

/-! ### Two rows that print alike -/

/-- Two cells contribute the same bytes to a line (a hidden cell contributes none). -/
def PrintEq (env : Env) (a b : Val) : Prop :=
  (Cells.format a = .hidden ↔ Cells.format b = .hidden) ∧
  (Cells.format a ≠ .hidden → marshalVal env a = marshalVal env b)

theorem marshalMembers_congr (env : Env) : ∀ (a b : List (Bytes × Val)),
    OMap.keys a = OMap.keys b → (OMap.keys a).Nodup →
    (∀ k ca cb, OMap.lookup a k = some ca → OMap.lookup b k = some cb → PrintEq env ca cb) →
    marshalMembers env (Members.ofList a) = marshalMembers env (Members.ofList b)
  | [], [], _, _, _ => rfl
  | [], _ :: _, h, _, _ => by cases h
  | _ :: _, [], h, _, _ => by cases h
  | (k, ca) :: ta, (k', cb) :: tb, hk, hnd, hp => by
    rw [OMap.keys_cons, OMap.keys_cons] at hk
    injection hk with hk1 hk2
    subst hk1
    rw [OMap.keys_cons, List.nodup_cons] at hnd
    obtain ⟨hpe1, hpe2⟩ := hp k ca cb (OMap.lookup_cons_self _ _ _) (OMap.lookup_cons_self _ _ _)
    have ih := marshalMembers_congr env ta tb hk2 hnd.2 (fun k2 c1 c2 h1 h2 => by
      have hne : ¬ k = k2 := fun e => hnd.1 (e ▸ OMap.mem_keys_of_lookup h1)
      exact hp k2 c1 c2 (by rw [OMap.lookup_cons_ne _ _ hne]; exact h1)
        (by rw [OMap.lookup_cons_ne _ _ hne]; exact h2))
    simp only [Members.ofList]
    by_cases hh : Cells.format ca = .hidden
    · rw [marshalMembers_hidden env _ _ _ hh, marshalMembers_hidden env _ _ _ (hpe1.mp hh), ih]
    · have hh' : Cells.format cb ≠ .hidden := fun e => hh (hpe1.mpr e)
      have hb : (Cells.format ca == Format.hidden) = false := by simpa using hh
      have hb' : (Cells.format cb == Format.hidden) = false := by simpa using hh'
      conv => lhs; rw [marshalMembers.eq_def]
      conv => rhs; rw [marshalMembers.eq_def]
      simp only [hb, hb', hpe2 hh, ih]

theorem marshalRow_congr (env : Env) (a b : List (Bytes × Val))
    (hk : OMap.keys a = OMap.keys b) (hnd : (OMap.keys a).Nodup)
    (hp : ∀ k ca cb, OMap.lookup a k = some ca → OMap.lookup b k = some cb → PrintEq env ca cb) :
    marshalRow env (Members.ofList a) = marshalRow env (Members.ofList b) := by
  rw [marshalRow_bind, marshalRow_bind, marshalMembers_congr env a b hk hnd hp]

/-! ### The names stored by the second pass are those of the first -/

theorem appendNew_known_new {K0 A E : List Bytes} (hA : ∀ k ∈ A, k ∈ K0) (hE : ∀ k ∈ E, k ∉ K0)
    (hnd : (A ++ E).Nodup) : Order.appendNew K0 (A ++ E) = K0 ++ E := by
  rw [Order.appendNew_eq, Order.eraseDups_of_nodup hnd, List.filter_append]
  have h1 : A.filter (fun k => decide (k ∉ K0)) = [] := by
    rw [List.filter_eq_nil_iff]
    intro k hk
    simp [hA k hk]
  have h2 : E.filter (fun k => decide (k ∉ K0)) = E := by
    rw [List.filter_eq_self]
    intro k hk
    simp [hE k hk]
  rw [h1, h2, List.nil_append]

theorem keys_again {to : Tmpl} {ks : List Bytes} {row : List (Bytes × Val)}
    (h : Order.Walked to ks row) :
    Order.appendNew (OMap.keys to) (visibleKeys row) = OMap.keys row ∧
      Order.appendNew (OMap.keys to) (OMap.keys row) = OMap.keys row := by
  constructor
  · rw [h.visibleKeys, h.keys, appendNew_known_new (fun k hk => (List.mem_filter.mp hk).1)
      (fun k hk => of_decide_eq_true (List.mem_filter.mp hk).2)
      (by rw [← h.visibleKeys]; exact Order.visibleKeys_nodup h.nodup)]
    exact (Order.appendNew_split _ ks).symm
  · rw [Order.appendNew_eq, Order.eraseDups_of_nodup h.nodup, h.keys]
    exact (Order.appendNew_split _ ks).symm

/-! ### A second fill that prints like the first -/

theorem filled_cell (env : Env) (to row0 r row' : List (Bytes × Val))
    (hto : (OMap.keys to).Nodup) (hr : (OMap.keys r).Nodup) (h0 : cloneRow env to = .ok row0)
    (hfill : walk (fillStep env) row0 (r.map fun (k, c) => (k, Cells.raw c)) = .ok (row', none))
    (k : Bytes) (c : Val) (hc : OMap.lookup row' k = some c) :
    (∃ v raw0 raw', OMap.lookup to k = some v ∧
      cloneValue env v = .ok (.cell raw0 (Cells.format v) (Cells.rawType v)) ∧
      OMap.lookup row0 k = some (.cell raw0 (Cells.format v) (Cells.rawType v)) ∧
      c = .cell raw' (Cells.format v) (Cells.rawType v)) ∨
    (k ∉ OMap.keys to ∧ OMap.lookup row0 k = none ∧ Cells.format c = .auto) := by
  by_cases hk : k ∈ OMap.keys to
  · obtain ⟨v, hv⟩ := OMap.lookup_isSome_of_mem to k hk
    obtain ⟨raw0, raw', hcl, hl0, hl', _⟩ := filled_declared env to row0 r row' hto hr h0 hfill k v hv
    exact .inl ⟨v, raw0, raw', hv, hcl, hl0, Option.some.inj (hc.symm.trans hl')⟩
  · have hf := congrFun (Order.walked_of_walk hto h0 (fun _ _ _ _ _ => Order.fillStep_format) hfill).formats k
    rw [Order.fmt, hc, Order.fmt_of_not_mem hk] at hf
    exact .inr ⟨hk, OMap.lookup_none_of_not_mem row0 k fun h => hk ((Order.mem_cloneRow_keys h0 k).mp h), hf⟩

theorem refill_prints (env : Env) (row0 r2 row' : List (Bytes × Val))
    (hnd2 : (OMap.keys r2).Nodup) (hk2 : OMap.keys r2 = OMap.keys row')
    (hk0 : Order.appendNew (OMap.keys row0) (OMap.keys row') = OMap.keys row')
    (hstep : ∀ k c, OMap.lookup row' k = some c → ∃ cr, OMap.lookup r2 k = some cr ∧
      ∃ c2, fillStep env (OMap.lookup row0 k) (Cells.raw cr) = .ok (c2, none) ∧ PrintEq env c2 c) :
    ∃ row'', walk (fillStep env) row0 (r2.map fun (k, c) => (k, Cells.raw c)) = .ok (row'', none) ∧
      marshalRow env (Members.ofList row'') = marshalRow env (Members.ofList row') := by
  obtain ⟨row'', hst, hin, _⟩ := walk.pointwise (step := fillStep env)
    (P := fun k c2 => ∀ c, OMap.lookup row' k = some c → PrintEq env c2 c)
    (r2.map fun (k, c) => (k, Cells.raw c)) row0 (by rw [Order.keys_map_raw]; exact hnd2) (by
      intro k x hx
      obtain ⟨⟨k', cr⟩, hmem, he⟩ := List.mem_map.mp hx
      cases he
      obtain ⟨c, hc⟩ := OMap.lookup_isSome_of_mem row' k (hk2 ▸ List.mem_map_of_mem (f := Prod.fst) hmem)
      obtain ⟨cr', hcr', c2, hc2, hpe⟩ := hstep k c hc
      cases (OMap.lookup_of_mem hnd2 hmem).symm.trans hcr'
      exact ⟨c2, hc2, fun c' hc' => by cases hc.symm.trans hc'; exact hpe⟩)
  have hk'' : OMap.keys row'' = OMap.keys row' := by
    rw [Order.walk_keys_ok hst, Order.keys_map_raw, hk2, hk0]
  refine ⟨row'', hst, marshalRow_congr env row'' row' hk'' (hk'' ▸ hk2 ▸ hnd2) fun k c'' c hc'' hc => ?_⟩
  obtain ⟨c3, hl3, hpe⟩ := hin k (by rw [Order.keys_map_raw, hk2]; exact OMap.mem_keys_of_lookup hc)
  cases hl3.symm.trans hc''
  exact hpe c hc

/-! ### The generic lifting theorem -/

/-- `row'` is the row the exporter made (under `to`) of an imported row `r`, `body` its text.
    `hhid`: a hidden cell is not in the text, so the second pass keeps the clone of the prototype,
    and `CreateRow` clones that. -/
theorem second_pass (env : Env) (hx : FloatTextOK env.ext) (to : Tmpl)
    (r row' : List (Bytes × Val)) (body : Bytes)
    (hto : (OMap.keys to).Nodup) (hr : (OMap.keys r).Nodup)
    (hcr : createRow env to (.val (.row (Members.ofList r))) = .ok (row', none))
    (hm : marshalRow env (Members.ofList row') = .ok body)
    (hkeys : ∀ k ∈ visibleKeys row', sanitize k = k)
    (hhid : ∀ k v c0, OMap.lookup to k = some v → Cells.format v = .hidden →
      cloneValue env v = .ok c0 → ∃ c2, cloneValue env c0 = .ok c2)
    (hdecl : ∀ k v c, OMap.lookup to k = some v → Cells.format v ≠ .hidden →
      OMap.lookup row' k = some c → CellFixed env (Cells.format v) (Cells.rawType v) c)
    (hfree : ∀ k c, k ∉ OMap.keys to → OMap.lookup row' k = some c → FreeFixed env c) :
    jlLine env to to body = .ok (body ++ [0x0A], none) := by
  obtain ⟨_, row0, h0, hfill⟩ := Order.createRow_row_iff.1 hcr
  have hK0 : OMap.keys row0 = OMap.keys to := Order.cloneRow_keys_of_nodup env to row0 h0 hto
  have hw := Order.createRow_row_walked hto hcr
  have hcell := filled_cell env to row0 r row' hto hr h0 hfill
  -- the body is read back into the clone of `to`: each visible cell becomes one that `CreateRow`'s
  -- fill prints as before
  obtain ⟨r2, hun, hkr2, hkept, hread⟩ := reread env hx row0 row' body hw.nodup hm hkeys
    (fun k c cn => ∃ c2, fillStep env (OMap.lookup row0 k) (Cells.raw cn) = .ok (c2, none) ∧
      PrintEq env c2 c) (by
    intro k c hc hvis
    rcases hcell k c hc with ⟨v, raw0, raw', hv, _, hl0, rfl⟩ | ⟨hk, hn0, hauto⟩
    · obtain ⟨d, c1, c2, hd, hi, hn, hmv⟩ := hdecl k v _ hv hvis hc
      obtain ⟨raw2, rfl⟩ := Order.newValue_cell hn
      rw [hl0]
      exact ⟨d, c1, hd, hi, _, fillStep_some.2 ⟨hn, rfl⟩, by simp only [format_cell], fun _ => hmv⟩
    · obtain ⟨d, hd, hmv⟩ := hfree k c hk hc
      rw [hn0]
      refine ⟨d, _, hd, rfl, Cells.autoCell d, by rw [Cells.autoCell, raw_cell]; rfl, ?_, fun _ => hmv⟩
      rw [hauto]
      simp only [Cells.autoCell, format_cell])
  have hget2 : getRow env to body = .ok (r2, none) := (Order.getRow_of_clone h0 body).trans hun
  obtain ⟨row'', hst3, hm2⟩ := refill_prints env row0 r2 row'
    (Order.getRow_keys_nodup env to body r2 hget2) (by rw [hkr2, hK0, (keys_again hw).1])
    (by rw [hK0, (keys_again hw).2]) (by
    intro k c hc
    by_cases hvis : Cells.format c = .hidden
    · -- hidden, so declared and absent from the text: the prototype's clone stays (`hhid`)
      rcases hcell k c hc with ⟨v, raw0, raw', hv, hcl, hl0, rfl⟩ | ⟨_, _, hauto⟩
      · obtain ⟨c2, hc2⟩ := hhid k v _ hv hvis hcl
        obtain ⟨raw2, rfl⟩ := Order.newValue_cell hc2
        have hnv := Order.not_visible_of_hidden hw.nodup
          (by rw [Order.formatAt, hc]; exact congrArg some hvis)
        rw [hl0]
        exact ⟨_, (hkept k hnv).trans hl0, _, fillStep_some.2 ⟨hc2, rfl⟩, by simp only [format_cell],
          fun h => absurd hvis h⟩
      · rw [hauto] at hvis; cases hvis
    · exact hread k c hc hvis)
  exact Order.jlLine_of_steps hget2 (Order.createRow_row_iff.2 ⟨rfl, row0, h0, hst3⟩) (hm2.trans hm)

/-! ### The statement at `jlLine` level, for any environment -/

theorem allM_mem {P Q : Bytes → Prop} : ∀ (ms : JVMembers), RoundTrip.AllM P Q ms →
    ∀ k v, (k, v) ∈ ms.toList → P k ∧ RoundTrip.AllV P Q v
  | .nil, _, k, v, hm => by simp [JVMembers.toList] at hm
  | .cons k0 v0 ms, h, k, v, hm => by
    simp only [RoundTrip.AllM] at h
    simp only [JVMembers.toList, List.mem_cons, Prod.mk.injEq] at hm
    rcases hm with ⟨rfl, rfl⟩ | hm
    · exact ⟨h.1, h.2.1⟩
    · exact allM_mem ms h.2.2 k v hm

/-- **C05 at `jlLine` level, any environment.**  `hcells` quantifies over the rows `r`, `row'` of
    the first pass: they are determined by the line. -/
theorem line_fixed_point (env : Env) (hx : FloatTextOK env.ext) (ti to : Tmpl) (line b : Bytes)
    (hto : (OMap.keys to).Nodup)
    (hsan_to : ∀ k ∈ OMap.keys to, sanitize k = k) (hsan_ti : ∀ k ∈ OMap.keys ti, sanitize k = k)
    (h : jlLine env ti to line = .ok (b, none))
    (hhid : ∀ k v c0, OMap.lookup to k = some v → Cells.format v = .hidden →
      cloneValue env v = .ok c0 → ∃ c2, cloneValue env c0 = .ok c2)
    (hcells : ∀ r row' body, getRow env ti line = .ok (r, none) →
      createRow env to (.val (.row (Members.ofList r))) = .ok (row', none) →
      marshalRow env (Members.ofList row') = .ok body →
      (∀ k v c, OMap.lookup to k = some v → Cells.format v ≠ .hidden →
        OMap.lookup row' k = some c → CellFixed env (Cells.format v) (Cells.rawType v) c) ∧
      (∀ k c, k ∉ OMap.keys to → OMap.lookup row' k = some c → FreeFixed env c)) :
    ∃ body, b = body ++ [0x0A] ∧ jlLine env to to body = .ok (b, none) := by
  obtain ⟨r, row', body, hget, hcr, hm, rfl⟩ := Order.jlLine_ok env ti to line b h
  obtain ⟨hdecl, hfree⟩ := hcells r row' body hget hcr hm
  refine ⟨body, rfl, second_pass env hx to r row' body hto
    (Order.getRow_keys_nodup env ti line r hget) hcr hm ?_ hhid hdecl hfree⟩
  intro k hk
  have hk := LineLevel.created_keys_origin env ti to line r row' hget hcr k (LineLevel.visibleKeys_subset row' k hk)
  simp only [List.mem_append] at hk
  rcases hk with (h | h) | h
  · exact hsan_to k h
  · exact hsan_ti k h
  · exact LineValues.inputKeys_fixed line k h


/-! ### Undeclared members: what the first pass stored is what the reader delivered -/

theorem freeFixed_reader (env : Env) (v : JV) (hu : RoundTrip.uniqueV v = true)
    (hv : RoundTrip.AllV RoundTrip.StrOK RoundTrip.NumOK v) :
    FreeFixed env (Cells.autoCell (RoundTrip.dynOf v)) := by
  refine ⟨RoundTrip.dynOf v, ?_, rfl⟩
  rw [Cells.autoCell, treeVal_dynOf env v hv]
  exact RoundTrip.ofJV_ok env v hu

/-- Asked of the members no template declares in an arbitrary environment only: the regenerated
    tables resolve repeated names (`gen_free_cells`). -/
def FreeMembersUnique (ti to : Tmpl) (line : Bytes) : Prop :=
  ∀ k v, (k, v) ∈ (Json.unmarshal line).1.toList → k ∉ OMap.keys ti → k ∉ OMap.keys to →
    ((Json.unmarshal line).1.toList.map Prod.fst).count k = 1 ∧ RoundTrip.uniqueV v = true

theorem free_member (env : Env) (ti to : Tmpl) (line : Bytes) (r row' : List (Bytes × Val))
    (hget : getRow env ti line = .ok (r, none))
    (hcr : createRow env to (.val (.row (Members.ofList r))) = .ok (row', none))
    (k : Bytes) (c : Val) (hkti : k ∉ OMap.keys ti) (hkto : k ∉ OMap.keys to)
    (hc : OMap.lookup row' k = some c) :
    k ∈ Order.inputKeys line ∧ ∃ rowti l, ofJVMembers env (Json.unmarshal line).1 = .ok l ∧
      walk (memberStep env) rowti l = .ok (r, none) ∧ OMap.lookup rowti k = none ∧
      ∃ cr, OMap.lookup r k = some cr ∧ c = Cells.autoCell (Cells.raw cr) := by
  obtain ⟨rowti, l, hti0, _, hl, hp⟩ := Order.getRow_accepted_iff.1 hget
  have hkin : k ∈ Order.inputKeys line := by
    have hk := LineLevel.created_keys_origin env ti to line r row' hget hcr k (OMap.mem_keys_of_lookup hc)
    simp only [List.mem_append] at hk
    rcases hk with (h | h) | h
    · exact absurd h hkto
    · exact absurd h hkti
    · exact h
  refine ⟨hkin, rowti, l, hl, hp,
    OMap.lookup_none_of_not_mem rowti k fun h => hkti ((Order.mem_cloneRow_keys hti0 k).mp h), ?_⟩
  obtain ⟨_, row0, h0, hfill⟩ := Order.createRow_row_iff.1 hcr
  rw [(filled_undeclared env to row0 r row' (Order.getRow_keys_nodup env ti line r hget) h0 hfill
    k hkto).2] at hc
  cases hrk : OMap.lookup r k with
  | none => rw [hrk] at hc; cases hc
  | some cr => rw [hrk] at hc; cases hc; exact ⟨cr, rfl, rfl⟩

theorem free_cells_of_reader (env : Env) (ti to : Tmpl) (line : Bytes) (r row' : List (Bytes × Val))
    (hget : getRow env ti line = .ok (r, none))
    (hcr : createRow env to (.val (.row (Members.ofList r))) = .ok (row', none))
    (hu : FreeMembersUnique ti to line) :
    ∀ k c, k ∉ OMap.keys ti → k ∉ OMap.keys to → OMap.lookup row' k = some c → FreeFixed env c := by
  intro k c hkti hkto hc
  obtain ⟨hkin, rowti, l, hl, hp, hnti, cr, hr, rfl⟩ :=
    free_member env ti to line r row' hget hcr k c hkti hkto hc
  obtain ⟨⟨k', v⟩, hm, rfl⟩ := List.mem_map.mp hkin
  obtain ⟨hcount, huv⟩ := hu k' v hm hkti hkto
  obtain ⟨d, hdl, hdv⟩ := Order.ofJVMembers_mem env _ l hl k' v hm
  rw [RoundTrip.ofJV_ok env v huv] at hdv
  cases hdv
  obtain ⟨c', hS, hc'⟩ := walk.lookup_of_count hp
    (by rw [Order.ofJVMembers_keys env _ l hl]; exact hcount) hdl
  rw [hnti] at hS
  rw [hr] at hc'; cases hc'
  cases hS
  rw [show Cells.raw (Cells.autoCell (RoundTrip.dynOf v)) = RoundTrip.dynOf v from raw_cell _ _ _]
  exact freeFixed_reader env v huv (allM_mem _ (RoundTrip.reader_tree_ok line) k' v hm).2

/-- `line_fixed_point` with `FreeFixed` asked only of the names `ti` alone declares. -/
theorem line_fixed_point_reader (env : Env) (hx : FloatTextOK env.ext) (ti to : Tmpl) (line b : Bytes)
    (hto : (OMap.keys to).Nodup)
    (hsan_to : ∀ k ∈ OMap.keys to, sanitize k = k) (hsan_ti : ∀ k ∈ OMap.keys ti, sanitize k = k)
    (hu : FreeMembersUnique ti to line)
    (h : jlLine env ti to line = .ok (b, none))
    (hhid : ∀ k v c0, OMap.lookup to k = some v → Cells.format v = .hidden →
      cloneValue env v = .ok c0 → ∃ c2, cloneValue env c0 = .ok c2)
    (hcells : ∀ r row' body, getRow env ti line = .ok (r, none) →
      createRow env to (.val (.row (Members.ofList r))) = .ok (row', none) →
      marshalRow env (Members.ofList row') = .ok body →
      (∀ k v c, OMap.lookup to k = some v → Cells.format v ≠ .hidden →
        OMap.lookup row' k = some c → CellFixed env (Cells.format v) (Cells.rawType v) c) ∧
      (∀ k c, k ∈ OMap.keys ti → k ∉ OMap.keys to → OMap.lookup row' k = some c → FreeFixed env c)) :
    ∃ body, b = body ++ [0x0A] ∧ jlLine env to to body = .ok (b, none) := by
  refine line_fixed_point env hx ti to line b hto hsan_to hsan_ti h hhid ?_
  intro r row' body hget hcr hm
  obtain ⟨hdecl, hfti⟩ := hcells r row' body hget hcr hm
  refine ⟨hdecl, fun k c hkto hc => ?_⟩
  by_cases hkti : k ∈ OMap.keys ti
  · exact hfti k c hkti hkto hc
  · exact free_cells_of_reader env ti to line r row' hget hcr hu k c hkti hkto hc


/-! ### Undeclared members under the regenerated tables: repeated names allowed

With the regenerated tables (`cast.To(nil, v) = v`) a repeated member name is imported into the
Auto cell of its first occurrence and replaces its value, at every depth: whatever the reader
delivers is the value of a tree WITHOUT repeated names (`Canon`), `LineSpec.normDupV` of the
reader's tree (`LineValues.ofJV_norm`), so the undeclared cells are fixed points with no
uniqueness hypothesis. -/

section Canonical
open Jl.RoundTrip Jl.LineValues

theorem gen_ofJV_canon (ext : Ext) : ∀ (v : JV) (d : Dyn), AllV StrOK NumOK v →
    ofJV ⟨genTables, ext⟩ v = .ok d → Canon d := by
  intro v d ha h
  rw [ofJV_norm _ (noneId_gen ext) v] at h
  cases h
  exact ⟨_, rfl, uniqueV_norm v, allV_norm v ha⟩

theorem gen_ofJVList_canon (ext : Ext) : ∀ (xs : JVList) (l : List Dyn), AllL StrOK NumOK xs →
    ofJVList ⟨genTables, ext⟩ xs = .ok l →
    ∃ xs', l = (dynListOf xs').toList ∧ uniqueL xs' = true ∧ AllL StrOK NumOK xs' := by
  intro xs l ha h
  rw [ofJVList_norm _ (noneId_gen ext) xs] at h
  cases h
  exact ⟨_, rfl, uniqueL_norm xs, allL_norm xs ha⟩

theorem gen_parseMembers_free (ext : Ext) (k : Bytes) (ms : JVMembers) (l : List (Bytes × Dyn))
    (o o' : List (Bytes × Val)) (hms : AllM StrOK NumOK ms)
    (hl : ofJVMembers ⟨genTables, ext⟩ ms = .ok l)
    (h : walk (memberStep ⟨genTables, ext⟩) o l = .ok (o', none))
    (hp : Pass o k) (hk : k ∈ ms.toList.map Prod.fst) :
    ∃ d, Canon d ∧ OMap.lookup o' k = some (Cells.autoCell d) := by
  rw [ofJVMembers_norm _ (noneId_gen ext) ms] at hl
  cases hl
  cases hlast : walk.lastAt k ms.toList with
  | none => exact absurd hk (walk.lastAt_eq_none_iff.1 hlast)
  | some v =>
    -- `normDup` keeps under `k` the last member of that name, its own repeated names resolved
    have hw : OMap.lookup (LineSpec.normDupM ms []) k = some (LineSpec.normDupV v) := by
      rw [normDupM_lookup k ms [] List.nodup_nil, hlast]; rfl
    exact ⟨_, ⟨_, rfl, uniqueV_norm v, (allM_norm ms [] hms nofun _ (OMap.mem_of_lookup hw)).2⟩,
      parseMembers_at _ (noneId_gen ext) k ms o o' h hp _ hw⟩

theorem gen_free_cells (ext : Ext) (ti to : Tmpl) (line : Bytes) (r row' : List (Bytes × Val))
    (hget : getRow ⟨genTables, ext⟩ ti line = .ok (r, none))
    (hcr : createRow ⟨genTables, ext⟩ to (.val (.row (Members.ofList r))) = .ok (row', none)) :
    ∀ k c, k ∉ OMap.keys ti → k ∉ OMap.keys to → OMap.lookup row' k = some c →
      FreeFixed ⟨genTables, ext⟩ c := by
  intro k c hkti hkto hc
  obtain ⟨hkin, rowti, l, hl, hp, hnti, cr, hr, rfl⟩ :=
    free_member _ ti to line r row' hget hcr k c hkti hkto hc
  obtain ⟨d, hd, hr'⟩ := gen_parseMembers_free ext k _ l rowti r (RoundTrip.reader_tree_ok line)
    hl hp (fun c hc => by rw [hnti] at hc; cases hc) hkin
  rw [hr] at hr'; cases hr'
  obtain ⟨v, rfl, huv, hav⟩ := hd
  rw [show Cells.raw (Cells.autoCell (dynOf v)) = dynOf v from raw_cell _ _ _]
  exact freeFixed_reader _ v huv hav

theorem gen_imported_auto_none (ext : Ext) (ti : Tmpl) (line : Bytes) (r : List (Bytes × Val))
    (hti : (OMap.keys ti).Nodup)
    (hget : getRow ⟨genTables, ext⟩ ti line = .ok (r, none))
    (k : Bytes) (rawp : Dyn) (hk : OMap.lookup ti k = some (.cell rawp .auto .none)) :
    (k ∈ Order.inputKeys line → ∃ d, Canon d ∧ OMap.lookup r k = some (.cell d .auto .none)) ∧
    (k ∉ Order.inputKeys line → OMap.lookup r k = some (.cell rawp .auto .none)) := by
  obtain ⟨rowti, l, hti0, _, hl, hp⟩ := Order.getRow_accepted_iff.1 hget
  obtain ⟨c0, hc0, hl0⟩ := Order.cloneRow_lookup _ ti rowti hti0 hti k _ hk
  have hc0' : c0 = .cell rawp .auto .none := by
    have := RowRoundTrip.gen_newValue_none ext rawp .auto
    simp only [cloneValue, raw_cell, format_cell, rawType_cell, this] at hc0
    cases hc0; rfl
  subst hc0'
  constructor
  · intro hin
    exact gen_parseMembers_free ext k _ l rowti r (RoundTrip.reader_tree_ok line) hl hp
      (fun c hc => by rw [hl0] at hc; cases hc; exact ⟨rawp, rfl⟩) hin
  · intro hnin
    rw [walk.lookup_of_not_mem hp (by rw [Order.ofJVMembers_keys _ _ l hl]; exact hnin), hl0]

end Canonical

/-! ### The line-level theorem for the regenerated tables -/

/-- **C05 at line level for the regenerated tables.**  What the hypotheses exclude:
    * `hsan_*`: ill-formed UTF-8 in a column name, which the reader replaces by U+FFFD
      (`RowRoundTrip.route_key_not_fixed`);
    * `hx`: json.Marshal spells floats as JSON numbers;
    * `hcov`: `C05.swallowed_cast_counterexample` (a raw value kept uncast), `offset-24-60`, and
      strings that are not UTF-8.
    Nothing is asked of the members no template declares (`gen_free_cells`): repeated names,
    nested objects and arrays included. -/
theorem gen_line_fixed_point (ext : Ext) (hx : FloatTextOK ext) (ti to : Tmpl) (line b : Bytes)
    (hto : (OMap.keys to).Nodup)
    (hsan_to : ∀ k ∈ OMap.keys to, sanitize k = k) (hsan_ti : ∀ k ∈ OMap.keys ti, sanitize k = k)
    (h : jlLine ⟨genTables, ext⟩ ti to line = .ok (b, none))
    (hcov : ∀ r row', getRow ⟨genTables, ext⟩ ti line = .ok (r, none) →
      createRow ⟨genTables, ext⟩ to (.val (.row (Members.ofList r))) = .ok (row', none) →
      (∀ k v raw, OMap.lookup to k = some v → Cells.format v ≠ .hidden →
        OMap.lookup row' k = some (.cell raw (Cells.format v) (Cells.rawType v)) →
        Covered ext (Cells.format v) (Cells.rawType v) raw) ∧
      (∀ k c, k ∈ OMap.keys ti → k ∉ OMap.keys to → OMap.lookup row' k = some c →
        FreeFixed ⟨genTables, ext⟩ c)) :
    ∃ body, b = body ++ [0x0A] ∧ jlLine ⟨genTables, ext⟩ to to body = .ok (b, none) := by
  refine line_fixed_point ⟨genTables, ext⟩ hx ti to line b hto hsan_to hsan_ti h
    (fun k v c0 _ _ hc => ⟨c0, gen_reclone ext v c0 hc⟩) ?_
  intro r row' body hget hcr hm
  obtain ⟨hc1, hc2⟩ := hcov r row' hget hcr
  constructor
  · intro k v c hv hvis hc
    obtain ⟨_, row0, h0, hfill⟩ := Order.createRow_row_iff.1 hcr
    obtain ⟨_, raw, _, _, hraw, _⟩ := filled_declared _ to row0 r row' hto
      (Order.getRow_keys_nodup _ ti line r hget) h0 hfill k v hv
    rw [hc] at hraw
    cases hraw
    obtain ⟨parts, hparts, _⟩ := marshalRow_shape hm
    obtain ⟨t, ht⟩ := LineLevel.marshalMembers_mem _ row' parts hparts k _ (OMap.mem_of_lookup hc)
      (by rw [format_cell]; exact hvis)
    obtain ⟨e, he, _⟩ := LineLevel.marshalVal_cell_inv ht
    exact covered_cellFixed ext _ _ raw (hc1 k v raw hv hvis hc) e he
  · intro k c hkto hc
    by_cases hkti : k ∈ OMap.keys ti
    · exact hc2 k c hkti hkto hc
    · exact gen_free_cells ext ti to line r row' hget hcr k c hkti hkto hc

theorem gen_line_fixed_point_same_columns (ext : Ext) (hx : FloatTextOK ext) (ti to : Tmpl)
    (line b : Bytes) (hto : (OMap.keys to).Nodup)
    (hsan_to : ∀ k ∈ OMap.keys to, sanitize k = k)
    (hsub : ∀ k ∈ OMap.keys ti, k ∈ OMap.keys to)
    (h : jlLine ⟨genTables, ext⟩ ti to line = .ok (b, none))
    (hcov : ∀ r row', getRow ⟨genTables, ext⟩ ti line = .ok (r, none) →
      createRow ⟨genTables, ext⟩ to (.val (.row (Members.ofList r))) = .ok (row', none) →
      ∀ k v raw, OMap.lookup to k = some v → Cells.format v ≠ .hidden →
        OMap.lookup row' k = some (.cell raw (Cells.format v) (Cells.rawType v)) →
        Covered ext (Cells.format v) (Cells.rawType v) raw) :
    ∃ body, b = body ++ [0x0A] ∧ jlLine ⟨genTables, ext⟩ to to body = .ok (b, none) :=
  gen_line_fixed_point ext hx ti to line b hto hsan_to (fun k hk => hsan_to k (hsub k hk)) h
    (fun r row' hget hcr => ⟨hcov r row' hget hcr, fun k _ hk hn => absurd (hsub k hk) hn⟩)

theorem line_fixed_point_declared (env : Env) (hx : FloatTextOK env.ext) (ti to : Tmpl)
    (line b : Bytes) (hto : (OMap.keys to).Nodup)
    (hsan_to : ∀ k ∈ OMap.keys to, sanitize k = k)
    (hsub : ∀ k ∈ OMap.keys ti, k ∈ OMap.keys to)
    (hall : ∀ k ∈ Order.inputKeys line, k ∈ OMap.keys to)
    (h : jlLine env ti to line = .ok (b, none))
    (hhid : ∀ k v c0, OMap.lookup to k = some v → Cells.format v = .hidden →
      cloneValue env v = .ok c0 → ∃ c2, cloneValue env c0 = .ok c2)
    (hcells : ∀ r row' body, getRow env ti line = .ok (r, none) →
      createRow env to (.val (.row (Members.ofList r))) = .ok (row', none) →
      marshalRow env (Members.ofList row') = .ok body →
      ∀ k v c, OMap.lookup to k = some v → Cells.format v ≠ .hidden →
        OMap.lookup row' k = some c → CellFixed env (Cells.format v) (Cells.rawType v) c) :
    ∃ body, b = body ++ [0x0A] ∧ jlLine env to to body = .ok (b, none) := by
  refine line_fixed_point env hx ti to line b hto hsan_to (fun k hk => hsan_to k (hsub k hk)) h hhid ?_
  intro r row' body hget hcr hm
  refine ⟨hcells r row' body hget hcr hm, fun k c hkto hc => ?_⟩
  have hk := LineLevel.created_keys_origin env ti to line r row' hget hcr k (OMap.mem_keys_of_lookup hc)
  simp only [List.mem_append] at hk
  rcases hk with (h1 | h1) | h1
  · exact absurd h1 hkto
  · exact absurd (hsub k h1) hkto
  · exact absurd (hall k h1) hkto

/-! ### Cells under a name only the input template declares -/

/-- Raw values that an Auto cell prints and re-reads alike, in any environment. -/
inductive FreeScalar : Dyn → Prop
  | nil : FreeScalar .nil
  | bool (b : Bool) : FreeScalar (.bool b)
  | int (t : IntTy) (v : Int) : FreeScalar (.int t v)
  | str (s : Bytes) : sanitize s = s → FreeScalar (.str s)
  | num (l : Bytes) : JsonWrite.isValidNumber l = true → FreeScalar (.num l)

theorem freeFixed_scalar (env : Env) (raw : Dyn) (h : FreeScalar raw) :
    FreeFixed env (Cells.autoCell raw) := by
  unfold FreeFixed
  rw [Cells.autoCell, RoundTrip.treeVal_auto]
  cases h with
  | nil => exact ⟨.nil, rfl, rfl⟩
  | bool b => exact ⟨.bool b, rfl, rfl⟩
  | int t v =>
    refine ⟨.num (IntText.formatInt v), rfl, ?_⟩
    rw [Cells.autoCell, marshalVal_auto, marshalVal_auto, marshalDyn_int,
      JsonPrint.marshalDyn_num env (IntText.isValidNumber_formatInt v)]
  | str s hs => exact ⟨.str s, by simp only [treeExported, ofJV, hs], rfl⟩
  | num l hl =>
    exact ⟨.num l, by simp only [treeExported, ofJV, RowRoundTrip.numText_valid hl], rfl⟩

/-! ### The hypotheses are needed: `swallowed-cast` at line level

(`offset-24-60` is shown at cell level: `C05.offset_24_60_counterexample`.) -/

namespace Swallowed
open Json

def kc : Bytes := [0x63]
def tmpl : Tmpl := withCol [] kc .string (.int .int)
/-- `{"c":""}` -/
def line : Bytes := [0x7B, 0x22, 0x63, 0x22, 0x3A, 0x22, 0x22, 0x7D]

theorem read_line : Json.unmarshal line = (.cons kc (.str []) .nil, true) := by decide +kernel

/-- **Known finding `swallowed-cast`, at line level.**  Under (no input template, output column
    `c`: string(int)) the untemplated importer reads the member into an Auto cell, and the
    exporter's `NewValue` swallows the failed cast and keeps the raw string; the emitted `{"c":""}`
    is REJECTED by the second pass under `(to, to)`: nothing is written and the line is reported
    with ErrUnsupportedImportType. -/
theorem swallowed_cast_line (ext : Ext) :
    jlLine ⟨genTables, ext⟩ [] tmpl line = .ok (line ++ [0x0A], none) ∧
    jlLine ⟨genTables, ext⟩ tmpl tmpl line = .ok ([], some .unsupportedImport) := by
  constructor
  · have hm : marshalVal ⟨genTables, ext⟩ (.cell (.str []) .string (.int .int)) =
        .ok (JsonWrite.quote []) :=
      RowRoundTrip.marshalVal_str (CasterFacts.export_single rfl (CasterFacts.toString_str ..) nofun)
    have hrow : marshalRow ⟨genTables, ext⟩ (Members.ofList [(kc, .cell (.str []) .string (.int .int))]) =
        .ok (LineTime.objText kc (JsonWrite.quote [])) := by
      rw [LineLevel.marshalRow_col _ kc _ (by decide), hm]
    rw [show LineTime.objText kc (JsonWrite.quote []) = line by decide +kernel] at hrow
    exact Order.jlLine_of_steps (r := [(kc, .cell (.str []) .auto .none)])
      (Order.getRow_of_steps (by rfl) read_line (by rfl) (by rfl)) (by rfl) hrow
  · exact Order.jlLine_of_rejected (r := [(kc, .cell .nil .string (.int .int))])
      (Order.getRow_of_steps (by rfl) read_line (by rfl) (by rfl)) tmpl

theorem not_fixed_point (ext : Ext) :
    ¬ ∃ body, line ++ [0x0A] = body ++ [0x0A] ∧
      jlLine ⟨genTables, ext⟩ tmpl tmpl body = .ok (line ++ [0x0A], none) := by
  rintro ⟨body, hb, hj⟩
  rw [← List.append_cancel_right hb, (swallowed_cast_line ext).2] at hj
  cases hj

/-- The other hypotheses of the line-level theorems hold here. -/
theorem other_hypotheses :
    (OMap.keys tmpl).Nodup ∧ (∀ k ∈ OMap.keys tmpl, sanitize k = k) ∧
    (∀ k ∈ OMap.keys ([] : Tmpl), k ∈ OMap.keys tmpl) ∧
    (∀ k ∈ Order.inputKeys line, k ∈ OMap.keys tmpl) := by
  decide +kernel

/-- The cell that breaks it is the one `Covered` excludes: `""` is no int. -/
theorem not_covered (ext : Ext) : ¬ Covered ext .string (.int .int) (.str []) := by
  intro h
  cases h

end Swallowed

/-! ### …and ill-formed UTF-8 in the JSON transport, at line level -/

namespace IllFormed
open Json

def kc : Bytes := [0x63]
def ti : Tmpl := withCol [] kc .binary .str
def to : Tmpl := withCol [] kc .string .str
/-- `{"c":"/w=="}` — the base64 text of the single byte FF -/
def line : Bytes := [0x7B, 0x22, 0x63, 0x22, 0x3A, 0x22, 0x2F, 0x77, 0x3D, 0x3D, 0x22, 0x7D]
/-- `{"c":"\ufffd"}` — the escape, six ASCII bytes -/
def body1 : Bytes := [0x7B, 0x22, 0x63, 0x22, 0x3A, 0x22, 0x5C, 0x75, 0x66, 0x66, 0x66, 0x64, 0x22, 0x7D]
/-- `{"c":"�"}` — the character U+FFFD itself, three bytes -/
def body2 : Bytes := [0x7B, 0x22, 0x63, 0x22, 0x3A, 0x22, 0xEF, 0xBF, 0xBD, 0x22, 0x7D]

theorem ti_eq : ti = [(kc, .cell .nil .binary .str)] := rfl
theorem to_eq : to = [(kc, .cell .nil .string .str)] := rfl

theorem reads : Json.unmarshal line = (.cons kc (.str [0x2F, 0x77, 0x3D, 0x3D]) .nil, true) ∧
    Json.unmarshal body1 = (.cons kc (.str [0xEF, 0xBF, 0xBD]) .nil, true) := by
  decide +kernel

theorem texts : LineTime.objText kc (JsonWrite.quote [0xFF]) = body1 ∧
    LineTime.objText kc (JsonWrite.quote [0xEF, 0xBF, 0xBD]) = body2 := by
  decide +kernel

/-- **Known deviation, at line level**: binary(string) reads the base64 text as the one-byte
    string FF, which is not UTF-8; the emitted line `{"c":"\ufffd"}` IS accepted by the second
    pass, but re-emitted as `{"c":"�"}` (the raw character): 11 bytes instead of 14. -/
theorem ill_formed_line (ext : Ext) :
    jlLine ⟨genTables, ext⟩ ti to line = .ok (body1 ++ [0x0A], none) ∧
    jlLine ⟨genTables, ext⟩ to to body1 = .ok (body2 ++ [0x0A], none) ∧ body2 ≠ body1 := by
  have h0 := LineCast.gen_newValue_nil ext
  have hnew : ∀ s, newValue ⟨genTables, ext⟩ (.str s) .string .str =
      .ok (.cell (.str s) .string .str) :=
    fun s => LineCast.newValue_keeps ext _ (.inr (.inr rfl))
  have hm : ∀ s, marshalVal ⟨genTables, ext⟩ (.cell (.str s) .string .str) =
      .ok (JsonWrite.quote s) := fun s =>
    RowRoundTrip.marshalVal_str (CasterFacts.export_single rfl (CasterFacts.toString_str ..) nofun)
  refine ⟨?_, ?_, by decide⟩
  · rw [← texts.1]
    exact LineLevel.jlLine_col _ kc (h0 _ _) (h0 _ _) line _ _ (.cell (.str [0xFF]) .binary .str) _ _
      reads.1 rfl
      ((by decide +kernel : Base64.encode [0xFF] = [0x2F, 0x77, 0x3D, 0x3D]) ▸
        (Pairings.binary_str ext [0xFF]).2) (hnew _) nofun (hm _)
  · rw [← texts.2]
    exact LineLevel.jlLine_col _ kc (h0 _ _) (h0 _ _) body1 _ _ (.cell (.str _) .string .str) _ _
      reads.2 rfl
      (CasterFacts.importCell_cast rfl rfl (CasterFacts.toString_str ext _) trivial) (hnew _) nofun (hm _)

theorem not_covered (ext : Ext) : ¬ Covered ext .string .str (.str [0xFF]) := by
  intro h
  cases h with
  | string_str _ hs => exact absurd hs (by decide +kernel)

end IllFormed

/-! ### Non-vacuity: two columns, an undeclared member, both passes computed -/

namespace Demo
open Json

def kn : Bytes := [0x6E]
def kd : Bytes := [0x64]
def kx : Bytes := [0x78]
/-- `2020-01-02` -/
def date : Bytes := [0x32, 0x30, 0x32, 0x30, 0x2D, 0x30, 0x31, 0x2D, 0x30, 0x32]
def n300 : Bytes := [0x33, 0x30, 0x30]

def tmpl : Tmpl := withCol (withCol [] kn .numeric (.int .i16)) kd .date .none

/-- `{"d":"2020-01-02","n":300,"x":[1]}` -/
def line : Bytes :=
  [0x7B, 0x22, 0x64, 0x22, 0x3A, 0x22] ++ date ++ [0x22, 0x2C, 0x22, 0x6E, 0x22, 0x3A] ++ n300 ++
  [0x2C, 0x22, 0x78, 0x22, 0x3A, 0x5B, 0x31, 0x5D, 0x7D]

/-- `{"n":300,"d":"2020-01-02","x":[1]}` -/
def body : Bytes :=
  [0x7B, 0x22, 0x6E, 0x22, 0x3A] ++ n300 ++ [0x2C, 0x22, 0x64, 0x22, 0x3A, 0x22] ++ date ++
  [0x22, 0x2C, 0x22, 0x78, 0x22, 0x3A, 0x5B, 0x31, 0x5D, 0x7D]

def xval : Dyn := .arr (.cons (.num [0x31]) .nil)

def imported : List (Bytes × Val) :=
  [(kn, .cell (.int .i16 300) .numeric (.int .i16)), (kd, .cell (.str date) .date .none),
   (kx, .cell xval .auto .none)]

theorem reads :
    Json.unmarshal line = (.cons kd (.str date) (.cons kn (.num n300)
      (.cons kx (.arr (.cons (.num [0x31]) .nil)) .nil)), true) ∧
    Json.unmarshal body = (.cons kn (.num n300) (.cons kd (.str date)
      (.cons kx (.arr (.cons (.num [0x31]) .nil)) .nil)), true) := by
  decide +kernel

theorem runs (ext : Ext) :
    getRow ⟨genTables, ext⟩ tmpl line = .ok (imported, none) ∧
    getRow ⟨genTables, ext⟩ tmpl body = .ok (imported, none) ∧
    createRow ⟨genTables, ext⟩ tmpl (.val (.row (Members.ofList imported))) = .ok (imported, none) :=
  ⟨Order.getRow_of_steps (by rfl) reads.1 (by rfl) (by rfl),
    Order.getRow_of_steps (by rfl) reads.2 (by rfl) (by rfl), by rfl⟩

theorem marshal_imported (ext : Ext) :
    marshalRow ⟨genTables, ext⟩ (Members.ofList imported) = .ok body := by
  have hn : marshalVal ⟨genTables, ext⟩ (.cell (.int .i16 300) .numeric (.int .i16)) = .ok n300 :=
    RowRoundTrip.marshalVal_num ((by decide +kernel : IntText.formatInt 300 = n300) ▸
      (RowRoundTrip.numeric_int ext .i16 300 (by decide)).1) (by decide)
  have hd : marshalVal ⟨genTables, ext⟩ (.cell (.str date) .date .none) = .ok (JsonWrite.quote date) :=
    RowRoundTrip.marshalVal_str (SelfReadable.date_reread ext date (by decide)).1.out
  have hx : marshalVal ⟨genTables, ext⟩ (.cell xval .auto .none) = .ok [0x5B, 0x31, 0x5D] := by
    rw [marshalVal_auto, xval, marshalDyn_arr _ _ (marshalList_cons _ _ _
      (JsonPrint.marshalDyn_num _ (by decide)) (marshalList_nil _))]
    rfl
  have := marshalRow_eq ⟨genTables, ext⟩ _
    (marshalMembers_cons ⟨genTables, ext⟩ kn _ _ (by decide) hn
      (marshalMembers_cons ⟨genTables, ext⟩ kd _ _ (by decide) hd
        (marshalMembers_cons ⟨genTables, ext⟩ kx _ .nil (by decide) hx (marshalMembers_nil _))))
  rwa [show (0x7B :: (joinComma _ ++ [0x7D]) : Bytes) = body by decide +kernel] at this

theorem first_pass (ext : Ext) :
    jlLine ⟨genTables, ext⟩ tmpl tmpl line = .ok (body ++ [0x0A], none) :=
  Order.jlLine_of_steps (runs ext).1 (runs ext).2.2 (marshal_imported ext)

theorem second_pass_computed (ext : Ext) :
    jlLine ⟨genTables, ext⟩ tmpl tmpl body = .ok (body ++ [0x0A], none) :=
  Order.jlLine_of_steps (runs ext).2.1 (runs ext).2.2 (marshal_imported ext)

theorem keys_ok : (OMap.keys tmpl).Nodup ∧ ∀ k ∈ OMap.keys tmpl, sanitize k = k := by
  decide +kernel

/-- The hypothesis of the any-environment variant `line_fixed_point_reader` holds here as well. -/
theorem free_unique : FreeMembersUnique tmpl tmpl line := by
  intro k v hm
  exact (by decide +kernel : ∀ kv ∈ (Json.unmarshal line).1.toList, kv.1 ∉ OMap.keys tmpl →
    kv.1 ∉ OMap.keys tmpl → ((Json.unmarshal line).1.toList.map Prod.fst).count kv.1 = 1 ∧
      RoundTrip.uniqueV kv.2 = true) (k, v) hm

theorem cells (ext : Ext) {r row' : List (Bytes × Val)}
    (hget : getRow ⟨genTables, ext⟩ tmpl line = .ok (r, none))
    (hcr : createRow ⟨genTables, ext⟩ tmpl (.val (.row (Members.ofList r))) = .ok (row', none))
    {k : Bytes} {v : Val} {raw : Dyn} (hv : OMap.lookup tmpl k = some v)
    (hc : OMap.lookup row' k = some (.cell raw (Cells.format v) (Cells.rawType v))) :
    (v = .cell .nil .numeric (.int .i16) ∧ raw = .int .i16 300) ∨
      (v = .cell .nil .date .none ∧ raw = .str date) := by
  rw [(runs ext).1] at hget
  cases hget
  rw [(runs ext).2.2] at hcr
  cases hcr
  have hm := OMap.mem_of_lookup hv
  simp only [show tmpl = [(kn, .cell .nil .numeric (.int .i16)), (kd, .cell .nil .date .none)] from rfl,
    List.mem_cons, List.not_mem_nil, or_false, Prod.mk.injEq] at hm
  rcases hm with ⟨rfl, rfl⟩ | ⟨rfl, rfl⟩
  · cases hc; exact .inl ⟨rfl, rfl⟩
  · cases hc; exact .inr ⟨rfl, rfl⟩

theorem general_applies (ext : Ext) (hx : FloatTextOK ext) :
    ∃ body', body ++ [0x0A] = body' ++ [0x0A] ∧
      jlLine ⟨genTables, ext⟩ tmpl tmpl body' = .ok (body ++ [0x0A], none) :=
  gen_line_fixed_point_same_columns ext hx tmpl tmpl line (body ++ [0x0A])
    keys_ok.1 keys_ok.2 (fun _ hk => hk) (first_pass ext) (fun r row' hget hcr k v raw hv _ hc => by
      rcases cells ext hget hcr hv hc with ⟨rfl, rfl⟩ | ⟨rfl, rfl⟩
      · exact .numeric_int .i16 300 (by decide)
      · exact .date .none _ (.inl rfl))

-- with the empty standard-library parameter no float is ever spelled
example : ∃ body', body ++ [0x0A] = body' ++ [0x0A] ∧
    jlLine ⟨genTables, Ext.empty⟩ tmpl tmpl body' = .ok (body ++ [0x0A], none) :=
  general_applies Ext.empty LineLevel.floatOK_empty

-- the `body'` of `general_applies` is `body`
example (body' : Bytes) (h : body ++ [0x0A] = body' ++ [0x0A]) : body' = body :=
  (List.append_cancel_right h).symm

end Demo

end Jl.LineFixedPoint
