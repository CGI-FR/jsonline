/-
  Proofs.LineBinary — C11 at LINE level: binary columns of fixed-width raw types.

  C11's last sentence ("… a binary column mapped to a fixed-width type accepts only well-sized payloads and
  re-emits exactly the bytes it accepted") seen through `jlLine`: an accepted line carries a base64 payload of
  exactly the type's width, and the column re-emits the canonical base64 of the bytes it accepted (bool:
  normalised to 0 / 1) — for all fixed-width types at once and EVERY `Ext`.  The cell-level statements are in
  Props/C11.  The input line is given by what the reader delivers for it
  (`Json.unmarshal line = (.cons k (.str s) .nil, true)`: any spelling of the one-member object).
-/
import Proofs.LineColumn
import Proofs.LineCast
import Proofs.CastBin
import Proofs.Base64
import Proofs.LE
import Proofs.DecEq

namespace Jl.LineBinary
open Jl Jl.Value Jl.Template Jl.Cast Jl.CastTyped
open Jl.JsonQuote (sanitize)
open Jl.JsonPrint (treeDyn treeVal treeMembers treeExported FloatTextOK)
-- `objText` of Proofs.LineKeys, which stands in namespace `LineTime` (Proofs.LineTime is not imported)
open Jl.LineTime (objText)
open Jl.LineLevel (lookupJV_single)
open Jl.LineCast


/-! ### 0. Cell-level facts about the regenerated tables -/

/-- The words of `Driver.Line.fixedWidth`; definitionally the table `CastSpec.fixedSize`, over which
    `CastBin.decode_fixed` is stated. -/
def fixedWidth : Ty → Option Nat
  | .int t => some (t.bits / 8)
  | .f64 => some 8
  | .f32 => some 4
  | .bool => some 1
  | _ => none

/-- The bytes the column writes back for the bytes it accepted: the same bytes — except for bool,
    whose one byte is normalised to 0 / 1 (any non-zero byte reads as true). -/
def reemitted : Ty → Bytes → Bytes
  | .bool, bs => [if bs.headD 0 != 0 then 1 else 0]
  | _, bs => bs

theorem reemitted_of_not_bool {ty : Ty} (h : ty ≠ .bool) (bs : Bytes) : reemitted ty bs = bs := by
  cases ty <;> first | rfl | exact absurd rfl h

theorem reemitted_bool_canonical {bs : Bytes} (h : bs = [0] ∨ bs = [1]) : reemitted .bool bs = bs := by
  rcases h with rfl | rfl <;> rfl

theorem reemitted_length {ty : Ty} {w : Nat} (h : fixedWidth ty = some w) (bs : Bytes)
    (hl : bs.length = w) : (reemitted ty bs).length = w := by
  by_cases hb : ty = .bool
  · subst hb
    cases h
    rfl
  · rw [reemitted_of_not_bool hb, hl]

theorem fixedWidth_ne_none {ty : Ty} {w : Nat} (h : fixedWidth ty = some w) : ty ≠ .none := by
  rintro rfl; simp [fixedWidth] at h

theorem typeOf_decoded {ty : Ty} {w : Nat} (h : fixedWidth ty = some w) (bs : Bytes) :
    typeOf (decoded ty bs) = ty := by
  cases ty <;> first | rfl | cases h

/-- A fact about `LE` alone, the converse of `decoded_leImage`. -/
theorem leImage_decoded {ty : Ty} {w : Nat} (h : fixedWidth ty = some w) (bs : Bytes) (hl : bs.length = w) :
    CastSpec.leImage (decoded ty bs) = some (reemitted ty bs) := by
  cases ty <;> cases h <;> simp only [decoded, reemitted, CastSpec.leImage]
  · rw [IntTy.toU_ofBits _ (get_lt_bits _ hl), LE.put_get _ bs hl]
  · rw [LE.put_get 8 bs hl]
  · rw [LE.put_get 4 bs hl]

/-- encode ∘ decode; `C11.encode_decode_int` and `C11.encode_decode_float` are instances. -/
theorem toBinary_decoded (ext : Ext) {ty : Ty} {w : Nat} (h : fixedWidth ty = some w) (bs : Bytes)
    (hl : bs.length = w) :
    castNamed genTables ext "ToBinary" (decoded ty bs) = .ok (.bytes (reemitted ty bs)) :=
  encode_leImage ext (n := w) (by rw [typeOf_decoded h bs]; exact h) (leImage_decoded h bs hl)

/-! #### The three cell steps of a line -/

theorem importCell_binary_str (ext : Ext) {ty : Ty} {w : Nat} (h : fixedWidth ty = some w)
    (s : Bytes) :
    importCell ⟨genTables, ext⟩ .binary ty (.str s) =
      match Base64.decode s with
      | some bs =>
        if bs.length = w then .ok (.cell (decoded ty bs) .binary ty, none)
        else .ok (.cell .nil .binary ty, some .unsupportedImport)
      | none => .ok (.cell .nil .binary ty, some .unsupportedImport) := by
  rw [CasterFacts.importCell_base64 ⟨genTables, ext⟩ (CasterFacts.toString_str ext s) (fixedWidth_ne_none h)]
  cases Base64.decode s with
  | none => rfl
  | some bs =>
    simp only [decode_fixed ext h]
    by_cases hl : bs.length = w <;> simp [hl, importFail, ValueGen.assignRaw]

/-- The exporter's `NewValue`: `cast.To(T, v)` on a value already of type `T`. -/
theorem newValue_decoded (ext : Ext) {ty : Ty} {w : Nat} (h : fixedWidth ty = some w) (bs : Bytes) :
    newValue ⟨genTables, ext⟩ (decoded ty bs) .binary ty = .ok (.cell (decoded ty bs) .binary ty) :=
  newValue_keeps ext .binary (.inr (.inr (typeOf_decoded h bs)))

theorem marshal_decoded (ext : Ext) {ty : Ty} {w : Nat} (h : fixedWidth ty = some w) (bs : Bytes)
    (hl : bs.length = w) :
    RowPrint.marshalVal ⟨genTables, ext⟩ (.cell (decoded ty bs) .binary ty) =
      .ok (JsonWrite.quote (Base64.encode (reemitted ty bs))) := by
  rw [marshalVal_cell_ok (CasterFacts.export_binary (toBinary_decoded ext h bs hl) fun hn =>
    fixedWidth_ne_none h (by rw [← typeOf_decoded h bs, hn]; rfl)), marshalExported_str]

/-! ### 1. One column: the line's way through importer and exporter -/

theorem reads_base64 (bs : Bytes) :
    JsonPrint.ReadsAs (JsonWrite.quote (Base64.encode bs)) (.str (Base64.encode bs)) := by
  have := JsonPrint.readsAs_quote (Base64.encode bs)
  rwa [JsonPrint.sanitize_base64] at this

theorem unmarshal_base64_out {k : Bytes} (hk : sanitize k = k) (bs : Bytes) :
    Json.unmarshal (objText k (JsonWrite.quote (Base64.encode bs))) =
      (.cons k (.str (Base64.encode bs)) .nil, true) := by
  rw [LineLevel.unmarshal_objText (reads_base64 bs), hk]

/-! #### 1(a): a payload of exactly the type's width -/

/-- 1(a), the bytes written: exactly `{"k":"<canonical base64 of the bytes accepted>"}` and a newline. -/
theorem binary_line_written (ext : Ext) (k : Bytes) {ty : Ty} {w : Nat}
    (hty : fixedWidth ty = some w) (line s bs : Bytes)
    (hline : Json.unmarshal line = (.cons k (.str s) .nil, true))
    (hd : Base64.decode s = some bs) (hl : bs.length = w) :
    jlLine ⟨genTables, ext⟩ (withCol [] k .binary ty) (withCol [] k .binary ty) line =
      .ok (objText k (JsonWrite.quote (Base64.encode (reemitted ty bs))) ++ [0x0A], none) := by
  refine LineLevel.jlLine_col _ k (gen_newValue_nil ext _ _) (gen_newValue_nil ext _ _) line (.str s) (.str s)
    (.cell (decoded ty bs) .binary ty) (.cell (decoded ty bs) .binary ty) _ hline rfl
    ?_ (newValue_decoded ext hty bs) (by simp [Cells.format]) (marshal_decoded ext hty bs hl)
  rw [importCell_binary_str ext hty, hd]
  simp [hl]

theorem binary_line_int (ext : Ext) (k : Bytes) (hk : sanitize k = k) (t : IntTy)
    (line s bs : Bytes) (hline : Json.unmarshal line = (.cons k (.str s) .nil, true))
    (hd : Base64.decode s = some bs) (hl : bs.length = t.bits / 8) :
    ∃ body tree,
      jlLine ⟨genTables, ext⟩ (withCol [] k .binary (.int t)) (withCol [] k .binary (.int t)) line =
        .ok (body ++ [0x0A], none) ∧
      Json.unmarshal body = (tree, true) ∧
      LineSpec.lookupJV tree k = some (.str (Base64.encode bs)) :=
  ⟨_, _, binary_line_written ext k (ty := .int t) rfl line s bs hline hd hl,
    unmarshal_base64_out hk _, lookupJV_single _ _⟩

/-- For every type but bool the member is the canonical base64 of the very bytes accepted. -/
theorem binary_line_not_bool (ext : Ext) (k : Bytes) (hk : sanitize k = k) {ty : Ty} {w : Nat}
    (hty : fixedWidth ty = some w) (hnb : ty ≠ .bool) (line s bs : Bytes)
    (hline : Json.unmarshal line = (.cons k (.str s) .nil, true))
    (hd : Base64.decode s = some bs) (hl : bs.length = w) :
    ∃ body tree,
      jlLine ⟨genTables, ext⟩ (withCol [] k .binary ty) (withCol [] k .binary ty) line =
        .ok (body ++ [0x0A], none) ∧
      Json.unmarshal body = (tree, true) ∧
      LineSpec.lookupJV tree k = some (.str (Base64.encode bs)) := by
  have hw := binary_line_written ext k hty line s bs hline hd hl
  rw [reemitted_of_not_bool hnb] at hw
  exact ⟨_, _, hw, unmarshal_base64_out hk _, lookupJV_single _ _⟩

/-- Canonical: no CR/LF, zero trailing bits — whatever the spelling `s` of the input was. -/
theorem emitted_is_canonical (bs : Bytes) :
    Base64.decode (Base64.encode bs) = some bs ∧
    (∀ ch ∈ Base64.encode bs, ch ≠ 0x0D ∧ ch ≠ 0x0A) ∧ Base64.TailZero (Base64.encode bs) :=
  ⟨Base64.decode_encode bs, Base64.encode_no_crlf bs, Base64.tailZero_encode bs⟩

theorem binary_line_ext_independent (ext₁ ext₂ : Ext) (k : Bytes) {ty : Ty} {w : Nat}
    (hty : fixedWidth ty = some w) (line s bs : Bytes)
    (hline : Json.unmarshal line = (.cons k (.str s) .nil, true))
    (hd : Base64.decode s = some bs) (hl : bs.length = w) :
    jlLine ⟨genTables, ext₁⟩ (withCol [] k .binary ty) (withCol [] k .binary ty) line =
      jlLine ⟨genTables, ext₂⟩ (withCol [] k .binary ty) (withCol [] k .binary ty) line := by
  rw [binary_line_written ext₁ k hty line s bs hline hd hl,
    binary_line_written ext₂ k hty line s bs hline hd hl]

/-! #### 1(b), 1(c): every other payload is refused -/

/-- 1(b) no base64 at all, 1(c) a payload of any other length: the error class of a refused import, nothing
    written, whatever the exporter's template is. -/
theorem binary_line_rejected (ext : Ext) (k : Bytes) {ty : Ty} {w : Nat}
    (hty : fixedWidth ty = some w) (to : Tmpl) (line s : Bytes)
    (hline : Json.unmarshal line = (.cons k (.str s) .nil, true))
    (h : ¬ ∃ bs, Base64.decode s = some bs ∧ bs.length = w) :
    jlLine ⟨genTables, ext⟩ (withCol [] k .binary ty) to line = .ok ([], some .unsupportedImport) := by
  refine LineLevel.jlLine_col_rejected _ k (gen_newValue_nil ext _ _) to line (.str s) (.str s)
    (.cell .nil .binary ty) _ hline rfl ?_
  rw [importCell_binary_str ext hty]
  cases hd : Base64.decode s with
  | none => rfl
  | some bs => exact if_neg fun hl => h ⟨bs, hd, hl⟩

/-! ### 2. The oracle's own words

  `Driver.Line.c11LineViolation` judges the implementation's observation (`panic` / rejected /
  accepted with bytes) against the input text and the exporter's column declarations.  The same
  logic, clause by clause, over a model outcome (no module of Proofs/ imports Driver/; nothing compares the
  two texts): `c11Col` is the body of its `findSome?`, `c11Accepted` the accepted branch on the written
  bytes, `c11Violation` the whole (a rejected line is never a violation for this oracle). -/

def c11Col (inMs outMs : JVMembers) (c : LineSpec.Col) : Option String :=
  match c with
  | .leaf n .binary ty =>
    match fixedWidth ty, LineSpec.lookupJV inMs n with
    | some w, some (.str s) =>
      match Base64.decode s with
      | some b =>
        if b.length != w then some "wrong-size-accepted"
        else if ty == .bool && b != [0] && b != [1] then none   -- any non-zero byte reads as true
        else
          match LineSpec.lookupJV outMs n with
          | some (.str o) => if o == Base64.encode b then none else some "not-re-emitted-as-accepted"
          | _ => some "member-missing-or-wrong-type"
      | none => some "invalid-base64-accepted"
    | _, _ => none
  | _ => none

def c11Accepted (cols : List LineSpec.Col) (input bytes : Bytes) : Option String :=
  match bytes.reverse with
  | 0x0A :: revBody =>
    let (outMs, okOut) := Json.unmarshal revBody.reverse
    let (inMs0, okIn) := Json.unmarshal input
    let inMs := LineSpec.normDup inMs0
    if !okOut || !okIn then some "invalid-json-object"
    else cols.findSome? (c11Col inMs outMs)
  | _ => some "no-trailing-newline"

def c11Violation (cols : List LineSpec.Col) (input : Bytes)
    (o : Outcome (Bytes × Option ErrClass)) : Option String :=
  match o with
  | .panic _ => some "panic"
  | .ok (b, none) => c11Accepted cols input b
  | _ => none

theorem c11Accepted_of_trees (cols : List LineSpec.Col) (input body : Bytes) (inMs outMs : JVMembers)
    (hin : Json.unmarshal input = (inMs, true)) (hout : Json.unmarshal body = (outMs, true)) :
    c11Accepted cols input (body ++ [0x0A]) =
      cols.findSome? (c11Col (LineSpec.normDup inMs) outMs) := by
  simp [c11Accepted, List.reverse_append, hin, hout]

theorem c11Col_none {inMs outMs : JVMembers} {c : LineSpec.Col}
    (h : ∀ n ty w s, c = .leaf n .binary ty → fixedWidth ty = some w →
      LineSpec.lookupJV inMs n = some (.str s) → ∃ bs, Base64.decode s = some bs ∧ bs.length = w ∧
        LineSpec.lookupJV outMs n = some (.str (Base64.encode (reemitted ty bs)))) :
    c11Col inMs outMs c = none := by
  unfold c11Col
  split
  · split
    · rename_i n ty _ _ w s hty hin
      obtain ⟨bs, hd, rfl, hout⟩ := h n ty w s rfl hty hin
      simp only [hd, hout, bne_self_eq_false, Bool.false_eq_true, if_false]
      -- outside the oracle's bool exception the bytes written back are the bytes accepted
      by_cases hc : (ty == .bool && bs != [0] && bs != [1]) = true
      · rw [if_pos hc]
      · have hre : reemitted ty bs = bs := by
          by_cases hb : ty = .bool
          · subst hb
            refine reemitted_bool_canonical ?_
            simpa [Classical.or_iff_not_imp_left] using hc
          · exact reemitted_of_not_bool hb bs
        rw [if_neg hc, hre, beq_self_eq_true, if_pos rfl]
    · rfl
  · rfl

/-- WHATEVER the string `s` is (base64 or not, of the right size or not, canonical or not), the oracle finds
    no violation in what `jlLine` does with the line. -/
theorem binary_line_oracle (ext : Ext) (k : Bytes) (hk : sanitize k = k) {ty : Ty} {w : Nat}
    (hty : fixedWidth ty = some w) (line s : Bytes)
    (hline : Json.unmarshal line = (.cons k (.str s) .nil, true)) :
    c11Violation [.leaf k .binary ty] line
      (jlLine ⟨genTables, ext⟩ (withCol [] k .binary ty) (withCol [] k .binary ty) line) = none := by
  by_cases h : ∃ bs, Base64.decode s = some bs ∧ bs.length = w
  · obtain ⟨bs, hd, hl⟩ := h
    rw [binary_line_written ext k hty line s bs hline hd hl]
    simp only [c11Violation]
    rw [c11Accepted_of_trees _ line _ _ _ hline (unmarshal_base64_out hk _), List.findSome?_cons,
      c11Col_none fun n ty' w' s' hc hw hin => ?_]
    · rfl
    · cases hc
      cases hty.symm.trans hw
      simp [LineSpec.lookupJV, LineTime.normDup_single k (.str s) (by simp [LineSpec.normDupV])] at hin
      subst hin
      exact ⟨bs, hd, hl, lookupJV_single _ _⟩
  · rw [binary_line_rejected ext k hty _ line s hline h]; rfl

/-- The oracle is not vacuous (this and `c11Col_fires_invalid`). -/
theorem c11Col_fires (inMs outMs : JVMembers) (n : Bytes) {ty : Ty} {w : Nat}
    (hty : fixedWidth ty = some w) (s bs o : Bytes)
    (hin : LineSpec.lookupJV inMs n = some (.str s))
    (hout : LineSpec.lookupJV outMs n = some (.str o)) (hd : Base64.decode s = some bs) :
    (bs.length ≠ w → c11Col inMs outMs (.leaf n .binary ty) = some "wrong-size-accepted") ∧
    (bs.length = w → (ty = .bool → bs = [0] ∨ bs = [1]) → o ≠ Base64.encode bs →
      c11Col inMs outMs (.leaf n .binary ty) = some "not-re-emitted-as-accepted") := by
  constructor
  · intro hl
    simp [c11Col, hty, hin, hd, hl]
  · intro hl hcan ho
    by_cases hb : ty = .bool
    · subst hb
      rcases hcan rfl with rfl | rfl <;> simp [c11Col, hty, hin, hout, hd, hl, ho]
    · simp [c11Col, hty, hin, hout, hd, hl, hb, ho]

theorem c11Col_fires_invalid (inMs outMs : JVMembers) (n : Bytes) {ty : Ty} {w : Nat}
    (hty : fixedWidth ty = some w) (s : Bytes)
    (hin : LineSpec.lookupJV inMs n = some (.str s)) (hd : Base64.decode s = none) :
    c11Col inMs outMs (.leaf n .binary ty) = some "invalid-base64-accepted" := by
  simp [c11Col, hty, hin, hd]

/-! ### 3. Templates with any number of columns -/

theorem way_binary (ext : Ext) {ty : Ty} {w : Nat} (hty : fixedWidth ty = some w) (s : Bytes) {c' : Val}
    (h : LineLevel.Way ⟨genTables, ext⟩ .binary ty .binary ty (.str s) c') :
    ∃ bs, Base64.decode s = some bs ∧ bs.length = w ∧ c' = .cell (decoded ty bs) .binary ty := by
  obtain ⟨c, ⟨x, hx, hi⟩, hn⟩ := h
  cases hx
  rw [importCell_binary_str ext hty] at hi
  split at hi
  · split at hi
    · cases hi
      rw [Cells.raw, newValue_decoded ext hty] at hn
      exact ⟨_, ‹_›, ‹_›, (Outcome.ok.inj hn).symm⟩
    · cases hi
  · cases hi

/-- The conclusion of 1(a) for one column, on the tree the reader delivers for the emitted text. -/
def BinaryKept (tree : JVMembers) (name : Bytes) (ty : Ty) (w : Nat) (s : Bytes) : Prop :=
  ∃ bs, Base64.decode s = some bs ∧ bs.length = w ∧
    LineSpec.lookupJV tree name = some (.str (Base64.encode (reemitted ty bs)))

theorem BinaryKept.not_bool {tree : JVMembers} {name : Bytes} {ty : Ty} {w : Nat} {s : Bytes}
    (h : BinaryKept tree name ty w s) (hnb : ty ≠ .bool) :
    ∃ bs, Base64.decode s = some bs ∧ bs.length = w ∧
      LineSpec.lookupJV tree name = some (.str (Base64.encode bs)) := by
  obtain ⟨bs, hd, hl, ho⟩ := h
  rw [reemitted_of_not_bool hnb] at ho
  exact ⟨bs, hd, hl, ho⟩

theorem binaryKept_of_way (ext : Ext) {ty : Ty} {w : Nat} (hty : fixedWidth ty = some w) {s : Bytes}
    {c' : Val} (hw : LineLevel.Way ⟨genTables, ext⟩ .binary ty .binary ty (.str s) c')
    {tree : JVMembers} {name : Bytes}
    (hout : ∃ txt, RowPrint.marshalVal ⟨genTables, ext⟩ c' = .ok txt ∧
      ∀ m, JsonPrint.ReadsAs txt m → LineSpec.lookupJV tree name = some m) :
    BinaryKept tree name ty w s := by
  obtain ⟨bs, hdec, hlen, rfl⟩ := way_binary ext hty s hw
  obtain ⟨txt, hm, hread⟩ := hout
  cases (marshal_decoded ext hty bs hlen).symm.trans hm
  exact ⟨bs, hdec, hlen, hread _ (reads_base64 _)⟩

/-- `LineLevel.followed_same_names` on binary columns.  The input member is the last of that name, as the
    oracle reads the input (`LineSpec.normDup`); `FloatTextOK` is only there because OTHER columns may print
    floats. -/
theorem emitted_line_binary_same_names (ext : Ext) (ti to : Tmpl) (line b : Bytes)
    (h : jlLine ⟨genTables, ext⟩ ti to line = .ok (b, none)) (hx : FloatTextOK ext)
    (hto : (OMap.keys to).Nodup) (hperm : (OMap.keys ti).Perm (OMap.keys to))
    (hutf : ∀ k ∈ OMap.keys to, sanitize k = k) :
    ∃ body tree, b = body ++ [0x0A] ∧ Json.unmarshal body = (tree, true) ∧
      ∀ k raw₁ raw₂ ty w s,
        (k, Val.cell raw₁ .binary ty) ∈ ti → (k, Val.cell raw₂ .binary ty) ∈ to →
        fixedWidth ty = some w →
        LineSpec.lookupJV (LineSpec.normDup (Json.unmarshal line).1) k = some (.str s) →
        BinaryKept tree k ty w s := by
  obtain ⟨body, tree, hb, hu, hall⟩ :=
    LineLevel.followed_same_names ⟨genTables, ext⟩ ti to line b h hx hto hperm hutf
  refine ⟨body, tree, hb, hu, ?_⟩
  intro k raw₁ raw₂ ty w s hmi hmo hty hlast
  obtain ⟨c', hw, hout⟩ := hall k _ _ _ hmi hmo hlast rfl
  exact binaryKept_of_way ext hty hw (hout (by simp [Cells.format]))

/-- The oracle finds no violation on an accepted line, whatever the other columns and members are.  `cols`:
    any declarations whose fixed-width binary leaves are declared so in BOTH templates (the driver passes the
    exporter's). -/
theorem emitted_line_oracle (ext : Ext) (ti to : Tmpl) (line b : Bytes)
    (h : jlLine ⟨genTables, ext⟩ ti to line = .ok (b, none)) (hx : FloatTextOK ext)
    (hto : (OMap.keys to).Nodup) (hperm : (OMap.keys ti).Perm (OMap.keys to))
    (hutf : ∀ k ∈ OMap.keys to, sanitize k = k) (cols : List LineSpec.Col)
    (hcols : ∀ n ty w, LineSpec.Col.leaf n .binary ty ∈ cols → fixedWidth ty = some w →
      ∃ raw₁ raw₂, (n, Val.cell raw₁ .binary ty) ∈ ti ∧ (n, Val.cell raw₂ .binary ty) ∈ to) :
    c11Violation cols line (jlLine ⟨genTables, ext⟩ ti to line) = none := by
  obtain ⟨body, tree, hb, hu, hall⟩ :=
    emitted_line_binary_same_names ext ti to line b h hx hto hperm hutf
  rw [h, hb]
  simp only [c11Violation]
  rw [c11Accepted_of_trees cols line body _ tree (LineLevel.accepted_reads h) hu,
    List.findSome?_eq_none_iff]
  intro c hc
  refine c11Col_none fun n ty w s hcn hw hl => ?_
  subst hcn
  obtain ⟨raw₁, raw₂, hmi, hmo⟩ := hcols n ty w hc hw
  exact hall n raw₁ raw₂ ty w s hmi hmo hw hl

/-! ### 4. Non-vacuity: concrete lines, computed end to end

  `ti = to =` one binary column `b` of raw type int32. -/
namespace Demo
open RowPrint JsonWrite

def env : Env := ⟨genTables, Ext.empty⟩

def tmpl : Tmpl := withCol [] [0x62] .binary (.int .i32)

/-- `AQIDBA==` : the canonical base64 of 01 02 03 04 -/
def canonS : Bytes := [0x41, 0x51, 0x49, 0x44, 0x42, 0x41, 0x3D, 0x3D]

/-- `AQIDBB==` : the same four bytes with NON-zero trailing bits (`B` = 000001) -/
def looseS : Bytes := [0x41, 0x51, 0x49, 0x44, 0x42, 0x42, 0x3D, 0x3D]

/-- `AQID` : three bytes -/
def shortS : Bytes := [0x41, 0x51, 0x49, 0x44]

/-- `AQIDBA=` : not base64 (padding missing) -/
def badS : Bytes := [0x41, 0x51, 0x49, 0x44, 0x42, 0x41, 0x3D]

/-- `{"b":"<s>"}` -/
def lineOf (s : Bytes) : Bytes := [0x7B, 0x22, 0x62, 0x22, 0x3A, 0x22] ++ s ++ [0x22, 0x7D]

/-- `{"b":"AQIDBA=="}` -/
def out : Bytes := lineOf canonS

theorem decode_looseS : Base64.decode looseS = some [1, 2, 3, 4] := by decide +kernel

theorem looseS_not_canonical : looseS ≠ Base64.encode [1, 2, 3, 4] := by decide +kernel

theorem not_tailZero_looseS : ¬ Base64.TailZero looseS := by
  intro h
  have := h.1 [0x41, 0x51, 0x49, 0x44, 0x42] 0x42 1 rfl (by decide +kernel)
  exact absurd this (by decide +kernel)

theorem sanitize_b : sanitize [0x62] = [0x62] := by decide +kernel

theorem unmarshal_canon : Json.unmarshal (lineOf canonS) = (.cons [0x62] (.str canonS) .nil, true) := by
  decide +kernel

theorem unmarshal_loose : Json.unmarshal (lineOf looseS) = (.cons [0x62] (.str looseS) .nil, true) := by
  decide +kernel

theorem unmarshal_short : Json.unmarshal (lineOf shortS) = (.cons [0x62] (.str shortS) .nil, true) := by
  decide +kernel

theorem unmarshal_bad : Json.unmarshal (lineOf badS) = (.cons [0x62] (.str badS) .nil, true) := by
  decide +kernel

theorem jlLine_canon : jlLine env tmpl tmpl (lineOf canonS) = .ok (out ++ [0x0A], none) :=
  (binary_line_written Ext.empty [0x62] (ty := .int .i32) rfl _ canonS [1, 2, 3, 4] unmarshal_canon
    (by decide +kernel) rfl).trans (by decide +kernel)

theorem jlLine_short : jlLine env tmpl tmpl (lineOf shortS) = .ok ([], some .unsupportedImport) :=
  binary_line_rejected Ext.empty [0x62] (ty := .int .i32) rfl tmpl (lineOf shortS) shortS
    unmarshal_short (by decide +kernel)

theorem jlLine_bad : jlLine env tmpl tmpl (lineOf badS) = .ok ([], some .unsupportedImport) :=
  binary_line_rejected Ext.empty [0x62] (ty := .int .i32) rfl tmpl (lineOf badS) badS
    unmarshal_bad (by decide +kernel)

/-- The NON-canonical spelling is accepted (the decoder, like Go's `StdEncoding`, does not check the
    trailing bits) and re-emitted CANONICALLY: the bytes written differ from the bytes read. -/
theorem jlLine_loose : jlLine env tmpl tmpl (lineOf looseS) = .ok (out ++ [0x0A], none) :=
  (binary_line_written Ext.empty [0x62] (ty := .int .i32) rfl _ looseS _ unmarshal_loose decode_looseS
    rfl).trans (by decide +kernel)

theorem loose_line_changed : lineOf looseS ≠ out := by decide +kernel

example : c11Violation [.leaf [0x62] .binary (.int .i32)] (lineOf canonS)
    (jlLine env tmpl tmpl (lineOf canonS)) = none :=
  binary_line_oracle Ext.empty [0x62] sanitize_b (ty := .int .i32) rfl _ canonS unmarshal_canon
example : c11Violation [.leaf [0x62] .binary (.int .i32)] (lineOf looseS)
    (jlLine env tmpl tmpl (lineOf looseS)) = none :=
  binary_line_oracle Ext.empty [0x62] sanitize_b (ty := .int .i32) rfl _ looseS unmarshal_loose
example : c11Violation [.leaf [0x62] .binary (.int .i32)] (lineOf shortS)
    (jlLine env tmpl tmpl (lineOf shortS)) = none :=
  binary_line_oracle Ext.empty [0x62] sanitize_b (ty := .int .i32) rfl _ shortS unmarshal_short
example : c11Violation [.leaf [0x62] .binary (.int .i32)] (lineOf badS)
    (jlLine env tmpl tmpl (lineOf badS)) = none :=
  binary_line_oracle Ext.empty [0x62] sanitize_b (ty := .int .i32) rfl _ badS unmarshal_bad

/-- The oracle would have spoken, had the three other lines been accepted and echoed. -/
example : c11Violation [.leaf [0x62] .binary (.int .i32)] (lineOf shortS)
    (.ok (lineOf shortS ++ [0x0A], none)) = some "wrong-size-accepted" := by
  decide +kernel

example : c11Violation [.leaf [0x62] .binary (.int .i32)] (lineOf looseS)
    (.ok (lineOf looseS ++ [0x0A], none)) = some "not-re-emitted-as-accepted" := by
  decide +kernel

example : c11Violation [.leaf [0x62] .binary (.int .i32)] (lineOf badS)
    (.ok (lineOf badS ++ [0x0A], none)) = some "invalid-base64-accepted" := by
  decide +kernel

/-! #### bool: the byte is normalised, so the text written is NOT the base64 of the byte read

  `{"b":"Ag=="}` under a binary(bool) column comes out as `{"b":"AQ=="}`: `reemitted` cannot be replaced
  by the identity for bool, and the oracle abstains on exactly these payloads (`b != [0] && b != [1]`). -/

/-- `Ag==` : the byte 02 -/
def twoS : Bytes := [0x41, 0x67, 0x3D, 0x3D]
/-- `AQ==` : the byte 01 -/
def oneS : Bytes := [0x41, 0x51, 0x3D, 0x3D]

theorem jlLine_bool_two :
    jlLine env (withCol [] [0x62] .binary .bool) (withCol [] [0x62] .binary .bool) (lineOf twoS) =
      .ok (lineOf oneS ++ [0x0A], none) :=
  (binary_line_written Ext.empty [0x62] (ty := .bool) rfl _ twoS [2] (by decide +kernel)
    (by decide +kernel) rfl).trans (by decide +kernel)

theorem bool_not_echoed : Base64.encode [2] ≠ oneS := by decide +kernel

/-! #### Another non-canonical spelling: CR LF inside the text

  `{"b":"AQID\r\nBA=="}` (JSON escapes): the reader delivers a CR and a LF, the decoder skips them, and
  the column writes the canonical text without them. -/

/-- `AQID\r\nBA==` as written in the JSON text (with its two escapes) -/
def crlfText : Bytes := [0x41, 0x51, 0x49, 0x44, 0x5C, 0x72, 0x5C, 0x6E, 0x42, 0x41, 0x3D, 0x3D]
/-- …and as the reader delivers it -/
def crlfS : Bytes := [0x41, 0x51, 0x49, 0x44, 0x0D, 0x0A, 0x42, 0x41, 0x3D, 0x3D]

theorem jlLine_crlf : jlLine env tmpl tmpl (lineOf crlfText) = .ok (out ++ [0x0A], none) :=
  (binary_line_written Ext.empty [0x62] (ty := .int .i32) rfl _ crlfS [1, 2, 3, 4] (by decide +kernel)
    (by decide +kernel) rfl).trans (by decide +kernel)

/-! #### Section 3 is not vacuous: two columns, a numeric one beside the binary one

  `ti = to =` `n` (numeric), `b` (binary, int32); the input has the loose spelling, the member `b` of the
  emitted object is `AQIDBA==`. -/

def tmpl2 : Tmpl := withCol (withCol [] [0x6E] .numeric .none) [0x62] .binary (.int .i32)

/-- `{"b":"AQIDBB==","n":1}` -/
def line2 : Bytes :=
  [0x7B, 0x22, 0x62, 0x22, 0x3A, 0x22] ++ looseS ++ [0x22, 0x2C, 0x22, 0x6E, 0x22, 0x3A, 0x31, 0x7D]

/-- the row `GetRow` delivers, which is also the row `CreateRow` makes of it -/
def imported2 : List (Bytes × Val) :=
  [([0x6E], .cell (.num [0x31]) .numeric .none),
   ([0x62], .cell (decoded (.int .i32) [1, 2, 3, 4]) .binary (.int .i32))]

theorem import_n : importCell ⟨genTables, Ext.empty⟩ .numeric .none (.num [0x31]) =
    .ok (.cell (.num [0x31]) .numeric .none, none) :=
  CasterFacts.importCell_untyped rfl (CasterFacts.toNumber_num _ _) trivial

theorem steps2 : getRow env tmpl2 line2 = .ok (imported2, none) ∧
    createRow env tmpl2 (.val (.row (Members.ofList imported2))) = .ok (imported2, none) := by
  decide +kernel

theorem jlLine_line2 : ∃ body, jlLine env tmpl2 tmpl2 line2 = .ok (body ++ [0x0A], none) :=
  ⟨_, Order.jlLine_of_steps steps2.1 steps2.2 (JsonPrint.marshalRow_eq env _
    (JsonPrint.marshalMembers_cons env _ _ _ (by decide +kernel) (marshal_number _ _ (by decide))
      (JsonPrint.marshalMembers_cons env _ _ _ (by decide +kernel)
        (marshal_decoded Ext.empty (ty := .int .i32) rfl [1, 2, 3, 4] rfl)
        (JsonPrint.marshalMembers_nil env))))⟩

theorem floatOK : FloatTextOK env.ext := LineLevel.floatOK_empty

theorem keys2_fixed : ∀ k ∈ OMap.keys tmpl2, sanitize k = k := by decide +kernel

theorem inputKeys2_fixed : ∀ k ∈ Order.inputKeys line2, sanitize k = k :=
  LineValues.inputKeys_fixed line2

example : ∃ body tree, jlLine env tmpl2 tmpl2 line2 = .ok (body ++ [0x0A], none) ∧
    Json.unmarshal body = (tree, true) ∧ LineSpec.lookupJV tree [0x62] = some (.str canonS) := by
  obtain ⟨body0, hj⟩ := jlLine_line2
  obtain ⟨body, tree, hb, hu, hall⟩ :=
    emitted_line_binary_same_names Ext.empty tmpl2 tmpl2 line2 _ hj floatOK
      (by decide +kernel) (List.Perm.refl _) keys2_fixed
  cases List.append_cancel_right hb
  refine ⟨_, tree, hj, hu, ?_⟩
  obtain ⟨bs, hd, _, hout⟩ := hall [0x62] .nil .nil (.int .i32) 4 looseS
    (.tail _ (.head _)) (.tail _ (.head _)) rfl (by decide +kernel)
  rw [decode_looseS] at hd
  cases hd
  rw [hout]
  decide +kernel

example : c11Violation [.leaf [0x6E] .numeric .none, .leaf [0x62] .binary (.int .i32)] line2
    (jlLine env tmpl2 tmpl2 line2) = none := by
  obtain ⟨body0, hj⟩ := jlLine_line2
  refine emitted_line_oracle Ext.empty tmpl2 tmpl2 line2 _ hj floatOK (by decide +kernel)
    (List.Perm.refl _) keys2_fixed _ ?_
  intro n ty w hm _
  simp only [List.mem_cons, List.not_mem_nil, or_false] at hm
  rcases hm with hm | hm
  · cases hm
  · cases hm
    exact ⟨.nil, .nil, .tail _ (.head _), .tail _ (.head _)⟩

end Demo

end Jl.LineBinary
