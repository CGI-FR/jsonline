/-
  Proofs.CastInt — the integer casters of the regenerated tables (Gen.CastTable).  What each branch (target × source
  type) of an integer caster must be is a specification, decided on the tables of the current source by kernel
  evaluation: a guard is read on a whole interval at once (true throughout, false throughout, or neither), so "the guard
  rejects exactly what does not fit" is a closed check, and a changed constant, comparison, conversion, bit size or
  sentinel makes it false.  What a caster computes on each kind of source then follows from the specification of its
  clause (`cast_num`, the one clause that calls a caster again and so needs Proofs.CastFuel, is in Proofs.CasterFacts).
  For a float the test of the source and the conversion behind it are read once as `FloatFits` / `truncOf`; nothing
  above this module speaks of the test itself.
-/
import Model.CastGen
import Model.CastSpec
import Proofs.CastEval
import Proofs.IntText
import Proofs.Float

namespace Jl
open Cast
open CastTyped (allTys mem_allTys)

/-! ### Integer and float readings of guards -/

def evalEInt : E → Int → Int
  | .val, v => v
  | .toInt t e, v => t.wrap (evalEInt e v)
  | _, v => v

def intExprOK : E → Bool
  | .val => true
  | .toInt _ e => intExprOK e
  | _ => false

def evalGInt (g : G) (v : Int) : Bool := g.eval fun op l c => cmpInt op (evalEInt l v) c

def intGuardOK (g : G) : Bool := g.allE intExprOK

/-- Float guards compare `val` itself. -/
def evalGF (g : G) (x : FVal) : Bool := g.eval fun op _ c => cmpF op x c

def floatGuardOK (g : G) : Bool := g.allE (· == .val)

theorem cmpInt_lt (x c : Int) : cmpInt .lt x c = decide (x < c) := rfl
theorem cmpInt_le (x c : Int) : cmpInt .le x c = decide (x ≤ c) := rfl
theorem cmpInt_gt (x c : Int) : cmpInt .gt x c = decide (x > c) := rfl
theorem cmpInt_ge (x c : Int) : cmpInt .ge x c = decide (x ≥ c) := rfl
theorem cmpInt_eq (x c : Int) : cmpInt .eq x c = (x == c) := rfl
theorem cmpInt_ne (x c : Int) : cmpInt .ne x c = (x != c) := rfl
theorem cmpF_lt (x : FVal) (c : Int) : cmpF .lt x c = x.lt c := rfl
theorem cmpF_le (x : FVal) (c : Int) : cmpF .le x c = x.le c := rfl
theorem cmpF_gt (x : FVal) (c : Int) : cmpF .gt x c = x.gt c := rfl
theorem cmpF_ge (x : FVal) (c : Int) : cmpF .ge x c = x.ge c := rfl
theorem cmpF_eq (x : FVal) (c : Int) : cmpF .eq x c = x.eq c := rfl
theorem cmpF_ne (x : FVal) (c : Int) : cmpF .ne x c = x.ne c := rfl

def casterOf (T : CastTables) (name : String) : Caster :=
  (T.casters.find? (fun c => c.name == name)).getD ⟨"", [], .unknown ""⟩

theorem find_casterOf {T : CastTables} {name : String}
    (h : (T.casters.find? (fun c => c.name == name)).isSome = true) :
    T.casters.find? (fun c => c.name == name) = some (casterOf T name) := by
  obtain ⟨c, hc⟩ := Option.isSome_iff_exists.mp h
  rw [casterOf, hc]; rfl

theorem findClause_casterOf {T : CastTables} {name : String} {ty : Ty} {br : Branch}
    (h : clauseOf T name ty = some br) : findClause (casterOf T name) ty = br := by
  obtain ⟨c, hc, rfl⟩ := Option.map_eq_some_iff.mp h
  rw [casterOf, hc]; rfl

/-! ### What each branch of an integer caster must be -/

/-- bool source: `if val { return T(1) }; return T(0)`. -/
def boolBranchSpec (tgt : IntTy) : Branch → Prop
  | .ifBool (.intLit t1 1) (.intLit t0 0) => t1 = tgt ∧ t0 = tgt
  | _ => False

/-- string source: strconv.ParseInt / ParseUint in base 0 with the target's bit size. -/
def textBranchSpec (T : CastTables) (tgt : IntTy) : Branch → Prop
  | .parse (.parseInt base bits) e s =>
    tgt.signed = true ∧ base = 0 ∧ (bits = tgt.bits ∨ (bits = 0 ∧ tgt.bits = 64)) ∧
      (e = .toInt tgt .parsed ∨ (e = .parsed ∧ tgt = .i64)) ∧ wrapsRoot T.sentinels 4 s = true
  | .parse (.parseUint base bits) e s =>
    tgt.signed = false ∧ base = 0 ∧ (bits = tgt.bits ∨ (bits = 0 ∧ tgt.bits = 64)) ∧
      (e = .toInt tgt .parsed ∨ (e = .parsed ∧ tgt = .u64)) ∧ wrapsRoot T.sentinels 4 s = true
  | _ => False

/-- json.Number source: the same caster on `string(val)`. -/
def numBranchSpec (tgt : IntTy) : Branch → Prop
  | .tail callee (.toStr .val) => callee = casterOfInt tgt
  | _ => False

instance (tgt : IntTy) (br : Branch) : Decidable (boolBranchSpec tgt br) := by
  unfold boolBranchSpec; split <;> infer_instance

instance (T : CastTables) (tgt : IntTy) (br : Branch) : Decidable (textBranchSpec T tgt br) := by
  unfold textBranchSpec; split <;> infer_instance

instance (tgt : IntTy) (br : Branch) : Decidable (numBranchSpec tgt br) := by
  unfold numBranchSpec; split <;> infer_instance

/-! ### Guards on an interval

  What is known of a truth value on a whole interval is a pair of flags (`Knows`): it is true throughout, it is false
  throughout. -/

def Knows (k : Bool × Bool) (b : Bool) : Prop := (k.1 = true → b = true) ∧ (k.2 = true → b = false)

instance (k : Bool × Bool) (b : Bool) : Decidable (Knows k b) := by unfold Knows; infer_instance

theorem Knows.or : ∀ {t f t' f' x y : Bool}, Knows (t, f) x → Knows (t', f') y →
    Knows (t || t', f && f') (x || y) := by decide

theorem Knows.and : ∀ {t f t' f' x y : Bool}, Knows (t, f) x → Knows (t', f') y →
    Knows (t && t', f || f') (x && y) := by decide

theorem Knows.not : ∀ {t f x : Bool}, Knows (t, f) x → Knows (f, t) (!x) := by decide

def G.evalOn (atom : Cmp → E → Int → Bool × Bool) : G → Bool × Bool
  | .cmp op l c => atom op l c
  | .or a b => ((a.evalOn atom).1 || (b.evalOn atom).1, (a.evalOn atom).2 && (b.evalOn atom).2)
  | .and a b => ((a.evalOn atom).1 && (b.evalOn atom).1, (a.evalOn atom).2 || (b.evalOn atom).2)
  | .not a => ((a.evalOn atom).2, (a.evalOn atom).1)

theorem G.evalOn_knows {A : Cmp → E → Int → Bool × Bool} {a : Cmp → E → Int → Bool}
    (h : ∀ op l c, Knows (A op l c) (a op l c)) (g : G) : Knows (g.evalOn A) (g.eval a) := by
  induction g with
  | cmp op l c => exact h op l c
  | or a b iha ihb => exact iha.or ihb
  | and a b iha ihb => exact iha.and ihb
  | not a ih => exact ih.not

/-- A closed interval of integers; `none` is an infinite end. -/
structure Ival where
  lo : Option Int
  hi : Option Int

def Ival.Mem (I : Ival) (v : Int) : Prop :=
  (∀ a, I.lo = some a → a ≤ v) ∧ (∀ b, I.hi = some b → v ≤ b)

def Ival.lt (I : Ival) (c : Int) : Bool × Bool := (I.hi.any (· < c), I.lo.any (c ≤ ·))

theorem Ival.lt_knows {I : Ival} {v : Int} (h : I.Mem v) (c : Int) :
    Knows (I.lt c) (decide (v < c)) := by
  constructor <;> intro hk
  · obtain ⟨b, hb, hlt⟩ := (Option.any_eq_true _ _).mp hk
    have := h.2 b hb
    simp at hlt ⊢; omega
  · obtain ⟨a, ha, hle⟩ := (Option.any_eq_true _ _).mp hk
    have := h.1 a ha
    simp at hle ⊢; omega

def Cmp.viaLt : Cmp → Int → G
  | .lt, c => .cmp .lt .val c
  | .le, c => .cmp .lt .val (c + 1)
  | .gt, c => .not (.cmp .lt .val (c + 1))
  | .ge, c => .not (.cmp .lt .val c)
  | .eq, c => .and (.cmp .lt .val (c + 1)) (.not (.cmp .lt .val c))
  | .ne, c => .not (.and (.cmp .lt .val (c + 1)) (.not (.cmp .lt .val c)))

def Ival.cmp (I : Ival) (op : Cmp) (c : Int) : Bool × Bool := (op.viaLt c).evalOn fun _ _ c => I.lt c

theorem Ival.cmp_knows {I : Ival} {v : Int} (h : I.Mem v) (op : Cmp) (c : Int) :
    Knows (I.cmp op c) (cmpInt op v c) := by
  have : cmpInt op v c = (op.viaLt c).eval fun _ _ c => decide (v < c) := by
    cases op <;> simp only [Cmp.viaLt, G.eval, cmpInt] <;> rw [Bool.eq_iff_iff] <;> simp <;> omega
  rw [this]
  exact G.evalOn_knows (fun _ _ c => I.lt_knows h c) _

def wrapFree : E → Ival → Bool
  | .val, _ => true
  | .toInt t e, I => wrapFree e I && I.lo.any (t.min ≤ ·) && I.hi.any (· ≤ t.max)
  | _, _ => false

theorem evalEInt_of_wrapFree {e : E} {I : Ival} {v : Int} (h : wrapFree e I = true) (hv : I.Mem v) :
    evalEInt e v = v := by
  induction e with
  | val => rfl
  | toInt t e ih =>
    simp only [wrapFree, Bool.and_eq_true, Option.any_eq_true, decide_eq_true_eq] at h
    obtain ⟨⟨he, a, ha, hmin⟩, b, hb, hmax⟩ := h
    rw [evalEInt, ih he]
    exact wrap_of_inRange t v ⟨Int.le_trans hmin (hv.1 a ha), Int.le_trans (hv.2 b hb) hmax⟩
  | _ => cases h

/-- Equality with a fractional value is left undetermined: no guard asks for it. -/
def finCmp (frac neg : Bool) : Cmp → Option Cmp
  | .lt => some (if frac && neg then .le else .lt)
  | .le => some (if frac && !neg then .lt else .le)
  | .gt => some (if frac && !neg then .ge else .gt)
  | .ge => some (if frac && neg then .gt else .ge)
  | .eq => if frac then none else some .eq
  | .ne => if frac then none else some .ne

theorem cmpF_fin {frac neg : Bool} {op op' : Cmp} (h : finCmp frac neg op = some op') (t c : Int) :
    cmpF op (.fin t frac neg) c = cmpInt op' t c := by
  cases op <;> cases frac <;> cases neg <;> cases h <;> rfl

/-- "Outside `[lo, hi)`", the guard every range check is compared with. -/
def rangeGuard (lo hi : Int) : G := .not (.and (.cmp .ge .val lo) (.cmp .lt .val hi))

/-- The integers cut at `lo` and at `hi`: on each piece a comparison with a neighbour of
    either is determined. -/
def pieces (lo hi : Int) : List Ival :=
  [⟨none, some (lo - 1)⟩, ⟨some lo, some lo⟩, ⟨some (lo + 1), some (hi - 1)⟩, ⟨some hi, some hi⟩,
    ⟨some (hi + 1), none⟩]

theorem mem_pieces (lo hi v : Int) : ∃ I ∈ pieces lo hi, I.Mem v := by
  simp [pieces, Ival.Mem]; omega

def Ival.clip (I : Ival) (lo hi : Int) : Ival :=
  ⟨some (max lo (I.lo.getD lo)), some (min hi (I.hi.getD hi))⟩

theorem Ival.clip_mem {I : Ival} {v lo hi : Int} (h : I.Mem v) (hlo : lo ≤ v) (hhi : v ≤ hi) :
    (I.clip lo hi).Mem v := by
  obtain ⟨a, b⟩ := I
  cases a <;> cases b <;> simp [Ival.Mem, Ival.clip] at h ⊢ <;> omega

def Ival.empty (I : Ival) : Bool :=
  match I.lo, I.hi with
  | some a, some b => b < a
  | _, _ => false

def sameOn (A : Ival → Cmp → E → Int → Bool × Bool) (g g' : G) (Is : List Ival) : Bool :=
  Is.all fun I => I.empty || (g.evalOn (A I)).1 && (g'.evalOn (A I)).1 ||
    (g.evalOn (A I)).2 && (g'.evalOn (A I)).2

theorem sameOn_sound {A : Ival → Cmp → E → Int → Bool × Bool} {a : Cmp → E → Int → Bool} {g g' : G}
    {Is : List Ival} (h : sameOn A g g' Is = true) {I : Ival} (hI : I ∈ Is) {v : Int} (hv : I.Mem v)
    (hA : ∀ op l c, Knows (A I op l c) (a op l c)) : g.eval a = g'.eval a := by
  have h := List.all_eq_true.mp h I hI
  simp only [Bool.or_eq_true, Bool.and_eq_true] at h
  rcases h with (he | ht) | hf
  · unfold Ival.empty at he
    split at he
    · rename_i a b ha hb
      have := hv.1 a ha
      have := hv.2 b hb
      simp at he; omega
    · cases he
  · rw [(G.evalOn_knows hA g).1 ht.1, (G.evalOn_knows hA g').1 ht.2]
  · rw [(G.evalOn_knows hA g).2 hf.1, (G.evalOn_knows hA g').2 hf.2]

/-- An atom with a conversion that may wrap is read as unknown, `(false, false)`: the check then fails, it never passes
    wrongly. -/
def intGuardExact (tgt src : IntTy) (g : G) : Bool :=
  sameOn (fun I op l c => if wrapFree l I then I.cmp op c else (false, false)) g
    (rangeGuard tgt.min (tgt.max + 1)) ((pieces tgt.min (tgt.max + 1)).map (·.clip src.min src.max))

theorem intGuardExact_sound {tgt src : IntTy} {g : G} (h : intGuardExact tgt src g = true) (v : Int)
    (hv : src.inRange v) : evalGInt g v = !decide (tgt.inRange v) := by
  obtain ⟨I, hI, hm⟩ := mem_pieces tgt.min (tgt.max + 1) v
  have hc := Ival.clip_mem hm hv.1 hv.2
  have : evalGInt g v = evalGInt (rangeGuard tgt.min (tgt.max + 1)) v :=
    sameOn_sound h (List.mem_map_of_mem hI) hc fun op l c => by
      split
      · rw [evalEInt_of_wrapFree ‹_› hc]; exact Ival.cmp_knows hc op c
      · exact ⟨nofun, nofun⟩
  rw [this]
  show (!(decide (v ≥ tgt.min) && decide (v < tgt.max + 1))) = !decide (tgt.min ≤ v ∧ v ≤ tgt.max)
  simp only [Bool.decide_and, Int.lt_add_one_iff, ge_iff_le]

/-- At NaN and ±Inf by evaluation, at the finite values piece by piece for each of the four (fraction, sign)
    readings. -/
def floatGuardExact (lo hi : Int) (g : G) : Bool :=
  [FVal.nan, .inf true, .inf false].all (fun x => evalGF g x == evalGF (rangeGuard lo hi) x) &&
  [(false, false), (false, true), (true, false), (true, true)].all fun p =>
    sameOn (fun I op _ c => ((finCmp p.1 p.2 op).map (I.cmp · c)).getD (false, false)) g (rangeGuard lo hi)
      (pieces lo hi)

theorem floatGuardExact_sound {lo hi : Int} {g : G} (h : floatGuardExact lo hi g = true) (x : FVal) :
    evalGF g x = !(x.ge lo && x.lt hi) := by
  simp only [floatGuardExact, Bool.and_eq_true, List.all_eq_true, beq_iff_eq] at h
  show evalGF g x = evalGF (rangeGuard lo hi) x
  cases x with
  | nan => exact h.1 _ (by simp)
  | inf n => cases n <;> exact h.1 _ (by simp)
  | fin t frac neg =>
    obtain ⟨I, hI, hm⟩ := mem_pieces lo hi t
    refine sameOn_sound (h.2 (frac, neg) (by cases frac <;> cases neg <;> simp)) hI hm fun op l c => ?_
    cases hf : finCmp frac neg op with
    | none => exact ⟨nofun, nofun⟩
    | some op' => rw [cmpF_fin hf]; exact Ival.cmp_knows hm op' c

/-! ### The specifications decided -/

/-- Integer source: `return val`, `return T(val)` where every value of the source type fits, or
    `if g { fail }; return T(val)` where `g` says exactly "outside the range of `T`". -/
def intBranchOK (T : CastTables) (tgt src : IntTy) : Branch → Bool
  | .ret .val => src == tgt
  | .ret (.toInt t .val) => t == tgt && decide (tgt.min ≤ src.min) && decide (src.max ≤ tgt.max)
  | .guarded g s (.toInt t .val) =>
    t == tgt && wrapsRoot T.sentinels 4 s && intGuardOK g && intGuardExact tgt src g
  | _ => false

/-- Float source: `if g { fail }; return T(val)` where `g`, read on the float itself, says exactly
    "NaN, or outside `[MIN, MAX + 1)`". -/
def floatBranchOK (T : CastTables) (tgt : IntTy) : Branch → Bool
  | .guarded g s (.toInt t .val) =>
    t == tgt && wrapsRoot T.sentinels 4 s && floatGuardOK g && floatGuardExact tgt.min (tgt.max + 1) g
  | _ => false

/-! ### The regenerated tables pass -/

/-- The `[]byte` clause is Proofs.CastBin's, the `time.Time` clause Proofs.LineCast's (with the float casters'); a
    type without a case meets the default clause, which only fails. -/
def intClauseOK (T : CastTables) (tgt : IntTy) : Ty → Branch → Bool
  | .int src, br => intBranchOK T tgt src br
  | .f64, br | .f32, br => floatBranchOK T tgt br
  | .bool, br => decide (boolBranchSpec tgt br)
  | .str, br => decide (textBranchSpec T tgt br)
  | .num, br => decide (numBranchSpec tgt br)
  | .none, br => br == .retNil
  | .bytes, _ | .time, _ => true
  | .other, br => failsCast T br

theorem int_casters_ok (tgt : IntTy) (ty : Ty) :
    ∃ br, clauseOf genTables (casterOfInt tgt) ty = some br ∧ intClauseOK genTables tgt ty br = true :=
  (Option.any_eq_true _ _).mp <| List.all_eq_true.mp (IntTy.forall_of_all (p := fun tgt => (allTys.all fun ty =>
    (clauseOf genTables (casterOfInt tgt) ty).any (intClauseOK genTables tgt ty)) = true)
      (by decide +kernel) tgt) ty (mem_allTys ty)

theorem cast_int_clause {ext : Ext} {tgt : IntTy} {v : Dyn} {o : Outcome Dyn}
    (h : ∀ br, intClauseOK genTables tgt (typeOf v) br = true →
      evalBranch genTables ext 23 (casterOfInt tgt) br v = o) :
    castNamed genTables ext (casterOfInt tgt) v = o :=
  let ⟨_, hbr, hok⟩ := int_casters_ok tgt (typeOf v)
  (castNamed_clause hbr ext).trans (h _ hok)

/-! ### What an integer caster computes, from the specification of its clause -/

theorem evalE_int (T : CastTables) (ext : Ext) (s : IntTy) (v : Int) (p : Dyn) (e : E)
    (h : intExprOK e = true) :
    ∃ t, evalE T ext (.int s v) p e = .ok (.int t (evalEInt e v)) := by
  induction e with
  | val => exact ⟨s, rfl⟩
  | toInt t e ih =>
    obtain ⟨t', ht'⟩ := ih (by simpa [intExprOK] using h)
    exact ⟨t, by simp [evalE, ht', evalEInt]⟩
  | _ => simp [intExprOK] at h

theorem evalG_int (T : CastTables) (ext : Ext) (s : IntTy) (v : Int) (g : G)
    (h : intGuardOK g = true) :
    evalG T ext (.int s v) g = some (evalGInt g v) :=
  evalG_eval T ext _ (fun op l c hl => by
    obtain ⟨t, ht⟩ := evalE_int T ext s v .nil l hl
    simp [evalG, ht]) h

theorem fvalOf_WF {src : Dyn} {x : FVal} (hx : fvalOf src = some x) : x.WF := by
  cases src <;> cases hx <;> exact Float.toFVal_WF _ _

theorem evalG_float (T : CastTables) (ext : Ext) {src : Dyn} {x : FVal} (hx : fvalOf src = some x)
    {g : G} (h : floatGuardOK g = true) : evalG T ext src g = some (evalGF g x) :=
  evalG_eval T ext _ (fun op l c hl => by
    cases eq_of_beq hl
    cases src <;> cases hx <;> rfl) h

theorem floatToInt_exact (t : IntTy) (tr : Int) (frac neg : Bool) (h : t.inRange tr) :
    floatToInt t (.fin tr frac neg) = tr := by
  -- only `uint64`/`uint` reach beyond the 64-bit signed range the conversion goes through
  have hr : if t == .u64 || t == .uint then t.min = 0 ∧ t.max = 2 ^ 64 - 1
      else -(2 ^ 63 : Int) ≤ t.min ∧ t.max < 2 ^ 63 := by
    cases t <;> decide
  unfold IntTy.inRange at h
  simp only [floatToInt]
  by_cases hu : (t == .u64 || t == .uint) = true
  · rw [if_pos hu] at hr ⊢
    rw [if_pos (by omega)]
  · rw [if_neg hu] at hr ⊢
    rw [if_pos (by omega), wrap_of_inRange t tr h]

theorem cast_int_source (ext : Ext) (tgt src : IntTy) (v : Int) (hv : src.inRange v) :
    castNamed genTables ext (casterOfInt tgt) (.int src v) =
      if tgt.inRange v then .ok (.int tgt v) else .err .cast :=
  cast_int_clause fun br (h : intBranchOK genTables tgt src br = true) => by
  unfold intBranchOK at h
  split at h
  · cases eq_of_beq h; simp [evalBranch, evalE, hv]
  · simp only [Bool.and_eq_true, beq_iff_eq, decide_eq_true_eq] at h
    obtain ⟨⟨rfl, h1⟩, h2⟩ := h
    rename_i t
    have hr : t.inRange v := ⟨Int.le_trans h1 hv.1, Int.le_trans hv.2 h2⟩
    simp [evalBranch, evalE, hr, wrap_of_inRange _ _ hr]
  · simp only [Bool.and_eq_true, beq_iff_eq] at h
    obtain ⟨⟨⟨rfl, hs⟩, hg⟩, hx⟩ := h
    rename_i g s t
    simp only [evalBranch, evalG_int _ ext src v _ hg, intGuardExact_sound hx v hv, failWith_of_wraps hs]
    by_cases hr : t.inRange v
    · simp [evalE, hr, wrap_of_inRange _ _ hr]
    · simp [hr]
  · cases h

theorem cast_bool_source (ext : Ext) (tgt : IntTy) (b : Bool) :
    castNamed genTables ext (casterOfInt tgt) (.bool b) = .ok (.int tgt (if b then 1 else 0)) :=
  cast_int_clause fun br hok => by
  have hspec : boolBranchSpec tgt br := of_decide_eq_true hok
  unfold boolBranchSpec at hspec
  split at hspec
  · obtain ⟨rfl, rfl⟩ := hspec
    cases b <;> simp [evalBranch, evalE]
  · exact absurd hspec id

-- In the namespace of Proofs.GettersExact, whose statements (and C09's) name them; they stand here because
-- `cast_float`, below that module, is stated with them.  `FloatFits t x`: `x` passes the test of `range_fits`.
namespace GettersExact

def FloatFits (t : IntTy) : FVal → Prop
  | .fin tr frac neg => t.inRange tr ∧ ¬ (frac = true ∧ neg = true ∧ tr = t.min)
  | _ => False

instance (t : IntTy) (x : FVal) : Decidable (FloatFits t x) := by
  unfold FloatFits; split <;> infer_instance

/-- The truncation toward zero of a finite float (0 for NaN / ±Inf, where it is not used). -/
def truncOf : FVal → Int
  | .fin tr _ _ => tr
  | _ => 0

end GettersExact
open GettersExact (FloatFits truncOf)

/-- The test of the source, `val >= MIN && val < MAX+1` on the float itself, is passed exactly by the floats
    that fit: finite, the truncation in range, and not a fraction below MIN (-128.5 for int8, -0.5 for every
    unsigned type).  (`MIN ≤ 0 < MAX+1` matters: a negative fraction whose truncation is `MAX+1` would pass
    the second test.) -/
theorem range_fits (t : IntTy) {x : FVal} (hwf : x.WF) :
    (x.ge t.min && x.lt (t.max + 1)) = true ↔ FloatFits t x := by
  have hlo : t.min ≤ 0 := by cases t <;> decide
  have hhi : 0 < t.max + 1 := by cases t <;> decide
  cases x with
  | nan => simp [FVal.ge, FloatFits]
  | inf n => cases n <;> simp [FVal.ge, FVal.lt, FloatFits]
  | fin tr frac neg =>
    obtain ⟨hn, hp⟩ := hwf
    cases frac <;> cases neg <;> simp [FVal.ge, FVal.lt, IntTy.inRange, FloatFits] at hn hp ⊢ <;> omega

theorem floatToInt_of_fits {t : IntTy} {x : FVal} (h : FloatFits t x) : floatToInt t x = truncOf x := by
  cases x with
  | fin tr frac neg => exact floatToInt_exact t tr frac neg h.1
  | nan => exact absurd h id
  | inf n => exact absurd h id

theorem cast_float (ext : Ext) (tgt : IntTy) {src : Dyn} {x : FVal} (hx : fvalOf src = some x) :
    castNamed genTables ext (casterOfInt tgt) src =
      if FloatFits tgt x then .ok (.int tgt (truncOf x)) else .err .cast :=
  cast_int_clause fun br hok => by
  have h : floatBranchOK genTables tgt br = true := by cases src <;> cases hx <;> exact hok
  unfold floatBranchOK at h
  split at h
  · simp only [Bool.and_eq_true, beq_iff_eq] at h
    obtain ⟨⟨⟨rfl, hs⟩, hg⟩, hev⟩ := h
    rename_i g s t
    have he : evalE genTables ext src .nil (.toInt t .val) = .ok (.int t (floatToInt t x)) := by
      cases src <;> cases hx <;> rfl
    simp only [evalBranch, evalG_float _ ext hx hg, floatGuardExact_sound hev, failWith_of_wraps hs, he]
    by_cases hf : FloatFits t x
    · rw [(range_fits t (fvalOf_WF hx)).mpr hf, if_pos hf, floatToInt_of_fits hf]; rfl
    · rw [Bool.eq_false_iff.mpr (mt (range_fits t (fvalOf_WF hx)).mp hf), if_neg hf]; rfl
  · cases h

/-- `strconv.ParseInt` / `ParseUint` in base 0 at `t`'s width, as the integer caster of `t` calls it. -/
def textVal (t : IntTy) (s : Bytes) : Option Int :=
  if t.signed then IntText.parseInt0 s t.bits else (IntText.parseUint0 s t.bits).map Int.ofNat

theorem bits_if (t : IntTy) : (if t.bits = 0 then 64 else t.bits) = t.bits := if_neg (bits_pos t)

theorem textVal_some {t : IntTy} {s : Bytes} {v : Int} (h : textVal t s = some v) :
    IntText.specText s = some v ∧ t.inRange v := by
  unfold textVal at h
  cases hs : t.signed with
  | true =>
    rw [hs, if_pos rfl, IntText.parseInt0_eq_spec, bits_if] at h
    obtain ⟨w, hw, h⟩ := Option.bind_eq_some_iff.mp h
    split at h
    · cases h
      exact ⟨hw, (inRange_signed_iff t hs _).mpr ‹_›⟩
    · cases h
  | false =>
    rw [hs, if_neg Bool.false_ne_true] at h
    obtain ⟨n, hn, rfl⟩ := Option.map_eq_some_iff.mp h
    obtain ⟨h1, h2⟩ := IntText.parseUint0_some_spec hn
    rw [bits_if] at h2
    have : ((2 ^ t.bits : Nat) : Int) = (2 : Int) ^ t.bits := by simp
    exact ⟨h1, (inRange_unsigned_iff t hs _).mpr ⟨Int.natCast_nonneg n, by rw [← this]; exact Int.ofNat_lt.mpr h2⟩⟩

theorem textVal_formatInt (t : IntTy) (v : Int) :
    textVal t (IntText.formatInt v) = if t.inRange v then some v else none := by
  unfold textVal
  cases hs : t.signed with
  | true =>
    rw [if_pos rfl, IntText.parseInt0_formatInt]
    simp only [bits_if, ← inRange_signed_iff t hs v]
  | false =>
    rw [if_neg Bool.false_ne_true, IntText.parseUint0_formatInt]
    simp only [bits_if, ← inRange_unsigned_iff t hs v]
    split
    · rename_i hr
      exact congrArg some (Int.toNat_of_nonneg ((inRange_unsigned_iff t hs v).mp hr).1)
    · rfl

theorem cast_text (ext : Ext) (tgt : IntTy) (s : Bytes) :
    castNamed genTables ext (casterOfInt tgt) (.str s) =
      match textVal tgt s with
      | some v => .ok (.int tgt v)
      | none => .err .cast :=
  cast_int_clause fun br hok => by
  have hspec : textBranchSpec genTables tgt br := of_decide_eq_true hok
  unfold textBranchSpec at hspec
  split at hspec
  · obtain ⟨hsig, rfl, hbits, he, hs⟩ := hspec
    rename_i bits e s'
    -- a bit size 0 means 64
    have hb : IntText.parseInt0 s bits = textVal tgt s := by
      rw [textVal, if_pos hsig]
      rcases hbits with rfl | ⟨rfl, h64⟩
      · rfl
      · rw [h64]; rfl
    simp only [evalBranch, runParse, failWith_of_wraps hs, beq_self_eq_true, if_true, hb]
    cases hp : textVal tgt s with
    | none => rfl
    | some v =>
      have hr := (textVal_some hp).2
      rcases he with rfl | ⟨rfl, rfl⟩ <;> simp [evalE, wrap_of_inRange _ _ hr]
  · obtain ⟨hsig, rfl, hbits, he, hs⟩ := hspec
    rename_i bits e s'
    have hb : (IntText.parseUint0 s bits).map Int.ofNat = textVal tgt s := by
      rw [textVal, if_neg (by simp [hsig])]
      rcases hbits with rfl | ⟨rfl, h64⟩
      · rfl
      · rw [h64]; rfl
    simp only [evalBranch, runParse, failWith_of_wraps hs, beq_self_eq_true, if_true]
    cases hp : textVal tgt s with
    | none =>
      rw [hp, Option.map_eq_none_iff] at hb
      simp [hb]
    | some v =>
      have hr := (textVal_some hp).2
      obtain ⟨n, hn, rfl⟩ := Option.map_eq_some_iff.mp (hb.trans hp)
      rcases he with rfl | ⟨rfl, rfl⟩ <;> simp [hn, evalE] <;> exact wrap_of_inRange _ _ hr
  · exact absurd hspec id

theorem cast_text_source (ext : Ext) (tgt : IntTy) (v : Int) :
    castNamed genTables ext (casterOfInt tgt) (.str (IntText.formatInt v)) =
      if tgt.inRange v then .ok (.int tgt v) else .err .cast := by
  rw [cast_text, textVal_formatInt]
  by_cases hr : tgt.inRange v
  · rw [if_pos hr, if_pos hr]
  · rw [if_neg hr, if_neg hr]

/-! ### Integers rendered as decimal text -/

theorem intExprOK_of_wrapFree {e : E} {I : Ival} (h : wrapFree e I = true) : intExprOK e = true := by
  induction e with
  | val => rfl
  | toInt t e ih =>
    simp only [wrapFree, Bool.and_eq_true] at h
    exact ih h.1.1
  | _ => cases h

/-- `strconv.Itoa / FormatInt / FormatUint(…, 10)` of `val`, an integer of type `src`, through
    conversions that keep every value of `src`. -/
def rendersDecimal (src : IntTy) : E → Bool
  | .itoa e => wrapFree e ⟨some src.min, some src.max⟩
  | .fmtInt e base => base == 10 && wrapFree e ⟨some src.min, some src.max⟩
  | .fmtUint e base => base == 10 && wrapFree e ⟨some src.min, some src.max⟩
  | _ => false

theorem evalE_rendersDecimal {src : IntTy} {e : E} (h : rendersDecimal src e = true) (T : CastTables)
    (ext : Ext) {v : Int} (hv : src.inRange v) (p : Dyn) :
    evalE T ext (.int src v) p e = .ok (.str (IntText.formatInt v)) := by
  have key : ∀ e', wrapFree e' ⟨some src.min, some src.max⟩ = true →
      ∃ t, evalE T ext (.int src v) p e' = .ok (.int t v) := fun e' he => by
    obtain ⟨t, ht⟩ := evalE_int T ext src v p e' (intExprOK_of_wrapFree he)
    rw [evalEInt_of_wrapFree he ⟨fun a ha => by cases ha; exact hv.1, fun b hb => by cases hb; exact hv.2⟩] at ht
    exact ⟨t, ht⟩
  unfold rendersDecimal at h
  split at h
  · obtain ⟨t, ht⟩ := key _ h
    simp [evalE, ht]
  · simp only [Bool.and_eq_true, beq_iff_eq] at h
    obtain ⟨t, ht⟩ := key _ h.2
    simp [evalE, ht, h.1]
  · simp only [Bool.and_eq_true, beq_iff_eq] at h
    obtain ⟨t, ht⟩ := key _ h.2
    simp [evalE, ht, h.1]
  · cases h

def rendersText (src : IntTy) : Branch → Bool
  | .ret e => rendersDecimal src e
  | _ => false

def rendersNumber (src : IntTy) : Branch → Bool
  | .ret (.toNum e) => rendersDecimal src e
  | _ => false

theorem toString_of_int (ext : Ext) (t : IntTy) (v : Int) (hv : t.inRange v) :
    castNamed genTables ext "ToString" (.int t v) = .ok (.str (IntText.formatInt v)) := by
  have h : ∀ t, (clauseOf genTables "ToString" (.int t)).any (rendersText t) = true :=
    IntTy.forall_of_all (by decide +kernel)
  obtain ⟨br, hbr, hr⟩ := (Option.any_eq_true _ _).mp (h t)
  rw [castNamed_clause (v := .int t v) hbr]
  unfold rendersText at hr
  split at hr
  · exact evalE_rendersDecimal hr genTables ext hv .nil
  · cases hr

theorem toNumber_of_int (ext : Ext) (t : IntTy) (v : Int) (hv : t.inRange v) :
    castNamed genTables ext "ToNumber" (.int t v) = .ok (.num (IntText.formatInt v)) := by
  have h : ∀ t, (clauseOf genTables "ToNumber" (.int t)).any (rendersNumber t) = true :=
    IntTy.forall_of_all (by decide +kernel)
  obtain ⟨br, hbr, hr⟩ := (Option.any_eq_true _ _).mp (h t)
  rw [castNamed_clause (v := .int t v) hbr]
  unfold rendersNumber at hr
  split at hr
  · simp only [evalBranch, evalE, evalE_rendersDecimal hr genTables ext hv .nil]
  · cases hr

end Jl
