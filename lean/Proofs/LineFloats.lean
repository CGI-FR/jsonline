/-
  Proofs.LineFloats — C12 at LINE level: float columns on the emitted BYTES, given what strconv and
  encoding/json answer.

  Shortest-digit formatting and correctly rounded parsing are strconv's, the spelling of a Go float
  in JSON is encoding/json's: they are the parameter `Ext` (`fmtFloat`, `parseFloat`, `jsonFloat`).
  What is proved here is jsonline's part, carried through `jlLine` over the regenerated cast tables: WHICH
  questions are asked (`strconv.ParseFloat(lit, 64 | 32)`, the `float32(·)` narrowing,
  `strconv.FormatFloat(float64(v), 'f', -1, 64 | 32)`, json.Marshal of the typed float), and what the line
  becomes for each answer (`float_line`; every other case is read off it).  `FT`, float64 | float32 as one
  family over bit patterns, is in Proofs.CasterFacts Part 5.

  "Rejected" and the form of the input line are those of Proofs.LineInts.
-/
import Proofs.LineColumn
import Proofs.LineInts

namespace Jl.LineFloats
open Jl Jl.Value Jl.Template Jl.Cast Jl.CastTyped
open Jl.JsonQuote (sanitize)
open Jl.JsonWrite (isValidNumber quote)
open Jl.JsonPrint (treeDyn treeVal treeMembers treeExported numText FloatTextOK)
-- `objText` of Proofs.LineKeys, which stands in namespace `LineTime` (Proofs.LineTime is not imported)
open Jl.LineTime (objText)
open Jl.LineCast
open Jl.LineInts (IsCarrier IsCarrierJV rejClass AcceptedWith)


/-- The law assumed of strconv (the same two fields as `C12.FloatLaw`; `C12.float_law_same` converts): the
    shortest rendering parses back to the same value at the same bit size. -/
structure FloatLaw (ext : Ext) : Prop where
  rt64 : ∀ b, Float.isFinite Float.f64 b = true →
    ∃ s, ext.fmtFloat b 64 = some s ∧ ext.parseFloat s 64 = some (some b)
  rt32 : ∀ b, Float.isFinite Float.f32 b = true →
    ∃ s, ext.fmtFloat (Float.f32to64 b) 32 = some s ∧
      ∃ r, ext.parseFloat s 32 = some (some r) ∧ Float.f64to32 r = b

theorem FloatLaw.rt {ext : Ext} (law : FloatLaw ext) (T : FT) (v : Nat)
    (hv : Float.isFinite T.fmt v = true) :
    ∃ s, ext.fmtFloat (T.widen v) T.bits = some s ∧
      ∃ r, ext.parseFloat s T.bits = some (some r) ∧ T.narrow r = v := by
  cases T
  · obtain ⟨s, hf, hp⟩ := law.rt64 v hv
    exact ⟨s, hf, v, hp, rfl⟩
  · exact law.rt32 v hv

/-! ### 0. Cell-level facts about the regenerated tables -/

/-- `ToFloat64(json.Number)` is `ToFloat64(string(·))`, which is `strconv.ParseFloat(text, 64)` (`32`, then
    `float32(·)`, for float32). -/
theorem castTo_float_carrier (ext : Ext) (T : FT) {x : Dyn} {lit : Bytes} (hx : IsCarrier x lit) :
    castTo genTables ext T.ty x = parsedAs ext T lit := by
  rcases hx with rfl | rfl
  · exact castTo_float_num ext T lit
  · exact castTo_float_str ext T lit

/-! #### The cell steps for a float column -/

def FloatFmt (f : Format) : Prop := f = .numeric ∨ f = .string ∨ f = .auto

theorem floatFmt_visible {f : Format} (hf : FloatFmt f) : f ≠ .hidden := by
  rcases hf with rfl | rfl | rfl <;> decide

/-- `Import` of a number literal (or of the string of its text) for each answer of `strconv.ParseFloat`: no
    answer — the model abstains; an error — the cell is emptied and the error is the line's
    (`ErrUnsupportedImport` wrapping it, the cast error itself under Auto). -/
def importSpec (ext : Ext) (T : FT) (f : Format) (lit : Bytes) : Outcome (Val × Option ErrClass) :=
  match ext.parseFloat lit T.bits with
  | none => .err .ext
  | some none => .ok (.cell .nil f T.ty, some (rejClass f))
  | some (some r) => .ok (.cell (T.dyn (T.narrow r)) f T.ty, none)

theorem FloatFmt.intFmt {f : Format} (hf : FloatFmt f) : LineInts.IntFmt f := by
  rcases hf with h | h | h
  · exact .inl h
  · exact .inr (.inl h)
  · exact .inr (.inr (.inr h))

theorem import_float (ext : Ext) {f : Format} (hf : FloatFmt f) (T : FT) {x : Dyn} {lit : Bytes}
    (hx : IsCarrier x lit) :
    importCell ⟨genTables, ext⟩ f T.ty x = importSpec ext T f lit := by
  rw [LineInts.importCell_carrier _ hf.intFmt (by cases T <;> simp [FT.ty]) hx, castTo_float_carrier ext T hx]
  unfold parsedAs importSpec
  cases ext.parseFloat lit T.bits with
  | none => rfl
  | some o => cases o <;> rfl

theorem newValue_float (ext : Ext) (f : Format) (T : FT) (v : Nat) :
    newValue ⟨genTables, ext⟩ (T.dyn v) f T.ty = .ok (.cell (T.dyn v) f T.ty) :=
  newValue_keeps ext f (.inr (.inr (typeOf_dyn T v)))

/-- json.Marshal of a json.Number: `0` for the empty one, the literal when it is a valid number, an
    error otherwise (`JsonPrint.numText` is the text alone, without the validity test). -/
def numberText (s : Bytes) : Outcome Bytes :=
  if s.isEmpty then .ok [0x30] else if isValidNumber s then .ok s else .err .marshal

/-- json.Marshal of the Go float itself. -/
def jsonText (ext : Ext) (T : FT) (v : Nat) : Outcome Bytes :=
  match ext.jsonFloat v T.bits with
  | some (some s) => .ok s
  | some none => .err .marshal
  | none => .err .ext

/-- `MarshalJSON` of the cell: numeric — `ToNumber`, the json.Number of
    `strconv.FormatFloat(float64(v), 'f', -1, bits)`, which json.Marshal validates; string — `ToString`, the
    same rendering between quotes; auto — json.Marshal of the Go float. -/
def marshalSpec (ext : Ext) (T : FT) (v : Nat) (f : Format) : Outcome Bytes :=
  match f with
  | .numeric =>
    (match ext.fmtFloat (T.widen v) T.bits with
     | some s => numberText s
     | none => .err .ext)
  | .string =>
    (match ext.fmtFloat (T.widen v) T.bits with
     | some s => .ok (quote s)
     | none => .err .ext)
  | _ => jsonText ext T v

theorem marshal_float (ext : Ext) {f : Format} (hf : FloatFmt f) (T : FT) (v : Nat) (ty : Ty) :
    RowPrint.marshalVal ⟨genTables, ext⟩ (.cell (T.dyn v) f ty) = marshalSpec ext T v f := by
  rcases hf with rfl | rfl | rfl
  · rw [marshalVal_cell_eq, CasterFacts.exportVal_single (name := "ToNumber") rfl (dyn_ne_nil T v),
      toNumber_float]
    simp only [marshalSpec]
    cases ext.fmtFloat (T.widen v) T.bits <;> simp [exportFail, marshalExported_num, numberText]
  · rw [marshalVal_cell_eq, CasterFacts.exportVal_single (name := "ToString") rfl (dyn_ne_nil T v),
      toString_float]
    simp only [marshalSpec]
    cases ext.fmtFloat (T.widen v) T.bits <;> simp [exportFail, marshalExported_str]
  · rw [marshalVal_cell_ok (exportVal_auto _ _ _), marshalExported_self]
    cases T <;> simp only [FT.dyn, marshalSpec, jsonText, FT.bits] <;>
      (rw [RowPrint.marshalDyn.eq_def]; rfl)

/-! ### 1. One float column `k` on both sides: the line for every answer of `ext`

  The input line's only member is `k`, carrying the text `lit` as a number literal or as a string
  (`IsCarrierJV`). -/

/-- The outcome of the line as a function of the answers of `ext`: `strconv.ParseFloat(lit, bits of T)` not
    supplied — the model abstains; an error (syntax, or out of range: `1e400` at 64 bits, `1e39` at 32) —
    REJECTED by the importer; a value `r` — the column holds `T(r)`, and what `marshalSpec` makes of it is
    written, or its error is the line's. -/
def lineSpec (ext : Ext) (T : FT) (k : Bytes) (fi fo : Format) (lit : Bytes) :
    Outcome (Bytes × Option ErrClass) :=
  match ext.parseFloat lit T.bits with
  | none => .err .ext
  | some none => .ok ([], some (rejClass fi))
  | some (some r) =>
    match marshalSpec ext T (T.narrow r) fo with
    | .ok txt => .ok (objText k txt ++ [0x0A], none)
    | .err .ext => .err .ext
    | .err e => .ok ([], some e)
    | .panic s => .panic s

theorem float_line (ext : Ext) (k : Bytes) {fi fo : Format} (hfi : FloatFmt fi) (hfo : FloatFmt fo)
    (T : FT) (lit : Bytes) (line : Bytes) (jv : JV)
    (hline : Json.unmarshal line = (.cons k jv .nil, true)) (hjv : IsCarrierJV jv lit) :
    jlLine ⟨genTables, ext⟩ (withCol [] k fi T.ty) (withCol [] k fo T.ty) line =
      lineSpec ext T k fi fo lit := by
  obtain ⟨x, hx, hc⟩ := LineInts.ofJV_carrier ⟨genTables, ext⟩ hjv
  rw [LineLevel.jlLine_one _ k (gen_newValue_nil ext fi _) (gen_newValue_nil ext fo _) (floatFmt_visible hfo)
    hline hx, import_float ext hfi T hc]
  unfold importSpec lineSpec
  split
  · rfl
  · rfl
  · simp only [Outcome.bind_ok, Cells.raw, newValue_float, marshal_float ext hfo]
    rfl

theorem float_line_unanswered (ext : Ext) (k : Bytes) {fi fo : Format} (hfi : FloatFmt fi)
    (hfo : FloatFmt fo) (T : FT) (lit : Bytes) (line : Bytes) (jv : JV)
    (hline : Json.unmarshal line = (.cons k jv .nil, true)) (hjv : IsCarrierJV jv lit)
    (hp : ext.parseFloat lit T.bits = none) :
    jlLine ⟨genTables, ext⟩ (withCol [] k fi T.ty) (withCol [] k fo T.ty) line = .err .ext := by
  rw [float_line ext k hfi hfo T lit line jv hline hjv]
  simp only [lineSpec, hp]

theorem getRow_float (ext : Ext) (k : Bytes) {fi : Format} (hfi : FloatFmt fi) (T : FT)
    (lit : Bytes) (r : Nat) (line : Bytes) (jv : JV)
    (hline : Json.unmarshal line = (.cons k jv .nil, true)) (hjv : IsCarrierJV jv lit)
    (hp : ext.parseFloat lit T.bits = some (some r)) :
    getRow ⟨genTables, ext⟩ (withCol [] k fi T.ty) line =
      .ok ([(k, .cell (T.dyn (T.narrow r)) fi T.ty)], none) := by
  obtain ⟨x, hx, hc⟩ := LineInts.ofJV_carrier ⟨genTables, ext⟩ hjv
  refine (LineLevel.getRow_one _ k (gen_newValue_nil ext fi _) hline hx).trans ?_
  rw [import_float ext hfi T hc, importSpec, hp]
  rfl

/-! #### What `MarshalJSON` gives, answer by answer -/

theorem marshalSpec_numeric (ext : Ext) (T : FT) (v : Nat) (out : Bytes)
    (hf : ext.fmtFloat (T.widen v) T.bits = some out) (hnum : isValidNumber out = true) :
    marshalSpec ext T v .numeric = .ok out := by
  have hne : out.isEmpty = false := by
    cases out with
    | nil => simp [isValidNumber] at hnum
    | cons _ _ => rfl
  simp [marshalSpec, hf, numberText, hne, hnum]

theorem marshalSpec_numeric_invalid (ext : Ext) (T : FT) (v : Nat) (s : Bytes)
    (hf : ext.fmtFloat (T.widen v) T.bits = some s) (hne : s ≠ [])
    (hnum : isValidNumber s = false) :
    marshalSpec ext T v .numeric = .err .marshal := by
  have hne' : s.isEmpty = false := by
    cases s with
    | nil => exact absurd rfl hne
    | cons _ _ => rfl
  simp [marshalSpec, hf, numberText, hne', hnum]

theorem marshalSpec_auto_refused (ext : Ext) (T : FT) (v : Nat)
    (hj : ext.jsonFloat v T.bits = some none) :
    marshalSpec ext T v .auto = .err .marshal := by
  simp [marshalSpec, jsonText, hj]

/-! ### 1, continued: numeric(T) on both sides, the input member the number literal `lit` -/

/-- First pass: the member written is the number literal `out`, the json.Number of the shortest rendering
    (`ToNumber`). -/
theorem numeric_line (ext : Ext) (k : Bytes) (T : FT) (lit out : Bytes) (r : Nat) (line : Bytes)
    (hline : Json.unmarshal line = (.cons k (.num lit) .nil, true))
    (hp : ext.parseFloat lit T.bits = some (some r))
    (hf : ext.fmtFloat (T.widen (T.narrow r)) T.bits = some out)
    (hnum : isValidNumber out = true) :
    jlLine ⟨genTables, ext⟩ (withCol [] k .numeric T.ty) (withCol [] k .numeric T.ty) line =
      .ok (objText k out ++ [0x0A], none) :=
  by rw [float_line ext k (.inl rfl) (.inl rfl) T lit line _ hline (.inl rfl)]
     simp only [lineSpec, hp, marshalSpec_numeric ext T _ out hf hnum]

/-- `numeric_line` in the reader's words. -/
theorem numeric_line_accepted (ext : Ext) (k : Bytes) (hk : sanitize k = k) (T : FT)
    (lit out : Bytes) (r : Nat) (line : Bytes)
    (hline : Json.unmarshal line = (.cons k (.num lit) .nil, true))
    (hp : ext.parseFloat lit T.bits = some (some r))
    (hf : ext.fmtFloat (T.widen (T.narrow r)) T.bits = some out)
    (hnum : isValidNumber out = true) :
    AcceptedWith (jlLine ⟨genTables, ext⟩ (withCol [] k .numeric T.ty)
      (withCol [] k .numeric T.ty) line) k (.num out) :=
  LineInts.acceptedWith_of_written (numeric_line ext k T lit out r line hline hp hf hnum)
    (by rw [LineLevel.unmarshal_objText (JsonPrint.readsAs_number hnum), hk])

/-- Second pass: `txt`, written for `v`, is fed back to the same templates.  If `ParseFloat` of what the
    reader delivers for it narrows to `v`, the column holds `v` again, bit for bit, and the same bytes are
    written. -/
theorem float_line_second_pass (ext : Ext) (k : Bytes) (hk : sanitize k = k) {f : Format}
    (hf : FloatFmt f) (T : FT) (v : Nat) (txt lit' : Bytes) (m : JV) (r' : Nat)
    (hm : marshalSpec ext T v f = .ok txt)
    (hread : JsonPrint.ReadsAs txt m) (hcar : IsCarrierJV m lit')
    (hback : ext.parseFloat lit' T.bits = some (some r')) (hsame : T.narrow r' = v) :
    getRow ⟨genTables, ext⟩ (withCol [] k f T.ty) (objText k txt) =
      .ok ([(k, .cell (T.dyn v) f T.ty)], none) ∧
    jlLine ⟨genTables, ext⟩ (withCol [] k f T.ty) (withCol [] k f T.ty) (objText k txt) =
      .ok (objText k txt ++ [0x0A], none) := by
  have hline : Json.unmarshal (objText k txt) = (.cons k m .nil, true) := by
    rw [LineLevel.unmarshal_objText hread, hk]
  subst hsame
  refine ⟨getRow_float ext k hf T lit' r' _ m hline hcar hback, ?_⟩
  rw [float_line ext k hf hf T lit' _ m hline hcar]
  simp only [lineSpec, hback, hm]

/-- The shortest rendering of a FINITE value is a JSON number (strconv's verb `'f'`: an optional
    sign, digits, an optional fraction — no exponent, no `NaN` / `Inf`).  Like `FloatLaw`, a fact about
    strconv that enters as a hypothesis; `JsonPrint.FloatTextOK` is the like assumption on json.Marshal's
    spelling (`ext.jsonFloat`). -/
def FmtNumberOK (ext : Ext) : Prop :=
  ∀ (T : FT) (v : Nat) (s : Bytes), Float.isFinite T.fmt v = true →
    ext.fmtFloat (T.widen v) T.bits = some s → isValidNumber s = true

/-- Both passes under `FloatLaw` and `FmtNumberOK`, `T(r)` FINITE: `{"k":out}` + newline is written; fed
    back, that line holds the SAME bit pattern in the column and is written back byte for byte. -/
theorem numeric_line_fixed_point_law (ext : Ext) (law : FloatLaw ext) (hnumOK : FmtNumberOK ext)
    (k : Bytes) (hk : sanitize k = k) (T : FT) (lit : Bytes) (r : Nat) (line : Bytes)
    (hline : Json.unmarshal line = (.cons k (.num lit) .nil, true))
    (hp : ext.parseFloat lit T.bits = some (some r))
    (hfin : Float.isFinite T.fmt (T.narrow r) = true) :
    ∃ out, ext.fmtFloat (T.widen (T.narrow r)) T.bits = some out ∧ isValidNumber out = true ∧
      getRow ⟨genTables, ext⟩ (withCol [] k .numeric T.ty) line =
        .ok ([(k, .cell (T.dyn (T.narrow r)) .numeric T.ty)], none) ∧
      jlLine ⟨genTables, ext⟩ (withCol [] k .numeric T.ty) (withCol [] k .numeric T.ty) line =
        .ok (objText k out ++ [0x0A], none) ∧
      getRow ⟨genTables, ext⟩ (withCol [] k .numeric T.ty) (objText k out) =
        .ok ([(k, .cell (T.dyn (T.narrow r)) .numeric T.ty)], none) ∧
      jlLine ⟨genTables, ext⟩ (withCol [] k .numeric T.ty) (withCol [] k .numeric T.ty)
        (objText k out) = .ok (objText k out ++ [0x0A], none) := by
  obtain ⟨out, hf, r', hback, hsame⟩ := law.rt T _ hfin
  have hnum := hnumOK T _ out hfin hf
  obtain ⟨h1, h2⟩ := float_line_second_pass ext k hk (f := .numeric) (.inl rfl) T (T.narrow r) out out
    (.num out) r' (marshalSpec_numeric ext T _ out hf hnum) (JsonPrint.readsAs_number hnum) (.inl rfl)
    hback hsame
  exact ⟨out, hf, hnum, getRow_float ext k (.inl rfl) T lit r line _ hline (.inl rfl) hp,
    numeric_line ext k T lit out r line hline hp hf hnum, h1, h2⟩

/-- `numeric_line_fixed_point_law` spelled out for float64. -/
theorem numeric_float64_fixed_point (ext : Ext) (law : FloatLaw ext) (hnumOK : FmtNumberOK ext)
    (k : Bytes) (hk : sanitize k = k) (lit : Bytes) (v : Nat) (line : Bytes)
    (hline : Json.unmarshal line = (.cons k (.num lit) .nil, true))
    (hp : ext.parseFloat lit 64 = some (some v))
    (hfin : Float.isFinite Float.f64 v = true) :
    ∃ out, ext.fmtFloat v 64 = some out ∧ isValidNumber out = true ∧
      getRow ⟨genTables, ext⟩ (withCol [] k .numeric .f64) line =
        .ok ([(k, .cell (.f64 v) .numeric .f64)], none) ∧
      jlLine ⟨genTables, ext⟩ (withCol [] k .numeric .f64) (withCol [] k .numeric .f64) line =
        .ok (objText k out ++ [0x0A], none) ∧
      getRow ⟨genTables, ext⟩ (withCol [] k .numeric .f64) (objText k out) =
        .ok ([(k, .cell (.f64 v) .numeric .f64)], none) ∧
      jlLine ⟨genTables, ext⟩ (withCol [] k .numeric .f64) (withCol [] k .numeric .f64)
        (objText k out) = .ok (objText k out ++ [0x0A], none) :=
  numeric_line_fixed_point_law ext law hnumOK k hk .f64 lit v line hline hp hfin

/-- …and for float32: the caster narrows the float64 result `r` of `strconv.ParseFloat(lit, 32)`,
    `v = float32(r)`, and asks for `strconv.FormatFloat(float64(v), 'f', -1, 32)`. -/
theorem numeric_float32_fixed_point (ext : Ext) (law : FloatLaw ext) (hnumOK : FmtNumberOK ext)
    (k : Bytes) (hk : sanitize k = k) (lit : Bytes) (r : Nat) (line : Bytes)
    (hline : Json.unmarshal line = (.cons k (.num lit) .nil, true))
    (hp : ext.parseFloat lit 32 = some (some r))
    (hfin : Float.isFinite Float.f32 (Float.f64to32 r) = true) :
    ∃ out, ext.fmtFloat (Float.f32to64 (Float.f64to32 r)) 32 = some out ∧
      isValidNumber out = true ∧
      getRow ⟨genTables, ext⟩ (withCol [] k .numeric .f32) line =
        .ok ([(k, .cell (.f32 (Float.f64to32 r)) .numeric .f32)], none) ∧
      jlLine ⟨genTables, ext⟩ (withCol [] k .numeric .f32) (withCol [] k .numeric .f32) line =
        .ok (objText k out ++ [0x0A], none) ∧
      getRow ⟨genTables, ext⟩ (withCol [] k .numeric .f32) (objText k out) =
        .ok ([(k, .cell (.f32 (Float.f64to32 r)) .numeric .f32)], none) ∧
      jlLine ⟨genTables, ext⟩ (withCol [] k .numeric .f32) (withCol [] k .numeric .f32)
        (objText k out) = .ok (objText k out ++ [0x0A], none) :=
  numeric_line_fixed_point_law ext law hnumOK k hk .f32 lit r line hline hp hfin

/-! ### 2. string(T) and auto(T) -/

/-- string(T), second pass.  `hs`: the reader delivers the string `sanitize out`, `out` itself when it is
    ASCII, as every rendering of strconv is. -/
theorem string_line_fixed_point (ext : Ext) (k : Bytes) (hk : sanitize k = k) (T : FT)
    (out : Bytes) (v r' : Nat)
    (hf : ext.fmtFloat (T.widen v) T.bits = some out) (hs : sanitize out = out)
    (hback : ext.parseFloat out T.bits = some (some r')) (hsame : T.narrow r' = v) :
    getRow ⟨genTables, ext⟩ (withCol [] k .string T.ty) (objText k (quote out)) =
      .ok ([(k, .cell (T.dyn v) .string T.ty)], none) ∧
    jlLine ⟨genTables, ext⟩ (withCol [] k .string T.ty) (withCol [] k .string T.ty)
      (objText k (quote out)) = .ok (objText k (quote out) ++ [0x0A], none) := by
  have hread := JsonPrint.readsAs_quote out
  rw [hs] at hread
  exact float_line_second_pass ext k hk (f := .string) (.inr (.inl rfl)) T v _ out (.str out) r'
    (by simp [marshalSpec, hf]) hread (.inr rfl) hback hsame

/-- auto(T), second pass.  `hback` is a law about encoding/json's spelling, NOT contained in `FloatLaw`,
    which speaks of `FormatFloat(…,'f',-1,…)`. -/
theorem auto_line_second_pass (ext : Ext) (hx : FloatTextOK ext) (k : Bytes) (hk : sanitize k = k)
    (T : FT) (s : Bytes) (v r' : Nat)
    (hj : ext.jsonFloat v T.bits = some (some s))
    (hback : ext.parseFloat s T.bits = some (some r')) (hsame : T.narrow r' = v) :
    getRow ⟨genTables, ext⟩ (withCol [] k .auto T.ty) (objText k s) =
      .ok ([(k, .cell (T.dyn v) .auto T.ty)], none) ∧
    jlLine ⟨genTables, ext⟩ (withCol [] k .auto T.ty) (withCol [] k .auto T.ty) (objText k s) =
      .ok (objText k s ++ [0x0A], none) :=
  float_line_second_pass ext k hk (f := .auto) (.inr (.inr rfl)) T v s s (.num s) r'
    (by simp [marshalSpec, jsonText, hj]) (JsonPrint.readsAs_number (hx _ _ _ hj)) (.inl rfl) hback hsame

/-! ### 3. Non-finite values never reach a line under numeric(T) / auto(T)

  `ToNumber` has NO test of finiteness: it returns the json.Number of whatever `strconv.FormatFloat`
  renders (`NaN`, `+Inf`, `-Inf`), and it is json.Marshal that refuses, the json.Number not being a valid
  number literal.  Under auto(T) json.Marshal refuses the Go float itself (`UnsupportedValueError`): the
  answer `some none` of `ext.jsonFloat`.  Both are `ErrClass.marshal` for the line.  Under string(T)
  nothing refuses: the line IS written, with the member `"NaN"` / `"+Inf"` / `"-Inf"`.

  A non-finite value gets into a column through a STRING member: no JSON number literal denotes one
  (`1e400` is a range ERROR of ParseFloat), but `"NaN"`, `"Inf"`, `"-inf"`, `"infinity"` … are accepted by
  `strconv.ParseFloat` without error. -/

/-- `NaN` -/
def nanText : Bytes := [0x4E, 0x61, 0x4E]
/-- `+Inf` -/
def pInfText : Bytes := [0x2B, 0x49, 0x6E, 0x66]
/-- `-Inf` -/
def mInfText : Bytes := [0x2D, 0x49, 0x6E, 0x66]

/-- What the standard library answers for the NON-FINITE values, whenever `ext` supplies an answer.  The
    model has no way to check this part of `Ext` — `Float.isFinite` is used by none of the definitions a
    line runs through (only by the domains of the specifications): the refusal of a non-finite value is
    entirely in these answers. -/
structure NonFiniteLaw (ext : Ext) : Prop where
  fmt : ∀ (T : FT) (v : Nat) (s : Bytes), Float.isFinite T.fmt v = false →
    ext.fmtFloat (T.widen v) T.bits = some s → s = nanText ∨ s = pInfText ∨ s = mInfText
  json : ∀ (T : FT) (v : Nat) (o : Option Bytes), Float.isFinite T.fmt v = false →
    ext.jsonFloat v T.bits = some o → o = none

theorem nonFinite_text {s : Bytes} (h : s = nanText ∨ s = pInfText ∨ s = mInfText) :
    s ≠ [] ∧ isValidNumber s = false := by
  rcases h with rfl | rfl | rfl <;> exact ⟨by decide, by decide⟩

/-- `hans`: `ext` answers the question the exporter asks (`FormatFloat`, resp. json.Marshal); by `nf` the
    answer is the library's. -/
theorem nonfinite_line_rejected (ext : Ext) (nf : NonFiniteLaw ext) (k : Bytes) {fi fo : Format}
    (hfi : FloatFmt fi) (hfo : fo = .numeric ∨ fo = .auto) (T : FT) (lit : Bytes) (r : Nat)
    (line : Bytes) (jv : JV)
    (hline : Json.unmarshal line = (.cons k jv .nil, true)) (hjv : IsCarrierJV jv lit)
    (hp : ext.parseFloat lit T.bits = some (some r))
    (hinf : Float.isFinite T.fmt (T.narrow r) = false)
    (hans : (fo = .numeric → ∃ s, ext.fmtFloat (T.widen (T.narrow r)) T.bits = some s) ∧
      (fo = .auto → ∃ o, ext.jsonFloat (T.narrow r) T.bits = some o)) :
    jlLine ⟨genTables, ext⟩ (withCol [] k fi T.ty) (withCol [] k fo T.ty) line =
      .ok ([], some .marshal) := by
  rcases hfo with rfl | rfl
  · obtain ⟨s, hs⟩ := hans.1 rfl
    obtain ⟨hne, hnum⟩ := nonFinite_text (nf.fmt T _ s hinf hs)
    rw [float_line ext k hfi (.inl rfl) T lit line jv hline hjv]
    simp only [lineSpec, hp, marshalSpec_numeric_invalid ext T _ s hs hne hnum]
  · obtain ⟨o, ho⟩ := hans.2 rfl
    have := nf.json T _ o hinf ho
    subst this
    rw [float_line ext k hfi (.inr (.inr rfl)) T lit line jv hline hjv]
    simp only [lineSpec, hp, marshalSpec_auto_refused ext T _ ho]

/-- Non-finiteness plays no part (`_hinf` is not used): string(T) writes whatever `FormatFloat` renders. -/
theorem nonfinite_string_written (ext : Ext) (k : Bytes) {fi : Format} (hfi : FloatFmt fi) (T : FT)
    (lit s : Bytes) (r : Nat) (line : Bytes) (jv : JV)
    (hline : Json.unmarshal line = (.cons k jv .nil, true)) (hjv : IsCarrierJV jv lit)
    (hp : ext.parseFloat lit T.bits = some (some r))
    (_hinf : Float.isFinite T.fmt (T.narrow r) = false)
    (hf : ext.fmtFloat (T.widen (T.narrow r)) T.bits = some s) :
    jlLine ⟨genTables, ext⟩ (withCol [] k fi T.ty) (withCol [] k .string T.ty) line =
      .ok (objText k (quote s) ++ [0x0A], none) :=
  by rw [float_line ext k hfi (.inr (.inl rfl)) T lit line jv hline hjv]
     simp only [lineSpec, hp, marshalSpec, hf]

/-! ### 4. Rejection without wrap -/

/-- Under auto(T) the cast error itself is the line's (numeric(T): `C12.out_of_range_literal_rejected`). -/
theorem auto_line_out_of_range (ext : Ext) (k : Bytes) (T : FT) (lit : Bytes) (line : Bytes)
    (hline : Json.unmarshal line = (.cons k (.num lit) .nil, true))
    (hp : ext.parseFloat lit T.bits = some none) :
    jlLine ⟨genTables, ext⟩ (withCol [] k .auto T.ty) (withCol [] k .auto T.ty) line =
      .ok ([], some .cast) :=
  by rw [float_line ext k (.inr (.inr rfl)) (.inr (.inr rfl)) T lit line _ hline (.inl rfl)]
     simp only [lineSpec, hp, rejClass]; rfl

/-! ### 5. Templates with any number of columns

  Over `LineLevel.followed`.  That the line was ACCEPTED already says which answers `ext` gave for the
  column: they are part of the conclusion, not hypotheses. -/

theorem imported_float (ext : Ext) {f : Format} (hf : FloatFmt f) (T : FT) {jv : JV} {lit : Bytes}
    (hjv : IsCarrierJV jv lit) {c : Val} (h : LineLevel.Imported ⟨genTables, ext⟩ f T.ty jv c) :
    ∃ r, ext.parseFloat lit T.bits = some (some r) ∧ c = .cell (T.dyn (T.narrow r)) f T.ty := by
  obtain ⟨x, hx, hi⟩ := h
  obtain ⟨x', hx', hc⟩ := LineInts.ofJV_carrier ⟨genTables, ext⟩ hjv
  cases hx.symm.trans hx'
  rw [import_float ext hf T hc] at hi
  unfold importSpec at hi
  split at hi
  · cases hi
  · simp at hi
  · rename_i r hp
    simp only [Outcome.ok.injEq, Prod.mk.injEq, and_true] at hi
    exact ⟨r, hp, hi.symm⟩

theorem way_float (ext : Ext) {fi : Format} (hfi : FloatFmt fi) (fo : Format) (T : FT) {jv : JV}
    {lit : Bytes} (hjv : IsCarrierJV jv lit) {c' : Val}
    (h : LineLevel.Way ⟨genTables, ext⟩ fi T.ty fo T.ty jv c') :
    ∃ r, ext.parseFloat lit T.bits = some (some r) ∧ c' = .cell (T.dyn (T.narrow r)) fo T.ty := by
  obtain ⟨c, hc, hn⟩ := h
  obtain ⟨r, hp, rfl⟩ := imported_float ext hfi T hjv hc
  rw [Cells.raw, newValue_float] at hn
  exact ⟨r, hp, (Outcome.ok.inj hn).symm⟩

/-- What the reader finds under a float column of format `fo` holding the value `v`, and the answers of
    `ext` it comes from.  numeric: `0` for an empty rendering (`numText`); string: after the reader's
    `sanitize`, the identity on ASCII. -/
def Emitted (ext : Ext) (T : FT) (v : Nat) (fo : Format) (m : JV) : Prop :=
  (fo = .numeric ∧ ∃ out, ext.fmtFloat (T.widen v) T.bits = some out ∧
    (out = [] ∨ isValidNumber out = true) ∧ m = .num (numText out)) ∨
  (fo = .string ∧ ∃ out, ext.fmtFloat (T.widen v) T.bits = some out ∧ m = .str (sanitize out)) ∨
  (fo = .auto ∧ ∃ s, ext.jsonFloat v T.bits = some (some s) ∧ m = .num s)

theorem numberText_ok {s b : Bytes} (h : numberText s = .ok b) :
    (s = [] ∨ isValidNumber s = true) ∧ b = numText s := by
  unfold numberText at h
  unfold numText
  split at h
  · rename_i he
    cases s with
    | nil => cases h; exact ⟨.inl rfl, rfl⟩
    | cons _ _ => simp at he
  · rename_i he
    split at h
    · rename_i hv
      cases h
      exact ⟨.inr hv, by rw [if_neg he]⟩
    · cases h

theorem emitted_of_text (ext : Ext) (hx : FloatTextOK ext) {f : Format} (hf : FloatFmt f) (T : FT)
    (v : Nat) (bs : Bytes) (hm : marshalSpec ext T v f = .ok bs) :
    ∃ m, JsonPrint.ReadsAs bs m ∧ Emitted ext T v f m := by
  rcases hf with rfl | rfl | rfl
  · simp only [marshalSpec] at hm
    split at hm
    · rename_i s hs
      obtain ⟨hv, rfl⟩ := numberText_ok hm
      refine ⟨_, JsonPrint.readsAs_number ?_, .inl ⟨rfl, s, hs, hv, rfl⟩⟩
      rcases hv with rfl | hv
      · decide
      · cases s with
        | nil => decide
        | cons _ _ => exact hv
    · cases hm
  · simp only [marshalSpec] at hm
    split at hm
    · rename_i s hs
      cases hm
      exact ⟨_, JsonPrint.readsAs_quote s, .inr (.inl ⟨rfl, s, hs, rfl⟩)⟩
    · cases hm
  · simp only [marshalSpec, jsonText] at hm
    split at hm
    · rename_i s hs
      cases hm
      exact ⟨_, JsonPrint.readsAs_number (hx _ _ _ hs), .inr (.inr ⟨rfl, bs, hs, rfl⟩)⟩
    · cases hm
    · cases hm

/-- `LineLevel.followed` on float columns, whatever the other columns and members are.  The input member is
    the last of that name, as the oracle reads the input (`LineSpec.normDup`); the separation hypothesis is
    that of `LineInts.emitted_line_ints_pointwise`; `FloatTextOK` is there for the Auto columns (this one
    included: json.Marshal's spelling has to be read back as a number). -/
theorem emitted_line_floats_pointwise (ext : Ext) (ti to : Tmpl) (line b : Bytes)
    (h : jlLine ⟨genTables, ext⟩ ti to line = .ok (b, none)) (hx : FloatTextOK ext)
    (hti : (OMap.keys ti).Nodup) (hto : (OMap.keys to).Nodup) :
    ∃ body tree, b = body ++ [0x0A] ∧ Json.unmarshal body = (tree, true) ∧
      ∀ k ci co (T : FT) lit jv, OMap.lookup ti k = some ci → OMap.lookup to k = some co →
        FloatFmt (Cells.format ci) → Cells.rawType ci = T.ty →
        FloatFmt (Cells.format co) → Cells.rawType co = T.ty →
        (∀ k' ∈ OMap.keys to ++ OMap.keys ti ++ Order.inputKeys line,
          sanitize k' = sanitize k → k' = k) →
        LineSpec.lookupJV (LineSpec.normDup (Json.unmarshal line).1) k = some jv →
        IsCarrierJV jv lit →
        ∃ r, ext.parseFloat lit T.bits = some (some r) ∧
          ∃ m, LineSpec.lookupJV tree (sanitize k) = some m ∧
            Emitted ext T (T.narrow r) (Cells.format co) m := by
  obtain ⟨body, tree, hb, hu, hall⟩ := LineLevel.followed ⟨genTables, ext⟩ ti to line b h hx hti hto
  refine ⟨body, tree, hb, hu, ?_⟩
  intro k ci co T lit jv hci hco hfi htyi hfo htyo hsep hlast hjv
  obtain ⟨c', hw, hout⟩ := hall k ci co jv hci hco hsep hlast hjv.scalar
  rw [htyi, htyo] at hw
  obtain ⟨r, hp, rfl⟩ := way_float ext hfi _ T hjv hw
  obtain ⟨txt, hm, hread⟩ := hout (floatFmt_visible hfo)
  rw [marshal_float ext hfo T _ _] at hm
  obtain ⟨m, hr, hem⟩ := emitted_of_text ext hx hfo T _ txt hm
  exact ⟨r, hp, m, hread m hr, hem⟩

/-- numeric(T) columns with the per-column answers given: the member is the number literal `out`. -/
theorem emitted_line_floats_numeric (ext : Ext) (ti to : Tmpl) (line b : Bytes)
    (h : jlLine ⟨genTables, ext⟩ ti to line = .ok (b, none)) (hx : FloatTextOK ext)
    (hti : (OMap.keys ti).Nodup) (hto : (OMap.keys to).Nodup) :
    ∃ body tree, b = body ++ [0x0A] ∧ Json.unmarshal body = (tree, true) ∧
      ∀ k ci co (T : FT) lit r out, OMap.lookup ti k = some ci → OMap.lookup to k = some co →
        Cells.format ci = .numeric → Cells.rawType ci = T.ty →
        Cells.format co = .numeric → Cells.rawType co = T.ty →
        (∀ k' ∈ OMap.keys to ++ OMap.keys ti ++ Order.inputKeys line,
          sanitize k' = sanitize k → k' = k) →
        LineSpec.lookupJV (LineSpec.normDup (Json.unmarshal line).1) k = some (.num lit) →
        ext.parseFloat lit T.bits = some (some r) →
        ext.fmtFloat (T.widen (T.narrow r)) T.bits = some out → out ≠ [] →
        isValidNumber out = true ∧ LineSpec.lookupJV tree (sanitize k) = some (.num out) := by
  obtain ⟨body, tree, hb, hu, hall⟩ := emitted_line_floats_pointwise ext ti to line b h hx hti hto
  refine ⟨body, tree, hb, hu, ?_⟩
  intro k ci co T lit r out hci hco hfi htyi hfo htyo hsep hlast hp hf hne
  obtain ⟨r', hp', m, hm, hem⟩ := hall k ci co T lit _ hci hco (.inl hfi) htyi (.inl hfo) htyo hsep
    hlast (.inl rfl)
  rw [hp] at hp'
  cases hp'
  rw [hfo] at hem
  rcases hem with ⟨_, out', hf', hv, rfl⟩ | ⟨h', _⟩ | ⟨h', _⟩
  · rw [hf] at hf'
    cases hf'
    rcases hv with hv | hv
    · exact absurd hv hne
    · refine ⟨hv, ?_⟩
      rw [hm]
      have : numText out = out := by
        cases out with
        | nil => exact absurd rfl hne
        | cons _ _ => rfl
      rw [this]
  · cases h'
  · cases h'

/-- Rejection without wrap for several columns: an error answer of `strconv.ParseFloat` (out of range, or
    not a number) for ONE float column of the importer, and the line is NOT accepted, whatever the other
    columns, the other members and the exporter's template are. -/
theorem unparsed_not_accepted (ext : Ext) (ti to : Tmpl) (line : Bytes)
    (hti : (OMap.keys ti).Nodup) (k : Bytes) (ci : Val) (hci : OMap.lookup ti k = some ci)
    (hf : FloatFmt (Cells.format ci)) (T : FT) (hty : Cells.rawType ci = T.ty)
    (jv : JV) (lit : Bytes) (hjv : IsCarrierJV jv lit)
    (hlast : LineSpec.lookupJV (LineSpec.normDup (Json.unmarshal line).1) k = some jv)
    (hp : ext.parseFloat lit T.bits = some none) (b : Bytes) :
    jlLine ⟨genTables, ext⟩ ti to line ≠ .ok (b, none) := by
  intro h
  obtain ⟨c, hc⟩ := LineLevel.accepted_imported _ ti to line b h hti hci hlast hjv.scalar
  rw [hty] at hc
  obtain ⟨r0, hp', _⟩ := imported_float ext hf T hjv hc
  rw [hp] at hp'
  cases hp'

/-! ### 6. Concrete lines, computed end to end over `genTables` and an `Ext` that answers

  One column `x`.  `Demo.ext` answers as the Go standard library does for the few questions asked: 1.5 at
  64 and at 32 bits (`ParseFloat("1.5", 32)` returns the float64 1.5, `float32(·)` of which is 0x3FC00000);
  the range errors of `1e400` (64) and `1e39` (32); `ParseFloat("NaN", 64)`, the NaN 0x7FF8000000000001,
  rendered `NaN` and refused by json.Marshal. -/
namespace Demo
open RowPrint JsonWrite

/-- `1.5` -/
def lit15 : Bytes := [0x31, 0x2E, 0x35]
/-- `1e400` -/
def lit1e400 : Bytes := [0x31, 0x65, 0x34, 0x30, 0x30]
/-- `1e39` -/
def lit1e39 : Bytes := [0x31, 0x65, 0x33, 0x39]
/-- float64 1.5 -/
def bits15 : Nat := 0x3FF8000000000000
/-- float32 1.5 -/
def bits15f : Nat := 0x3FC00000
/-- the float64 NaN of `math.NaN()` -/
def bitsNaN : Nat := 0x7FF8000000000001

def ext : Ext where
  fmtFloat b sz :=
    if b = bits15 ∧ (sz = 64 ∨ sz = 32) then some lit15
    else if b = bitsNaN ∧ sz = 64 then some nanText
    else none
  parseFloat s sz :=
    if s = lit15 ∧ (sz = 64 ∨ sz = 32) then some (some bits15)
    else if s = lit1e400 ∧ sz = 64 then some none
    else if s = lit1e39 ∧ sz = 32 then some none
    else if s = nanText ∧ sz = 64 then some (some bitsNaN)
    else none
  zoneOffset _ := none
  jsonFloat b sz :=
    if b = bits15 ∧ sz = 64 then some (some lit15)
    else if b = bits15f ∧ sz = 32 then some (some lit15)
    else if b = bitsNaN ∧ sz = 64 then some none
    else none

def env : Env := ⟨genTables, ext⟩

def tmpl : Tmpl := withCol [] [0x78] .numeric .f64
def tmpl32 : Tmpl := withCol [] [0x78] .numeric .f32
def tmplAuto : Tmpl := withCol [] [0x78] .auto .f64
def tmplStr : Tmpl := withCol [] [0x78] .string .f64

theorem sanitize_x : sanitize [0x78] = [0x78] := by decide +kernel

/-- `{"x":1.5}` -/
def line15 : Bytes := [0x7B, 0x22, 0x78, 0x22, 0x3A, 0x31, 0x2E, 0x35, 0x7D]
/-- `{"x":1e400}` -/
def line1e400 : Bytes := [0x7B, 0x22, 0x78, 0x22, 0x3A, 0x31, 0x65, 0x34, 0x30, 0x30, 0x7D]
/-- `{"x":1e39}` -/
def line1e39 : Bytes := [0x7B, 0x22, 0x78, 0x22, 0x3A, 0x31, 0x65, 0x33, 0x39, 0x7D]
/-- `{"x":"NaN"}` -/
def lineNaN : Bytes := [0x7B, 0x22, 0x78, 0x22, 0x3A, 0x22, 0x4E, 0x61, 0x4E, 0x22, 0x7D]

theorem unmarshal_line15 : Json.unmarshal line15 = (.cons [0x78] (.num lit15) .nil, true) := by
  decide +kernel

theorem unmarshal_lineNaN : Json.unmarshal lineNaN = (.cons [0x78] (.str nanText) .nil, true) := by
  decide +kernel

theorem float64_15 : jlLine env tmpl tmpl line15 = .ok (line15 ++ [0x0A], none) :=
  (float_line ext [0x78] (.inl rfl) (.inl rfl) .f64 lit15 line15 _ unmarshal_line15 (.inl rfl)).trans (by decide +kernel)

theorem float64_15_held :
    getRow env tmpl line15 = .ok ([([0x78], .cell (.f64 0x3FF8000000000000) .numeric .f64)], none) :=
  getRow_float ext [0x78] (fi := .numeric) (.inl rfl) .f64 lit15 bits15 line15 _ unmarshal_line15
    (.inl rfl) (by decide +kernel)

/-- Both passes: the emitted line is the input line here, `1.5` being its own shortest rendering. -/
example :
    getRow env tmpl line15 = .ok ([([0x78], .cell (.f64 bits15) .numeric .f64)], none) ∧
    jlLine env tmpl tmpl line15 = .ok (line15 ++ [0x0A], none) ∧
    getRow env tmpl line15 = .ok ([([0x78], .cell (.f64 bits15) .numeric .f64)], none) ∧
    jlLine env tmpl tmpl line15 = .ok (line15 ++ [0x0A], none) :=
  ⟨float64_15_held, float64_15, float64_15_held, float64_15⟩

example : ∃ tree, Json.unmarshal line15 = (tree, true) ∧
    LineSpec.lookupJV tree [0x78] = some (.num [0x31, 0x2E, 0x35]) :=
  ⟨_, unmarshal_line15, LineLevel.lookupJV_single _ _⟩

/-- Nothing is written: not `+Inf`, not MaxFloat64. -/
theorem float64_1e400 : jlLine env tmpl tmpl line1e400 = .ok ([], some .unsupportedImport) :=
  (float_line ext [0x78] (.inl rfl) (.inl rfl) .f64 lit1e400 line1e400 _ (by decide +kernel) (.inl rfl)).trans (by decide +kernel)

theorem float32_1e39 : jlLine env tmpl32 tmpl32 line1e39 = .ok ([], some .unsupportedImport) :=
  (float_line ext [0x78] (.inl rfl) (.inl rfl) .f32 lit1e39 line1e39 _ (by decide +kernel) (.inl rfl)).trans (by decide +kernel)

theorem auto64_15 : jlLine env tmplAuto tmplAuto line15 = .ok (line15 ++ [0x0A], none) :=
  (float_line ext [0x78] (.inr (.inr rfl)) (.inr (.inr rfl)) .f64 lit15 line15 _ unmarshal_line15 (.inl rfl)).trans (by decide +kernel)

theorem float64_NaN : jlLine env tmpl tmpl lineNaN = .ok ([], some .marshal) :=
  (float_line ext [0x78] (.inl rfl) (.inl rfl) .f64 nanText lineNaN _ unmarshal_lineNaN (.inr rfl)).trans (by decide +kernel)

theorem auto64_NaN : jlLine env tmplAuto tmplAuto lineNaN = .ok ([], some .marshal) :=
  (float_line ext [0x78] (.inr (.inr rfl)) (.inr (.inr rfl)) .f64 nanText lineNaN _ unmarshal_lineNaN (.inr rfl)).trans (by decide +kernel)

theorem string64_NaN : jlLine env tmplStr tmplStr lineNaN = .ok (lineNaN ++ [0x0A], none) :=
  (float_line ext [0x78] (.inr (.inl rfl)) (.inr (.inl rfl)) .f64 nanText lineNaN _ unmarshal_lineNaN (.inr rfl)).trans (by decide +kernel)

/-- The bits are what they are said to be. -/
example : Float.isFinite Float.f64 bits15 = true ∧ Float.isFinite Float.f64 bitsNaN = false ∧
    Float.f64to32 bits15 = bits15f ∧ Float.f32to64 bits15f = bits15 := by
  decide

theorem float32_15 : jlLine env tmpl32 tmpl32 line15 = .ok (line15 ++ [0x0A], none) :=
  (float_line ext [0x78] (.inl rfl) (.inl rfl) .f32 lit15 line15 _ unmarshal_line15 (.inl rfl)).trans (by decide +kernel)

theorem float32_15_held :
    getRow env tmpl32 line15 = .ok ([([0x78], .cell (.f32 0x3FC00000) .numeric .f32)], none) := by
  have h := getRow_float ext [0x78] (fi := .numeric) (.inl rfl) .f32 lit15 bits15 line15 _
    unmarshal_line15 (.inl rfl) (by decide +kernel)
  rwa [show FT.f32.narrow bits15 = 0x3FC00000 by decide +kernel] at h

/-! #### Section 5 is not vacuous: two columns, a string one beside the numeric(float64) one

  `ti = to =` columns `s` (string) and `x` (numeric, float64); the emitted member under `x` is the literal
  `1.5`. -/

def ti2 : Tmpl := withCol (withCol [] [0x73] .string .none) [0x78] .numeric .f64

/-- `{"s":"a","x":1.5}` -/
def line2 : Bytes :=
  [0x7B, 0x22, 0x73, 0x22, 0x3A, 0x22, 0x61, 0x22, 0x2C, 0x22, 0x78, 0x22, 0x3A, 0x31, 0x2E, 0x35, 0x7D]

theorem ti2_eq :
    ti2 = [([0x73], .cell .nil .string .none), ([0x78], .cell .nil .numeric .f64)] := rfl

theorem inputKeys_line2 : Order.inputKeys line2 = [[0x73], [0x78]] := by decide +kernel

/-- the row `GetRow` delivers, which is also the row `CreateRow` makes of it -/
def imported2 : List (Bytes × Val) :=
  [([0x73], .cell (.str [0x61]) .string .none), ([0x78], .cell (.f64 bits15) .numeric .f64)]

theorem import_s : importCell env .string .none (.str [0x61]) =
    .ok (.cell (.str [0x61]) .string .none, none) :=
  CasterFacts.importCell_untyped rfl (CasterFacts.toString_str _ _) trivial

theorem steps2 : getRow env ti2 line2 = .ok (imported2, none) ∧
    createRow env ti2 (.val (.row (Members.ofList imported2))) = .ok (imported2, none) := by
  decide +kernel

theorem jlLine_line2 : ∃ body, jlLine env ti2 ti2 line2 = .ok (body ++ [0x0A], none) :=
  ⟨_, Order.jlLine_of_steps steps2.1 steps2.2 (JsonPrint.marshalRow_eq env _
    (JsonPrint.marshalMembers_cons env _ _ _ (by decide +kernel) (LineInts.marshal_string_str _ _ _)
      (JsonPrint.marshalMembers_cons env _ _ _ (by decide +kernel)
        ((marshal_float ext (f := .numeric) (.inl rfl) .f64 bits15 .f64).trans
          (marshalSpec_numeric ext .f64 bits15 lit15 (by decide +kernel) (by decide +kernel)))
        (JsonPrint.marshalMembers_nil env))))⟩

theorem floatOK : FloatTextOK env.ext := by
  intro b sz s h
  simp only [env, ext] at h
  split at h
  · cases h; decide
  · split at h
    · cases h; decide
    · split at h <;> cases h

example : ∃ body tree, jlLine env ti2 ti2 line2 = .ok (body ++ [0x0A], none) ∧
    Json.unmarshal body = (tree, true) ∧
    LineSpec.lookupJV tree [0x78] = some (.num [0x31, 0x2E, 0x35]) := by
  obtain ⟨body0, hj⟩ := jlLine_line2
  obtain ⟨body, tree, hb, hu, hall⟩ :=
    emitted_line_floats_numeric ext ti2 ti2 line2 _ hj floatOK (by decide +kernel) (by decide +kernel)
  cases List.append_cancel_right hb
  have := hall [0x78] (.cell .nil .numeric .f64) (.cell .nil .numeric .f64) .f64 lit15 bits15 lit15
    (by decide +kernel) (by decide +kernel) rfl rfl rfl rfl (by decide +kernel) (by decide +kernel)
    (by decide +kernel) (by decide +kernel) (by decide +kernel)
  rw [sanitize_x] at this
  exact ⟨_, tree, hj, hu, this.2⟩

/-- `{"s":"a","x":1e400}`, not accepted under the same templates -/
def line2' : Bytes :=
  [0x7B, 0x22, 0x73, 0x22, 0x3A, 0x22, 0x61, 0x22, 0x2C, 0x22, 0x78, 0x22, 0x3A, 0x31, 0x65, 0x34,
   0x30, 0x30, 0x7D]

theorem unmarshal_line2' : Json.unmarshal line2' =
    (.cons [0x73] (.str [0x61]) (.cons [0x78] (.num lit1e400) .nil), true) := by
  decide +kernel

example (b : Bytes) : jlLine env ti2 ti2 line2' ≠ .ok (b, none) :=
  unparsed_not_accepted ext ti2 ti2 line2' (by decide +kernel) [0x78]
    (.cell .nil .numeric .f64) (by decide +kernel) (.inl rfl) .f64 rfl
    (.num lit1e400) lit1e400 (.inl rfl) (by decide +kernel) (by decide +kernel) b

end Demo

end Jl.LineFloats
