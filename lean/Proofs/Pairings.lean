/-
  Proofs.Pairings — C13 / C05 at cell level for the pairings beside those of Proofs/RowCells; Props/C13.lean
  cites both.

  A pairing theorem is a `CasterFacts.Trip ⟨genTables, ext⟩ f ty v e e' v'` (the theorems Props/C13 restates keep
  the conjunction), where `e'` is what the JSON reader delivers for `e` (C02 `read_of_written`): a string after
  `JsonQuote.sanitize` (the identity on well-formed UTF-8, so on the ASCII texts written here), a json.Number by
  its literal, an int64 as `.num (IntText.formatInt n)`, a bool as itself; and `v' = v`, or the same instant for
  times (`Tables.sameValue`).  Each half is one cell equation of Proofs.CasterFacts applied to what the casters
  involved answer.
-/
import Model.Tables
import Model.Value
import Model.CastGen
import Proofs.CastBin
import Proofs.CasterFacts
import Proofs.Base64
import Proofs.Time
import Proofs.IntText
import Proofs.IntTextJson
import Proofs.JsonQuote
import Proofs.JsonPrint
import Proofs.TimeText

namespace Jl.Pairings
open Jl Jl.Value Cast

open Jl.CasterFacts
open Jl.LineFloats (FT float_text_rt dyn_ne_nil)  -- declared in Proofs/CasterFacts

/-- Names the reader's image `e'` apart from `e` (an int64 read as a json.Number, a string after `sanitize`);
    `fixed_of_pairing_self` is for the pairings where the reader delivers `e` itself. -/
theorem fixed_of_pairing {env : Env} {f : Format} {ty : Ty} {v e e' : Dyn} (h : Trip env f ty v e e' v) :
    ∃ e₀ c₀, exportVal env (.cell v f ty) = .ok e₀ ∧ e₀ = e ∧ importCell env f ty e' = .ok (c₀, none) ∧
      exportVal env c₀ = .ok e₀ :=
  ⟨e, _, h.out, rfl, h.back, h.out⟩

theorem fixed_of_pairing_self {env : Env} {f : Format} {ty : Ty} {v e : Dyn} (h : Trip env f ty v e e v) :
    ∃ e₀ c₀, exportVal env (.cell v f ty) = .ok e₀ ∧ importCell env f ty e₀ = .ok (c₀, none) ∧
      exportVal env c₀ = .ok e₀ :=
  ⟨e, _, h.out, h.back, h.out⟩

theorem import_binary {ext : Ext} {ty : Ty} {b : Bytes} {r : Dyn}
    (h : castTo genTables ext ty (.bytes b) = .ok r) (hty : ty ≠ .none) :
    importCell ⟨genTables, ext⟩ .binary ty (.str (Base64.encode b)) = .ok (.cell r .binary ty, none) :=
  importCell_binary (toString_str ext _) (Base64.decode_encode b) h hty

/-- The thirteen fixed-width types: the ten integer types, float64, float32, bool. -/
theorem binary_fixed (ext : Ext) {v : Dyn} {n : Nat} {img : Bytes} (hn : CastSpec.fixedSize (typeOf v) = some n)
    (himg : CastSpec.leImage v = some img) (hf : FixedVal v) :
    Trip ⟨genTables, ext⟩ .binary (typeOf v) v (.str (Base64.encode img)) (.str (Base64.encode img)) v :=
  ⟨export_binary (encode_leImage ext hn himg) (by rintro rfl; cases hn),
    import_binary (decode_encode ext hn himg hf) (by intro h; rw [h] at hn; cases hn)⟩

/-- The bound `v ≤ MaxInt64` of `toTimestamp_int` (and of `Tables.inDomain .timestamp`) is
    needed: a uint64 above it is not exportable under timestamp. -/
theorem toTimestamp_u64_too_big (ext : Ext) (v : Int)
    (hbig : 9223372036854775807 < v) :
    exportVal ⟨genTables, ext⟩ (.cell (.int .u64 v) .timestamp (.int .u64)) = .err .unsupportedExport := by
  have h : castNamed genTables ext "ToTimestamp" (.int .u64 v) = .err .cast :=
    (toTimestamp_dflt ext _ (by simp [typeOf])).trans (toInt64_u64_too_big ext v hbig)
  exact (exportVal_single (raw := .int .u64 v) rfl nofun).trans (congrArg exportFail h)

/-- Fuel 23: `castTo` starts with 24 and the dispatch spends one (`castTo_tail`). -/
theorem castTo_int (ext : Ext) (t : IntTy) (x : Dyn) :
    castTo genTables ext (.int t) x = callNamed genTables ext 23 (casterOfInt t) x :=
  castTo_tail (CastFuel.dispatch_toCaster rfl) ext x

/-! ### timestamp(INT) and timestamp(none) -/

theorem timestamp_int (ext : Ext) (t : IntTy) (v : Int) (hv : t.inRange v)
    (hmax : v ≤ 9223372036854775807) :
    exportVal ⟨genTables, ext⟩ (.cell (.int t v) .timestamp (.int t)) = .ok (.int .i64 v) ∧
    importCell ⟨genTables, ext⟩ .timestamp (.int t) (.num (IntText.formatInt v)) =
      .ok (.cell (.int t v) .timestamp (.int t), none) :=
  ⟨export_single rfl (toTimestamp_int ext t v hv hmax) nofun,
    importCell_cast rfl rfl ((cast_num_source ext t v).trans (if_pos hv)) trivial⟩

theorem timestamp_none (ext : Ext) (v : Int) (hv : IntTy.i64.inRange v) :
    Trip ⟨genTables, ext⟩ .timestamp .none (.int .i64 v) (.int .i64 v) (.num (IntText.formatInt v)) (.int .i64 v) :=
  ⟨export_single rfl (toTimestamp_int ext .i64 v hv hv.2) nofun,
    importCell_untyped rfl (toInt64_formatInt ext v hv) trivial⟩

theorem timestamp_int_fixed_point (ext : Ext) (t : IntTy) (v : Int) (hv : t.inRange v)
    (hmax : v ≤ 9223372036854775807) :
    ∃ e c, exportVal ⟨genTables, ext⟩ (.cell (.int t v) .timestamp (.int t)) = .ok e ∧
      e = .int .i64 v ∧
      importCell ⟨genTables, ext⟩ .timestamp (.int t) (.num (IntText.formatInt v)) = .ok (c, none) ∧
      exportVal ⟨genTables, ext⟩ c = .ok e :=
  fixed_of_pairing ⟨(timestamp_int ext t v hv hmax).1, (timestamp_int ext t v hv hmax).2⟩

theorem timestamp_none_fixed_point (ext : Ext) (v : Int) (hv : IntTy.i64.inRange v) :
    ∃ e c, exportVal ⟨genTables, ext⟩ (.cell (.int .i64 v) .timestamp .none) = .ok e ∧
      e = .int .i64 v ∧
      importCell ⟨genTables, ext⟩ .timestamp .none (.num (IntText.formatInt v)) = .ok (c, none) ∧
      exportVal ⟨genTables, ext⟩ c = .ok e :=
  fixed_of_pairing (timestamp_none ext v hv)

example : exportVal ⟨genTables, Ext.empty⟩ (.cell (.int .u8 255) .timestamp (.int .u8)) = .ok (.int .i64 255) ∧
    importCell ⟨genTables, Ext.empty⟩ .timestamp (.int .u8) (.num [0x32, 0x35, 0x35]) =
      .ok (.cell (.int .u8 255) .timestamp (.int .u8), none) := by
  have h := timestamp_int Ext.empty .u8 255 (by decide) (by decide)
  rwa [show IntText.formatInt 255 = [0x32, 0x35, 0x35] by decide +kernel] at h

/-! ### strings -/

/-- `hs` is what the JSON transport needs (`sanitize s = s`); the column itself reads every byte string as the
    same string. -/
theorem string_str (ext : Ext) (s : Bytes) (hs : Utf8.valid s = true) :
    Trip ⟨genTables, ext⟩ .string .str (.str s) (.str s) (.str (JsonQuote.sanitize s)) (.str s) ∧
    Trip ⟨genTables, ext⟩ .string .none (.str s) (.str s) (.str (JsonQuote.sanitize s)) (.str s) ∧
    Trip ⟨genTables, ext⟩ .auto .str (.str s) (.str s) (.str (JsonQuote.sanitize s)) (.str s) := by
  rw [JsonQuote.sanitize_valid s hs]
  exact ⟨⟨export_single rfl (toString_str ext s) nofun, importCell_cast rfl rfl (toString_str ext s) trivial⟩,
    ⟨export_single rfl (toString_str ext s) nofun, importCell_untyped rfl (toString_str ext s) trivial⟩,
    ⟨exportVal_auto _ _ _, importCell_auto (castTo_self ext rfl nofun) trivial⟩⟩

theorem string_str_fixed_point (ext : Ext) (s : Bytes) (hs : Utf8.valid s = true) :
    (∃ e c, exportVal ⟨genTables, ext⟩ (.cell (.str s) .string .str) = .ok e ∧ e = .str s ∧
        importCell ⟨genTables, ext⟩ .string .str (.str (JsonQuote.sanitize s)) = .ok (c, none) ∧
        exportVal ⟨genTables, ext⟩ c = .ok e) ∧
    (∃ e c, exportVal ⟨genTables, ext⟩ (.cell (.str s) .string .none) = .ok e ∧ e = .str s ∧
        importCell ⟨genTables, ext⟩ .string .none (.str (JsonQuote.sanitize s)) = .ok (c, none) ∧
        exportVal ⟨genTables, ext⟩ c = .ok e) ∧
    (∃ e c, exportVal ⟨genTables, ext⟩ (.cell (.str s) .auto .str) = .ok e ∧ e = .str s ∧
        importCell ⟨genTables, ext⟩ .auto .str (.str (JsonQuote.sanitize s)) = .ok (c, none) ∧
        exportVal ⟨genTables, ext⟩ c = .ok e) :=
  have h := string_str ext s hs
  ⟨fixed_of_pairing h.1, fixed_of_pairing h.2.1, fixed_of_pairing h.2.2⟩

example : importCell ⟨genTables, Ext.empty⟩ .string .str (.str (JsonQuote.sanitize [0xC3, 0xA9])) =
    .ok (.cell (.str [0xC3, 0xA9]) .string .str, none) :=
  (string_str Ext.empty [0xC3, 0xA9] (by simp [Utf8.valid, Utf8.seqLen, Utf8.isCont])).1.2
example : exportVal ⟨genTables, Ext.empty⟩ (.cell (.str []) .string .str) = .ok (.str []) :=
  (string_str Ext.empty [] (by simp [Utf8.valid])).1.1

/-! ### json.Number -/

theorem string_num (ext : Ext) (l : Bytes) :
    Trip ⟨genTables, ext⟩ .string .num (.num l) (.str l) (.str l) (.num l) :=
  ⟨export_single rfl (toString_num ext l) nofun, importCell_cast rfl rfl (toNumber_str ext l) trivial⟩

theorem numeric_num (ext : Ext) (l : Bytes) (hl : JsonWrite.isValidNumber l = true) :
    Json.scanNumber l = some (l, []) ∧
    Trip ⟨genTables, ext⟩ .numeric .num (.num l) (.num l) (.num l) (.num l) ∧
    Trip ⟨genTables, ext⟩ .numeric .none (.num l) (.num l) (.num l) (.num l) ∧
    Trip ⟨genTables, ext⟩ .auto .num (.num l) (.num l) (.num l) (.num l) :=
  ⟨(IntText.isValidNumber_iff_scanNumber l).mp hl,
    ⟨export_single rfl (toNumber_num ext l) nofun, importCell_typed rfl (castTo_self ext rfl nofun) trivial nofun⟩,
    ⟨export_single rfl (toNumber_num ext l) nofun, importCell_untyped rfl (toNumber_num ext l) trivial⟩,
    ⟨exportVal_auto _ _ _, importCell_auto (castTo_self ext rfl nofun) trivial⟩⟩

theorem numeric_num_fixed_point (ext : Ext) (l : Bytes) (hl : JsonWrite.isValidNumber l = true) :
    (∃ e c, exportVal ⟨genTables, ext⟩ (.cell (.num l) .numeric .num) = .ok e ∧ e = .num l ∧
        importCell ⟨genTables, ext⟩ .numeric .num (.num l) = .ok (c, none) ∧
        exportVal ⟨genTables, ext⟩ c = .ok e) ∧
    (∃ e c, exportVal ⟨genTables, ext⟩ (.cell (.num l) .numeric .none) = .ok e ∧ e = .num l ∧
        importCell ⟨genTables, ext⟩ .numeric .none (.num l) = .ok (c, none) ∧
        exportVal ⟨genTables, ext⟩ c = .ok e) ∧
    (∃ e c, exportVal ⟨genTables, ext⟩ (.cell (.num l) .auto .num) = .ok e ∧ e = .num l ∧
        importCell ⟨genTables, ext⟩ .auto .num (.num l) = .ok (c, none) ∧
        exportVal ⟨genTables, ext⟩ c = .ok e) ∧
    (∃ e c, exportVal ⟨genTables, ext⟩ (.cell (.num l) .string .num) = .ok e ∧ e = .str l ∧
        importCell ⟨genTables, ext⟩ .string .num (.str l) = .ok (c, none) ∧
        exportVal ⟨genTables, ext⟩ c = .ok e) :=
  have h := (numeric_num ext l hl).2
  ⟨fixed_of_pairing h.1, fixed_of_pairing h.2.1, fixed_of_pairing h.2.2, fixed_of_pairing (string_num ext l)⟩

/-! The literal `-1.5e+3`, which no integer or float formatting produces. -/
example : importCell ⟨genTables, Ext.empty⟩ .numeric .num (.num [0x2D, 0x31, 0x2E, 0x35, 0x65, 0x2B, 0x33]) =
    .ok (.cell (.num [0x2D, 0x31, 0x2E, 0x35, 0x65, 0x2B, 0x33]) .numeric .num, none) :=
  (numeric_num Ext.empty _ (by decide)).2.1.2

/-! ### binary -/

theorem binary_bytes (ext : Ext) (b : Bytes) :
    Trip ⟨genTables, ext⟩ .binary .bytes (.bytes b) (.str (Base64.encode b)) (.str (Base64.encode b)) (.bytes b) ∧
    Trip ⟨genTables, ext⟩ .binary .none (.bytes b) (.str (Base64.encode b)) (.str (Base64.encode b)) (.bytes b) :=
  ⟨⟨export_binary (toBinary_bytes ext b) nofun, import_binary (castTo_self ext rfl nofun) nofun⟩,
    ⟨export_binary (toBinary_bytes ext b) nofun,
      importCell_binary_untyped (toString_str ext _) (Base64.decode_encode b)⟩⟩

theorem binary_str (ext : Ext) (s : Bytes) :
    Trip ⟨genTables, ext⟩ .binary .str (.str s) (.str (Base64.encode s)) (.str (Base64.encode s)) (.str s) :=
  ⟨export_binary (toBinary_str ext s) nofun, import_binary ((castTo_cast ext rfl _).trans (toString_bytes ext s)) nofun⟩

theorem binary_fixed_point (ext : Ext) (b : Bytes) :
    (∃ e c, exportVal ⟨genTables, ext⟩ (.cell (.bytes b) .binary .bytes) = .ok e ∧
        importCell ⟨genTables, ext⟩ .binary .bytes e = .ok (c, none) ∧ exportVal ⟨genTables, ext⟩ c = .ok e) ∧
    (∃ e c, exportVal ⟨genTables, ext⟩ (.cell (.bytes b) .binary .none) = .ok e ∧
        importCell ⟨genTables, ext⟩ .binary .none e = .ok (c, none) ∧ exportVal ⟨genTables, ext⟩ c = .ok e) ∧
    (∃ e c, exportVal ⟨genTables, ext⟩ (.cell (.str b) .binary .str) = .ok e ∧
        importCell ⟨genTables, ext⟩ .binary .str e = .ok (c, none) ∧ exportVal ⟨genTables, ext⟩ c = .ok e) :=
  ⟨fixed_of_pairing_self (binary_bytes ext b).1, fixed_of_pairing_self (binary_bytes ext b).2,
    fixed_of_pairing_self (binary_str ext b)⟩

/-! FF 00 is not UTF-8. -/
example : exportVal ⟨genTables, Ext.empty⟩ (.cell (.bytes [0xFF, 0x00]) .binary .bytes) =
      .ok (.str [0x2F, 0x77, 0x41, 0x3D]) ∧
    importCell ⟨genTables, Ext.empty⟩ .binary .bytes (.str [0x2F, 0x77, 0x41, 0x3D]) =
      .ok (.cell (.bytes [0xFF, 0x00]) .binary .bytes, none) := by
  have h := (binary_bytes Ext.empty [0xFF, 0x00]).1.and
  rwa [show Base64.encode [0xFF, 0x00] = [0x2F, 0x77, 0x41, 0x3D] by decide] at h

/-! ### time.Time -/

theorem time_inDomain (f : Format) (ty : Ty) (t : GoTime) (h : Tables.inDomain f ty (.time t) = true) :
    0 ≤ Time.year t ∧ Time.year t ≤ 9999 ∧ t.off % 60 = 0 ∧ -86400 < t.off ∧ t.off < 86400 := by
  simp [Tables.inDomain] at h
  omega

theorem sameValue_time {t u : GoTime} (h : t.sec = u.sec) : Tables.sameValue (.time t) (.time u) = true := by
  simp [Tables.sameValue, h]

open Jl.Time (civilOf_local)

theorem formatRFC3339_nsec (t : GoTime) (n : Nat) :
    Time.formatRFC3339 ⟨t.sec, n, t.off⟩ = Time.formatRFC3339 t := by
  rw [Time.formatRFC3339_eq, Time.formatRFC3339_eq, civilOf_local (s := ⟨t.sec, n, t.off⟩) (t := t) rfl]

theorem year_nsec (t : GoTime) (n : Nat) : Time.year ⟨t.sec, n, t.off⟩ = Time.year t :=
  congrArg Time.Civil.year (civilOf_local rfl)

theorem export_time_text (ext : Ext) (t : GoTime) (n : Nat) (hy0 : 0 ≤ Time.year t) (hy1 : Time.year t ≤ 9999) :
    (∀ ty, exportVal ⟨genTables, ext⟩ (.cell (.time ⟨t.sec, n, t.off⟩) .datetime ty) =
      .ok (.str (Time.formatRFC3339 t))) ∧
    exportVal ⟨genTables, ext⟩ (.cell (.time ⟨t.sec, n, t.off⟩) .string .time) =
      .ok (.str (Time.formatRFC3339 t)) := by
  have hs := toString_time ext ⟨t.sec, n, t.off⟩ (by rw [year_nsec]; exact hy0) (by rw [year_nsec]; exact hy1)
  rw [formatRFC3339_nsec] at hs
  exact ⟨fun _ => export_via rfl (toTime_time ext _) hs nofun, export_single rfl hs nofun⟩

/-- The offset read back is the one written, whatever `ext.zoneOffset` is: the model of ToTime on a string does
    not consult it. -/
theorem datetime_time (ext : Ext) (t : GoTime) (hy0 : 0 ≤ Time.year t) (hy1 : Time.year t ≤ 9999)
    (h60 : t.off % 60 = 0) (hlo : -86400 < t.off) (hhi : t.off < 86400) :
    Trip ⟨genTables, ext⟩ .datetime .time (.time t) (.str (Time.formatRFC3339 t)) (.str (Time.formatRFC3339 t))
      (.time ⟨t.sec, 0, t.off⟩) ∧
    Trip ⟨genTables, ext⟩ .datetime .none (.time t) (.str (Time.formatRFC3339 t)) (.str (Time.formatRFC3339 t))
      (.time ⟨t.sec, 0, t.off⟩) :=
  have hp := Time.C14_parse_format t hy0 hy1 h60 hlo hhi
  have hexp := (export_time_text ext t t.nsec hy0 hy1).1
  ⟨⟨hexp _, importCell_cast rfl rfl (toTime_str ext _ _ hp) trivial⟩,
    ⟨hexp _, importCell_untyped rfl (toTime_str ext _ _ hp) trivial⟩⟩

theorem string_time (ext : Ext) (t : GoTime) (hy0 : 0 ≤ Time.year t) (hy1 : Time.year t ≤ 9999)
    (h60 : t.off % 60 = 0) (hlo : -86400 < t.off) (hhi : t.off < 86400) :
    Trip ⟨genTables, ext⟩ .string .time (.time t) (.str (Time.formatRFC3339 t)) (.str (Time.formatRFC3339 t))
      (.time ⟨t.sec, 0, t.off⟩) :=
  ⟨(export_time_text ext t t.nsec hy0 hy1).2,
    importCell_cast rfl rfl (toTime_str ext _ _ (Time.C14_parse_format t hy0 hy1 h60 hlo hhi)) trivial⟩

theorem datetime_time_exact (ext : Ext) (t : GoTime) (hns : t.nsec = 0)
    (hy0 : 0 ≤ Time.year t) (hy1 : Time.year t ≤ 9999)
    (h60 : t.off % 60 = 0) (hlo : -86400 < t.off) (hhi : t.off < 86400) :
    importCell ⟨genTables, ext⟩ .datetime .time (.str (Time.formatRFC3339 t)) =
       .ok (.cell (.time t) .datetime .time, none) ∧
    importCell ⟨genTables, ext⟩ .datetime .none (.str (Time.formatRFC3339 t)) =
       .ok (.cell (.time t) .datetime .none, none) ∧
    importCell ⟨genTables, ext⟩ .string .time (.str (Time.formatRFC3339 t)) =
       .ok (.cell (.time t) .string .time, none) := by
  obtain ⟨⟨_, a⟩, ⟨_, b⟩⟩ := datetime_time ext t hy0 hy1 h60 hlo hhi
  obtain ⟨_, c⟩ := string_time ext t hy0 hy1 h60 hlo hhi
  have e : (⟨t.sec, 0, t.off⟩ : GoTime) = t := by cases t; simp at hns; simp [hns]
  rw [e] at a b c
  exact ⟨a, b, c⟩

/-- A fixed point although the value read back differs: the dropped nanoseconds are not part of the text. -/
theorem datetime_time_fixed_point (ext : Ext) (t : GoTime) (hy0 : 0 ≤ Time.year t) (hy1 : Time.year t ≤ 9999)
    (h60 : t.off % 60 = 0) (hlo : -86400 < t.off) (hhi : t.off < 86400) :
    (∃ e c, exportVal ⟨genTables, ext⟩ (.cell (.time t) .datetime .time) = .ok e ∧
        importCell ⟨genTables, ext⟩ .datetime .time e = .ok (c, none) ∧ exportVal ⟨genTables, ext⟩ c = .ok e) ∧
    (∃ e c, exportVal ⟨genTables, ext⟩ (.cell (.time t) .datetime .none) = .ok e ∧
        importCell ⟨genTables, ext⟩ .datetime .none e = .ok (c, none) ∧ exportVal ⟨genTables, ext⟩ c = .ok e) ∧
    (∃ e c, exportVal ⟨genTables, ext⟩ (.cell (.time t) .string .time) = .ok e ∧
        importCell ⟨genTables, ext⟩ .string .time e = .ok (c, none) ∧ exportVal ⟨genTables, ext⟩ c = .ok e) := by
  obtain ⟨⟨a1, a2⟩, ⟨b1, b2⟩⟩ := datetime_time ext t hy0 hy1 h60 hlo hhi
  obtain ⟨c1, c2⟩ := string_time ext t hy0 hy1 h60 hlo hhi
  obtain ⟨d3, c3⟩ := export_time_text ext t 0 hy0 hy1
  exact ⟨⟨_, _, a1, a2, d3 _⟩, ⟨_, _, b1, b2, d3 _⟩, ⟨_, _, c1, c2, c3⟩⟩

example : ∃ e, exportVal ⟨genTables, Ext.empty⟩ (.cell (.time ⟨1000000000, 5, 7200⟩) .datetime .time) = .ok (.str e) ∧
    importCell ⟨genTables, Ext.empty⟩ .datetime .time (.str e) =
      .ok (.cell (.time ⟨1000000000, 0, 7200⟩) .datetime .time, none) := by
  obtain ⟨⟨a1, a2⟩, _⟩ := datetime_time Ext.empty ⟨1000000000, 5, 7200⟩ (by decide +kernel) (by decide +kernel)
    (by decide) (by decide) (by decide)
  exact ⟨_, a1, a2⟩

/-- Read back at the offset `ext.zoneOffset` gives for that second (the process zone): the same instant, not the
    same offset in general.  The model answers only inside ±2^62 seconds. -/
theorem numeric_time (ext : Ext) (t : GoTime) (off : Int) (hz : ext.zoneOffset t.sec = some off)
    (hsec : -(2 ^ 62 : Int) < t.sec ∧ t.sec < 2 ^ 62) :
    Trip ⟨genTables, ext⟩ .numeric .time (.time t) (.num (IntText.formatInt t.sec)) (.num (IntText.formatInt t.sec))
      (.time ⟨t.sec, 0, off⟩) ∧
    Trip ⟨genTables, ext⟩ .timestamp .time (.time t) (.int .i64 t.sec) (.num (IntText.formatInt t.sec))
      (.time ⟨t.sec, 0, off⟩) := by
  have hc := (castTo_cast ext (ty := .time) rfl _).trans (toTime_num ext t.sec off hz hsec)
  exact ⟨⟨export_single rfl (toNumber_time ext t) nofun, importCell_typed rfl hc trivial nofun⟩,
    ⟨export_single rfl (toTimestamp_time ext t) nofun, importCell_typed rfl hc trivial nofun⟩⟩

theorem timestamp_time (ext : Ext) (t : GoTime) (off : Int) (hz : ext.zoneOffset t.sec = some off)
    (hsec : -(2 ^ 62 : Int) < t.sec ∧ t.sec < 2 ^ 62) :
    exportVal ⟨genTables, ext⟩ (.cell (.time t) .timestamp .time) = .ok (.int .i64 t.sec) ∧
    importCell ⟨genTables, ext⟩ .timestamp .time (.num (IntText.formatInt t.sec)) =
      .ok (.cell (.time ⟨t.sec, 0, off⟩) .timestamp .time, none) :=
  (numeric_time ext t off hz hsec).2.and

theorem numeric_time_fixed_point (ext : Ext) (t : GoTime) (off : Int) (hz : ext.zoneOffset t.sec = some off)
    (hsec : -(2 ^ 62 : Int) < t.sec ∧ t.sec < 2 ^ 62) :
    (∃ e c, exportVal ⟨genTables, ext⟩ (.cell (.time t) .numeric .time) = .ok e ∧
        e = .num (IntText.formatInt t.sec) ∧
        importCell ⟨genTables, ext⟩ .numeric .time (.num (IntText.formatInt t.sec)) = .ok (c, none) ∧
        exportVal ⟨genTables, ext⟩ c = .ok e) ∧
    (∃ e c, exportVal ⟨genTables, ext⟩ (.cell (.time t) .timestamp .time) = .ok e ∧
        e = .int .i64 t.sec ∧
        importCell ⟨genTables, ext⟩ .timestamp .time (.num (IntText.formatInt t.sec)) = .ok (c, none) ∧
        exportVal ⟨genTables, ext⟩ c = .ok e) := by
  obtain ⟨⟨a1, a2⟩, ⟨b1, b2⟩⟩ := numeric_time ext t off hz hsec
  obtain ⟨⟨a3, _⟩, ⟨b3, _⟩⟩ := numeric_time ext ⟨t.sec, 0, off⟩ off hz hsec
  exact ⟨⟨_, _, a1, rfl, a2, a3⟩, ⟨_, _, b1, rfl, b2, b3⟩⟩

/-! The offset read back is the zone's (3600), not the one the value was written with (-18000). -/
example : importCell ⟨genTables, { Ext.empty with zoneOffset := fun _ => some 3600 }⟩ .numeric .time
      (.num [0x31, 0x30, 0x30, 0x30]) =
    .ok (.cell (.time ⟨1000, 0, 3600⟩) .numeric .time, none) := by
  have h := (numeric_time { Ext.empty with zoneOffset := fun _ => some 3600 } ⟨1000, 7, -18000⟩ 3600 rfl
    (by decide)).1.2
  rwa [show IntText.formatInt 1000 = [0x31, 0x30, 0x30, 0x30] by decide +kernel] at h

/-! ### bool under numeric, binary and timestamp -/

theorem parseBool_formatBool (b : Bool) : IntText.parseBool (IntText.formatBool b) = some b := by
  cases b <;> decide

/-- What the bool pairings under numeric and timestamp need from strconv.ParseFloat (a
    parameter of the model): the texts "1" and "0" parse, to a nonzero and to a zero float64. -/
structure DigitLaw (ext : Ext) : Prop where
  one : ∃ b, ext.parseFloat [0x31] 64 = some (some b) ∧ Float.isZero Float.f64 b = false
  zero : ∃ b, ext.parseFloat [0x30] 64 = some (some b) ∧ Float.isZero Float.f64 b = true

/-- ToBool of the json.Number `1` / `0`: it goes through ToFloat64 and `!= 0`. -/
theorem toBool_digit (ext : Ext) (law : DigitLaw ext) (b : Bool) :
    castNamed genTables ext "ToBool" (.num (if b then [0x31] else [0x30])) = .ok (.bool b) := by
  obtain ⟨b1, hp1, hz1⟩ := law.one
  obtain ⟨b0, hp0, hz0⟩ := law.zero
  cases b
  · exact (toBool_num ext _ b0 hp0).trans (by rw [hz0]; rfl)
  · exact (toBool_num ext _ b1 hp1).trans (by rw [hz1]; rfl)

theorem numeric_bool (ext : Ext) (law : DigitLaw ext) (b : Bool) :
    Trip ⟨genTables, ext⟩ .numeric .bool (.bool b) (.num (if b then [0x31] else [0x30]))
      (.num (if b then [0x31] else [0x30])) (.bool b) ∧
    Trip ⟨genTables, ext⟩ .timestamp .bool (.bool b) (.int .i64 (if b then 1 else 0))
      (.num (IntText.formatInt (if b then 1 else 0))) (.bool b) := by
  have hc : castTo genTables ext .bool (.num (if b then [0x31] else [0x30])) = .ok (.bool b) :=
    (castTo_cast ext rfl _).trans (toBool_digit ext law b)
  refine ⟨⟨export_single rfl (toNumber_bool ext b) nofun, importCell_typed rfl hc trivial nofun⟩,
    ⟨export_single rfl (toTimestamp_bool ext b) nofun, ?_⟩⟩
  rw [show IntText.formatInt (if b then 1 else 0) = (if b then [0x31] else [0x30]) by cases b <;> decide +kernel]
  exact importCell_typed rfl hc trivial nofun

theorem timestamp_bool (ext : Ext) (law : DigitLaw ext) (b : Bool) :
    exportVal ⟨genTables, ext⟩ (.cell (.bool b) .timestamp .bool) = .ok (.int .i64 (if b then 1 else 0)) ∧
    importCell ⟨genTables, ext⟩ .timestamp .bool (.num (IntText.formatInt (if b then 1 else 0))) =
      .ok (.cell (.bool b) .timestamp .bool, none) :=
  (numeric_bool ext law b).2.and

theorem binary_bool (ext : Ext) (b : Bool) :
    Trip ⟨genTables, ext⟩ .binary .bool (.bool b) (.str (Base64.encode [if b then 1 else 0]))
      (.str (Base64.encode [if b then 1 else 0])) (.bool b) :=
  binary_fixed ext (v := .bool b) rfl rfl trivial

theorem bool_fixed_point (ext : Ext) (b : Bool) :
    (DigitLaw ext → ∃ e c, exportVal ⟨genTables, ext⟩ (.cell (.bool b) .numeric .bool) = .ok e ∧
        importCell ⟨genTables, ext⟩ .numeric .bool e = .ok (c, none) ∧ exportVal ⟨genTables, ext⟩ c = .ok e) ∧
    (DigitLaw ext → ∃ e c, exportVal ⟨genTables, ext⟩ (.cell (.bool b) .timestamp .bool) = .ok e ∧
        e = .int .i64 (if b then 1 else 0) ∧
        importCell ⟨genTables, ext⟩ .timestamp .bool (.num (IntText.formatInt (if b then 1 else 0))) = .ok (c, none) ∧
        exportVal ⟨genTables, ext⟩ c = .ok e) ∧
    (∃ e c, exportVal ⟨genTables, ext⟩ (.cell (.bool b) .binary .bool) = .ok e ∧
        importCell ⟨genTables, ext⟩ .binary .bool e = .ok (c, none) ∧ exportVal ⟨genTables, ext⟩ c = .ok e) :=
  ⟨fun law => fixed_of_pairing_self (numeric_bool ext law b).1,
    fun law => fixed_of_pairing (numeric_bool ext law b).2, fixed_of_pairing_self (binary_bool ext b)⟩

/-- `DigitLaw` is satisfiable. -/
def digitExt : Ext :=
  { Ext.empty with
    parseFloat := fun s _ =>
      if s = [0x31] then some (some 0x3FF0000000000000) else if s = [0x30] then some (some 0) else none }

theorem digitExt_law : DigitLaw digitExt :=
  ⟨⟨0x3FF0000000000000, by simp [digitExt], by decide⟩, ⟨0, by simp [digitExt], by decide⟩⟩

example : importCell ⟨genTables, digitExt⟩ .numeric .bool (.num [0x31]) =
    .ok (.cell (.bool true) .numeric .bool, none) :=
  (numeric_bool digitExt digitExt_law true).1.2
example : exportVal ⟨genTables, Ext.empty⟩ (.cell (.bool true) .binary .bool) =
      .ok (.str [0x41, 0x51, 0x3D, 0x3D]) ∧
    importCell ⟨genTables, Ext.empty⟩ .binary .bool (.str [0x41, 0x51, 0x3D, 0x3D]) =
      .ok (.cell (.bool true) .binary .bool, none) := by
  have h := (binary_bool Ext.empty true).and
  rwa [show Base64.encode [if true = true then 1 else 0] = [0x41, 0x51, 0x3D, 0x3D] by decide] at h

/-! ### auto(INT), bool under boolean and auto, binary(json.Number), floats -/

theorem auto_int (ext : Ext) (t : IntTy) (v : Int) (hv : t.inRange v) :
    Trip ⟨genTables, ext⟩ .auto (.int t) (.int t v) (.int t v) (.num (IntText.formatInt v)) (.int t v) :=
  ⟨exportVal_auto _ _ _, importCell_auto ((castTo_cast ext rfl _).trans ((cast_num_source ext t v).trans (if_pos hv))) trivial⟩

theorem boolean_bool (ext : Ext) (b : Bool) :
    Trip ⟨genTables, ext⟩ .boolean .bool (.bool b) (.bool b) (.bool b) (.bool b) :=
  ⟨export_single rfl (toBool_bool ext b) nofun, importCell_typed rfl (castTo_self ext rfl nofun) trivial nofun⟩

theorem auto_bool (ext : Ext) (b : Bool) :
    Trip ⟨genTables, ext⟩ .auto .bool (.bool b) (.bool b) (.bool b) (.bool b) ∧
    Trip ⟨genTables, ext⟩ .boolean .none (.bool b) (.bool b) (.bool b) (.bool b) :=
  ⟨⟨exportVal_auto _ _ _, importCell_auto (castTo_self ext rfl nofun) trivial⟩,
    ⟨export_single rfl (toBool_bool ext b) nofun, importCell_untyped rfl (toBool_bool ext b) trivial⟩⟩

theorem binary_num (ext : Ext) (l : Bytes) :
    Trip ⟨genTables, ext⟩ .binary .num (.num l) (.str (Base64.encode l)) (.str (Base64.encode l)) (.num l) :=
  ⟨export_binary (toBinary_num ext l) nofun, import_binary ((castTo_cast ext rfl _).trans (toNumber_bytes ext l)) nofun⟩

/-- `hf`, `hp`, `hr`: what strconv (a parameter of the model) answers for this value —
    FormatFloat(float64(b), 'f', -1, bits) = s, and ParseFloat(s, bits), narrowed to `T`, is `b` again. -/
theorem text_float (ext : Ext) (T : FT) (b r : Nat) (s : Bytes) (hf : ext.fmtFloat (T.widen b) T.bits = some s)
    (hp : ext.parseFloat s T.bits = some (some r)) (hr : T.narrow r = b) :
    Trip ⟨genTables, ext⟩ .string T.ty (T.dyn b) (.str s) (.str s) (T.dyn b) ∧
    Trip ⟨genTables, ext⟩ .numeric T.ty (T.dyn b) (.num s) (.num s) (T.dyn b) := by
  obtain ⟨a, b', c, d⟩ := float_text_rt ext T hf hp hr
  exact ⟨⟨export_single rfl a (dyn_ne_nil T b), importCell_typed rfl b' trivial T.ty_ne_none⟩,
    ⟨export_single rfl c (dyn_ne_nil T b), importCell_typed rfl d trivial T.ty_ne_none⟩⟩

theorem text_f64 (ext : Ext) (b : Nat) (s : Bytes) (hf : ext.fmtFloat b 64 = some s)
    (hp : ext.parseFloat s 64 = some (some b)) :
    (exportVal ⟨genTables, ext⟩ (.cell (.f64 b) .string .f64) = .ok (.str s) ∧
     importCell ⟨genTables, ext⟩ .string .f64 (.str s) = .ok (.cell (.f64 b) .string .f64, none)) ∧
    (exportVal ⟨genTables, ext⟩ (.cell (.f64 b) .numeric .f64) = .ok (.num s) ∧
     importCell ⟨genTables, ext⟩ .numeric .f64 (.num s) = .ok (.cell (.f64 b) .numeric .f64, none)) :=
  have h := text_float ext .f64 b b s hf hp rfl
  ⟨h.1.and, h.2.and⟩

theorem text_f32 (ext : Ext) (b r : Nat) (s : Bytes) (hf : ext.fmtFloat (Float.f32to64 b) 32 = some s)
    (hp : ext.parseFloat s 32 = some (some r)) (hr : Float.f64to32 r = b) :
    (exportVal ⟨genTables, ext⟩ (.cell (.f32 b) .string .f32) = .ok (.str s) ∧
     importCell ⟨genTables, ext⟩ .string .f32 (.str s) = .ok (.cell (.f32 b) .string .f32, none)) ∧
    (exportVal ⟨genTables, ext⟩ (.cell (.f32 b) .numeric .f32) = .ok (.num s) ∧
     importCell ⟨genTables, ext⟩ .numeric .f32 (.num s) = .ok (.cell (.f32 b) .numeric .f32, none)) :=
  have h := text_float ext .f32 b r s hf hp hr
  ⟨h.1.and, h.2.and⟩

theorem further_fixed_point (ext : Ext) :
    (∀ (t : IntTy) (v : Int), t.inRange v →
      ∃ e c, exportVal ⟨genTables, ext⟩ (.cell (.int t v) .auto (.int t)) = .ok e ∧ e = .int t v ∧
        importCell ⟨genTables, ext⟩ .auto (.int t) (.num (IntText.formatInt v)) = .ok (c, none) ∧
        exportVal ⟨genTables, ext⟩ c = .ok e) ∧
    (∀ b : Bool,
      (∃ e c, exportVal ⟨genTables, ext⟩ (.cell (.bool b) .auto .bool) = .ok e ∧
        importCell ⟨genTables, ext⟩ .auto .bool e = .ok (c, none) ∧ exportVal ⟨genTables, ext⟩ c = .ok e) ∧
      (∃ e c, exportVal ⟨genTables, ext⟩ (.cell (.bool b) .boolean .none) = .ok e ∧
        importCell ⟨genTables, ext⟩ .boolean .none e = .ok (c, none) ∧ exportVal ⟨genTables, ext⟩ c = .ok e)) ∧
    (∀ l : Bytes,
      ∃ e c, exportVal ⟨genTables, ext⟩ (.cell (.num l) .binary .num) = .ok e ∧
        importCell ⟨genTables, ext⟩ .binary .num e = .ok (c, none) ∧ exportVal ⟨genTables, ext⟩ c = .ok e) ∧
    (∀ b, b < 2 ^ 64 →
      ∃ e c, exportVal ⟨genTables, ext⟩ (.cell (.f64 b) .binary .f64) = .ok e ∧
        importCell ⟨genTables, ext⟩ .binary .f64 e = .ok (c, none) ∧ exportVal ⟨genTables, ext⟩ c = .ok e) ∧
    (∀ b, b < 2 ^ 32 →
      ∃ e c, exportVal ⟨genTables, ext⟩ (.cell (.f32 b) .binary .f32) = .ok e ∧
        importCell ⟨genTables, ext⟩ .binary .f32 e = .ok (c, none) ∧ exportVal ⟨genTables, ext⟩ c = .ok e) :=
  ⟨fun t v hv => fixed_of_pairing (auto_int ext t v hv),
    fun b => ⟨fixed_of_pairing_self (auto_bool ext b).1, fixed_of_pairing_self (auto_bool ext b).2⟩,
    fun l => fixed_of_pairing_self (binary_num ext l), fun b hb => fixed_of_pairing_self (binary_fixed ext (v := .f64 b) rfl rfl hb),
    fun b hb => fixed_of_pairing_self (binary_fixed ext (v := .f32 b) rfl rfl hb)⟩

theorem text_float_fixed_point (ext : Ext) :
    (∀ (b : Nat) (s : Bytes), ext.fmtFloat b 64 = some s → ext.parseFloat s 64 = some (some b) →
      (∃ e c, exportVal ⟨genTables, ext⟩ (.cell (.f64 b) .string .f64) = .ok e ∧
        importCell ⟨genTables, ext⟩ .string .f64 e = .ok (c, none) ∧ exportVal ⟨genTables, ext⟩ c = .ok e) ∧
      (∃ e c, exportVal ⟨genTables, ext⟩ (.cell (.f64 b) .numeric .f64) = .ok e ∧
        importCell ⟨genTables, ext⟩ .numeric .f64 e = .ok (c, none) ∧ exportVal ⟨genTables, ext⟩ c = .ok e)) ∧
    (∀ (b r : Nat) (s : Bytes), ext.fmtFloat (Float.f32to64 b) 32 = some s →
      ext.parseFloat s 32 = some (some r) → Float.f64to32 r = b →
      (∃ e c, exportVal ⟨genTables, ext⟩ (.cell (.f32 b) .string .f32) = .ok e ∧
        importCell ⟨genTables, ext⟩ .string .f32 e = .ok (c, none) ∧ exportVal ⟨genTables, ext⟩ c = .ok e) ∧
      (∃ e c, exportVal ⟨genTables, ext⟩ (.cell (.f32 b) .numeric .f32) = .ok e ∧
        importCell ⟨genTables, ext⟩ .numeric .f32 e = .ok (c, none) ∧ exportVal ⟨genTables, ext⟩ c = .ok e)) :=
  ⟨fun b s hf hp =>
      have h := text_float ext .f64 b b s hf hp rfl
      ⟨fixed_of_pairing_self h.1, fixed_of_pairing_self h.2⟩,
    fun b r s hf hp hr =>
      have h := text_float ext .f32 b r s hf hp hr
      ⟨fixed_of_pairing_self h.1, fixed_of_pairing_self h.2⟩⟩

/-! No float holds the literal `1e400`; 7FF8000000000001 is a NaN pattern. -/
example : importCell ⟨genTables, Ext.empty⟩ .auto (.int .i16) (.num [0x2D, 0x33, 0x32, 0x37, 0x36, 0x38]) =
    .ok (.cell (.int .i16 (-32768)) .auto (.int .i16), none) := by
  have h := (auto_int Ext.empty .i16 (-32768) (by decide)).2
  rwa [show IntText.formatInt (-32768) = [0x2D, 0x33, 0x32, 0x37, 0x36, 0x38] by decide +kernel] at h
example : importCell ⟨genTables, Ext.empty⟩ .binary .num (.str (Base64.encode [0x31, 0x65, 0x34, 0x30, 0x30])) =
    .ok (.cell (.num [0x31, 0x65, 0x34, 0x30, 0x30]) .binary .num, none) :=
  (binary_num Ext.empty _).2
example : importCell ⟨genTables, Ext.empty⟩ .binary .f64 (.str (Base64.encode (LE.put 8 0x7FF8000000000001))) =
    .ok (.cell (.f64 0x7FF8000000000001) .binary .f64, none) :=
  (binary_fixed Ext.empty (v := .f64 0x7FF8000000000001) rfl rfl (by show _ < _; decide)).2

/-! ### The texts written by these pairings are ASCII: the JSON reader delivers them unchanged -/

def Ascii (s : Bytes) : Prop := ∀ c ∈ s, c < 0x80

open JsonPrint in
theorem allSafe_formatRFC3339 (t : GoTime) : AllSafe (Time.formatRFC3339 t) :=
  allSafe_append.2 ⟨allSafe_headText _, allSafe_formatZone _⟩

theorem sanitize_formatRFC3339 (t : GoTime) :
    JsonQuote.sanitize (Time.formatRFC3339 t) = Time.formatRFC3339 t :=
  JsonPrint.sanitize_of_ascii _ fun b hb => JsonPrint.htmlSafe_lt (allSafe_formatRFC3339 t b hb)

theorem ascii_validNumber (l : Bytes) (h : JsonWrite.isValidNumber l = true) : Ascii l :=
  JsonLex.validNumber_forall (P := (· < 0x80))
    (fun c hc => JsonPrint.htmlSafe_lt (JsonPrint.isDig_safe ((IntText.isDigit_iff c).1 hc))) (by decide) h

theorem sanitize_validNumber (l : Bytes) (h : JsonWrite.isValidNumber l = true) :
    JsonQuote.sanitize l = l :=
  JsonPrint.sanitize_of_ascii _ (ascii_validNumber l h)

/-- No pairing of this file writes a date text; for Proofs/SelfReadable, LineLevel, LineTime. -/
theorem ascii_dateText {d : Bytes} (h : LineSpec.isDateText d = true) : Ascii d := by
  have digit : ∀ c, LineSpec.isDigit c = true → c < 0x80 := fun c hc =>
    JsonPrint.htmlSafe_lt (JsonPrint.isDig_safe ((IntText.isDigit_iff c).1 hc))
  unfold LineSpec.isDateText at h
  split at h
  · simp only [List.all_cons, List.all_nil, Bool.and_true, Bool.and_eq_true, beq_iff_eq] at h
    obtain ⟨⟨⟨ha, hb, hc, hd, hm1, hm2, hd1, hd2⟩, rfl⟩, rfl⟩ := h
    simp only [Ascii, List.mem_cons, List.not_mem_nil, or_false, forall_eq_or_imp, forall_eq]
    exact ⟨digit _ ha, digit _ hb, digit _ hc, digit _ hd, by decide, digit _ hm1, digit _ hm2, by decide,
      digit _ hd1, digit _ hd2⟩
  · cases h

/-! ### binary(time.Time)

cast.ToTime([]byte) first reads `string(bytes)` as an RFC 3339 text, then as an integer text,
and only then the bytes as a little-endian int64.  The image of a Unix second of the
property's domain (years 0..9999) ends with the byte 00 or FF, so neither text reading
applies and the pairing is lossless as an instant; outside the domain it is not
(`binary_time_digits_misread`). -/

theorem endsBad_put_sec (v : Int) (h0 : -(2 ^ 56 : Int) ≤ v) (h1 : v < 2 ^ 56) :
    IntText.EndsBad (LE.put 8 (LE.toU 64 v)) := by
  refine ⟨LE.put 7 (LE.toU 64 v), _, LE.put_succ_last 7 _, ?_⟩
  have hc : LE.toU 64 v / 256 ^ 7 % 256 = 0 ∨ LE.toU 64 v / 256 ^ 7 % 256 = 255 := by
    unfold LE.toU; omega
  rcases hc with e | e <;> rw [e] <;> decide

theorem binary_time (ext : Ext) (t : GoTime) (off : Int) (hz : ext.zoneOffset t.sec = some off)
    (hsec : -(2 ^ 56 : Int) ≤ t.sec ∧ t.sec < 2 ^ 56) :
    Trip ⟨genTables, ext⟩ .binary .time (.time t) (.str (Base64.encode (LE.put 8 (LE.toU 64 t.sec))))
      (.str (Base64.encode (LE.put 8 (LE.toU 64 t.sec)))) (.time ⟨t.sec, 0, off⟩) := by
  have hl : (LE.put 8 (LE.toU 64 t.sec)).length = 8 := LE.put_length _ _
  have hA := TimeShape.parseRFC3339_len8 _ hl
  have hB := IntText.parseInt0_endsBad _ 64 (endsBad_put_sec t.sec hsec.1 hsec.2) (by rw [hl]; decide)
  have hrt : LE.ofU 64 (LE.get (LE.put 8 (LE.toU 64 t.sec))) = t.sec :=
    LE.signed_roundtrip 8 t.sec (by decide) (by omega) (by omega)
  have hd := (castTo_cast ext (ty := .time) rfl _).trans
    (toTime_bytes_int ext _ hl hA hB off (by rw [hrt]; exact hz) (by rw [hrt]; omega))
  rw [hrt] at hd
  exact ⟨export_binary (toBinary_time ext t) nofun, import_binary hd nofun⟩

theorem binary_time_sameValue (ext : Ext) (t : GoTime) (off : Int) (hz : ext.zoneOffset t.sec = some off)
    (hd : Tables.inDomain .binary .time (.time t) = true) :
    ∃ e c v', exportVal ⟨genTables, ext⟩ (.cell (.time t) .binary .time) = .ok e ∧
      importCell ⟨genTables, ext⟩ .binary .time e = .ok (c, none) ∧ c = .cell v' .binary .time ∧
      Tables.sameValue (.time t) v' = true ∧ exportVal ⟨genTables, ext⟩ c = .ok e := by
  obtain ⟨hy0, hy1, _, hlo, hhi⟩ := time_inDomain .binary .time t hd
  have hr := Time.sec_range_of_year t hy0 hy1 hlo hhi
  have hsec : -(2 ^ 56 : Int) ≤ t.sec ∧ t.sec < 2 ^ 56 := by omega
  obtain ⟨a1, a2⟩ := binary_time ext t off hz hsec
  obtain ⟨a3, _⟩ := binary_time ext ⟨t.sec, 0, off⟩ off hz hsec
  exact ⟨_, _, _, a1, a2, rfl, sameValue_time rfl, a3⟩

/-- Outside the domain binary(time.Time) is NOT lossless in the model (whose `time.bytes` body
    is the one the extractor recognises verbatim in cast.ToTime: text readings first): the
    Unix second 0x3030303030303030 (year ≈ 1.1·10^11) has the image "00000000", which is read
    as the integer text 0. -/
theorem binary_time_digits_misread (ext : Ext) (off : Int) (hz : ext.zoneOffset 0 = some off) :
    exportVal ⟨genTables, ext⟩ (.cell (.time ⟨3472328296227680304, 0, 0⟩) .binary .time) =
      .ok (.str (Base64.encode [0x30, 0x30, 0x30, 0x30, 0x30, 0x30, 0x30, 0x30])) ∧
    importCell ⟨genTables, ext⟩ .binary .time
        (.str (Base64.encode [0x30, 0x30, 0x30, 0x30, 0x30, 0x30, 0x30, 0x30])) =
      .ok (.cell (.time ⟨0, 0, off⟩) .binary .time, none) := by
  have hp : LE.put 8 (LE.toU 64 3472328296227680304) = [0x30, 0x30, 0x30, 0x30, 0x30, 0x30, 0x30, 0x30] := by
    decide
  have hc : castTo genTables ext .time (.bytes [0x30, 0x30, 0x30, 0x30, 0x30, 0x30, 0x30, 0x30]) =
      .ok (.time ⟨0, 0, off⟩) := by
    rw [castTo_cast ext (ty := .time) rfl, toTime_bytes_eq,
      toTime_str_int ext _ 0 off (by decide) (by decide) hz (by decide), orElse_ok]
  exact ⟨hp ▸ export_binary (toBinary_time ext _) nofun, import_binary hc nofun⟩

example : importCell ⟨genTables, { Ext.empty with zoneOffset := fun _ => some 3600 }⟩ .binary .time
      (.str (Base64.encode [0xFF, 0xFF, 0xFF, 0xFF, 0xFF, 0xFF, 0xFF, 0xFF])) =
    .ok (.cell (.time ⟨-1, 0, 3600⟩) .binary .time, none) := by
  have h := (binary_time { Ext.empty with zoneOffset := fun _ => some 3600 } ⟨-1, 0, 0⟩ 3600 rfl
    (by decide)).2
  rwa [show LE.put 8 (LE.toU 64 (-1)) = [0xFF, 0xFF, 0xFF, 0xFF, 0xFF, 0xFF, 0xFF, 0xFF] by decide] at h

end Jl.Pairings
