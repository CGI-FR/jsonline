/-
  Proofs.Base64 — encoding/base64.StdEncoding (Model.Base64): decode ∘ encode = id, the shape of the
  encoder's output, and its canonical form: a CR/LF-free string whose unused trailing bits are zero
  and which decodes to `bs` *is* `encode bs`.
-/
import Model.Base64

namespace Jl.Base64

/-! ### The alphabet -/

def IsAlpha (c : UInt8) : Prop := (decChar c).isSome = true

instance (c : UInt8) : Decidable (IsAlpha c) := by unfold IsAlpha; infer_instance

theorem decChar_encChar : ∀ n, n < 64 → decChar (encChar n) = some n := by decide +kernel

/-- Out of range the encoder's table lookup is modelled by `/` (never reached by `encode`). -/
theorem encChar_ge (n : Nat) (h : 64 ≤ n) : encChar n = 0x2F := by
  have h4 : (n == 62) = false := by simp; omega
  rw [encChar, if_neg (by omega), if_neg (by omega), if_neg (by omega), h4]
  rfl

theorem encChar_alpha (n : Nat) : IsAlpha (encChar n) := by
  unfold IsAlpha
  by_cases h : n < 64
  · rw [decChar_encChar n h]; rfl
  · rw [encChar_ge n (by omega)]; decide

theorem alpha_ne (c : UInt8) (h : IsAlpha c) : c ≠ 0x3D ∧ c ≠ 0x0D ∧ c ≠ 0x0A := by
  refine ⟨?_, ?_, ?_⟩ <;> (intro hc; subst hc; revert h; decide)

theorem encChar_ne_pad (n : Nat) : encChar n ≠ 0x3D := (alpha_ne _ (encChar_alpha n)).1
theorem encChar_ne_cr (n : Nat) : encChar n ≠ 0x0D := (alpha_ne _ (encChar_alpha n)).2.1
theorem encChar_ne_lf (n : Nat) : encChar n ≠ 0x0A := (alpha_ne _ (encChar_alpha n)).2.2

theorem encChar_inj (m n : Nat) (hm : m < 64) (hn : n < 64) (h : encChar m = encChar n) :
    m = n := by
  have := congrArg decChar h
  rw [decChar_encChar m hm, decChar_encChar n hn] at this
  exact Option.some.inj this

private theorem decChar_table : ∀ k, k < 256 →
    (decChar (UInt8.ofNat k)).all (fun n => decide (n < 64) && encChar n == UInt8.ofNat k)
      = true := by
  decide +kernel

theorem decChar_some {c : UInt8} {n : Nat} (h : decChar c = some n) : n < 64 ∧ encChar n = c := by
  have := decChar_table c.toNat (UInt8.toNat_lt c)
  rw [UInt8.ofNat_toNat, h] at this
  simpa using this

theorem encChar_ascii : ∀ n, n < 64 → encChar n < 0x80 := by decide +kernel

theorem alpha_ascii {c : UInt8} (h : IsAlpha c) : c < 0x80 := by
  obtain ⟨n, hn⟩ := Option.isSome_iff_exists.1 h
  obtain ⟨h64, rfl⟩ := decChar_some hn
  exact encChar_ascii n h64

/-! ### One quantum: 24 bits as four base-64 digits and as three base-256 digits

Both codecs pass through the number: the encoder joins three octets and splits into sextets, the
decoder joins four sextets and splits into octets. -/

theorem div_mul_add_mod_div (n k b : Nat) : n / (k * b) * b + n / k % b = n / k := by
  rw [← Nat.div_div_eq_div_mul, Nat.div_add_mod']

theorem join_sextets (n : Nat) :
    ((n / 262144 * 64 + n / 4096 % 64) * 64 + n / 64 % 64) * 64 + n % 64 = n := by
  rw [div_mul_add_mod_div n 4096 64, div_mul_add_mod_div n 64 64, Nat.div_add_mod']

theorem sextets_join {x y z w : Nat} (hy : y < 64) (hz : z < 64) (hw : w < 64) {n : Nat}
    (hn : n = ((x * 64 + y) * 64 + z) * 64 + w) :
    n / 262144 = x ∧ n / 4096 % 64 = y ∧ n / 64 % 64 = z ∧ n % 64 = w := by omega

theorem join_octets (n : Nat) : n / 65536 * 65536 + n / 256 % 256 * 256 + n % 256 = n := by omega

theorem octets_join {a b c : Nat} (hb : b < 256) (hc : c < 256) {n : Nat}
    (hn : n = a * 65536 + b * 256 + c) : n / 65536 = a ∧ n / 256 % 256 = b ∧ n % 256 = c := by omega

/-- A short final quantum is decoded from its two or three sextets alone. -/
theorem div_div64 (n : Nat) :
    n / 64 / 1024 = n / 65536 ∧ n / 64 / 4 = n / 256 ∧ n / 4096 / 16 = n / 65536 :=
  ⟨Nat.div_div_eq_div_mul n 64 1024, Nat.div_div_eq_div_mul n 64 4,
    Nat.div_div_eq_div_mul n 4096 16⟩

theorem toNat_octets {n : Nat} (h : n < 16777216) :
    (UInt8.ofNat (n / 65536)).toNat * 65536 + (UInt8.ofNat (n / 256 % 256)).toNat * 256
      + (UInt8.ofNat (n % 256)).toNat = n := by
  rw [UInt8.toNat_ofNat_of_lt' (Nat.div_lt_of_lt_mul h),
    UInt8.toNat_ofNat_of_lt' (Nat.mod_lt _ (by decide)),
    UInt8.toNat_ofNat_of_lt' (Nat.mod_lt _ (by decide)), join_octets]

/-! ### decode ∘ encode -/

theorem decodeQuanta_encode (bs : Bytes) : decodeQuanta (encode bs) = some bs := by
  induction bs using encode.induct with
  | case1 a b c rest ih =>
    have := a.toNat_lt
    have := b.toNat_lt
    have := c.toNat_lt
    obtain ⟨e1, e2, e3⟩ := octets_join (a := a.toNat) b.toNat_lt c.toNat_lt rfl
    rw [encode, decodeQuanta.eq_4 _ _ _ _ _ (fun _ h _ => encChar_ne_pad _ h)
      (fun h _ => encChar_ne_pad _ h)]
    simp (disch := omega) only [decChar_encChar, ih, Option.bind_eq_bind, Option.bind_some, pure,
      join_sextets, e1, e2, e3, UInt8.ofNat_toNat]
  | case2 a b =>
    have := a.toNat_lt
    have := b.toNat_lt
    obtain ⟨e1, e2, _⟩ := octets_join (a := a.toNat) (c := 0) b.toNat_lt (by decide) (Nat.add_zero _).symm
    rw [encode, decodeQuanta.eq_3 _ _ _ (encChar_ne_pad _)]
    simp (disch := omega) only [decChar_encChar, Option.bind_eq_bind, Option.bind_some, pure,
      div_mul_add_mod_div _ 4096 64, div_mul_add_mod_div _ 64 64, div_div64, e1, e2, UInt8.ofNat_toNat]
  | case3 a =>
    have := a.toNat_lt
    rw [encode, decodeQuanta.eq_2]
    simp (disch := omega) only [decChar_encChar, Option.bind_eq_bind, Option.bind_some, pure,
      div_mul_add_mod_div _ 4096 64, div_div64, Nat.mul_div_cancel _ (show 0 < 65536 by decide), UInt8.ofNat_toNat]
  | case4 => rfl
/-! ### Shape of the encoder's output -/

theorem encode_length (bs : Bytes) : (encode bs).length = 4 * ((bs.length + 2) / 3) := by
  induction bs using encode.induct with
  | case1 a b c rest ih => rw [encode]; simp only [List.length_cons, ih]; omega
  | case2 a b => simp [encode]
  | case3 a => simp [encode]
  | case4 => rfl

theorem encode_shape (bs : Bytes) :
    ∃ body, encode bs = body ++ List.replicate ((3 - bs.length % 3) % 3) 0x3D ∧
      ∀ ch ∈ body, IsAlpha ch := by
  induction bs using encode.induct with
  | case1 a b c rest ih =>
    obtain ⟨body, hb, hall⟩ := ih
    have : (rest.length + 1 + 1 + 1) % 3 = rest.length % 3 := by omega
    rw [encode, hb, List.length_cons, List.length_cons, List.length_cons, this]
    exact ⟨_ :: _ :: _ :: _ :: body, rfl,
      by simpa only [List.forall_mem_cons, encChar_alpha, true_and]⟩
  | case2 a b =>
    exact ⟨[_, _, _], rfl, by simp only [List.forall_mem_cons, encChar_alpha, true_and]; simp⟩
  | case3 a =>
    exact ⟨[_, _], rfl, by simp only [List.forall_mem_cons, encChar_alpha, true_and]; simp⟩
  | case4 => exact ⟨[], rfl, by simp⟩

theorem encode_chars (bs : Bytes) : ∀ ch ∈ encode bs, IsAlpha ch ∨ ch = 0x3D := by
  obtain ⟨body, hb, hall⟩ := encode_shape bs
  intro ch hch
  rw [hb, List.mem_append] at hch
  exact hch.imp (hall ch) List.eq_of_mem_replicate

theorem encode_ascii (bs : Bytes) : ∀ ch ∈ encode bs, ch < 0x80 := fun ch hch =>
  (encode_chars bs ch hch).elim alpha_ascii (fun h => h ▸ by decide)

theorem encode_no_crlf (bs : Bytes) : ∀ ch ∈ encode bs, ch ≠ 0x0D ∧ ch ≠ 0x0A := fun ch hch =>
  (encode_chars bs ch hch).elim (fun h => (alpha_ne ch h).2) (fun h => h ▸ by decide)

theorem encode_pad_last (bs : Bytes) (i : Nat) (h : (encode bs)[i]? = some 0x3D) :
    (encode bs).length ≤ i + 2 := by
  obtain ⟨body, hb, hall⟩ := encode_shape bs
  rw [hb] at h ⊢
  have hk : (3 - bs.length % 3) % 3 ≤ 2 := by omega
  rw [List.length_append, List.length_replicate]
  by_cases hi : i < body.length
  · rw [List.getElem?_append_left hi] at h
    exact absurd rfl (alpha_ne _ (hall _ (List.mem_of_getElem? h))).1
  · omega

theorem filter_crlf {s : Bytes} (h : ∀ ch ∈ s, ch ≠ 0x0D ∧ ch ≠ 0x0A) :
    s.filter (fun c => c != 0x0D && c != 0x0A) = s := by
  rw [List.filter_eq_self]
  intro ch hch
  simp [h ch hch]

theorem decode_encode (bs : Bytes) : decode (encode bs) = some bs := by
  rw [decode, filter_crlf (encode_no_crlf bs), decodeQuanta_encode]

theorem encode_injective (as bs : Bytes) (h : encode as = encode bs) : as = bs := by
  have := decode_encode as
  rw [h, decode_encode] at this
  exact (Option.some.inj this).symm

/-! ### Canonical form -/

/-- The unused trailing bits of the last quantum are zero: 4 bits of the second character
    before `==`, 2 bits of the third character before a single `=`. -/
def TailZero (s : Bytes) : Prop :=
  (∀ p b y, s = p ++ [b, 0x3D, 0x3D] → decChar b = some y → y % 16 = 0) ∧
  (∀ p c z, s = p ++ [c, 0x3D] → decChar c = some z → z % 4 = 0)

/-- `pad1`: one `=` (`m` is three sextets, two octets kept); `pad2`: two `=`.  The right-hand sides have
    the shape of `sextets_join`'s `hn`, with 0 for the missing sextets. -/
theorem pad1_octets {m : Nat} (h : m % 4 = 0) :
    m / 1024 * 65536 + m / 4 % 256 * 256 = m * 64 + 0 := by omega

theorem pad2_octets {m : Nat} (h : m % 16 = 0) : m / 16 * 65536 = (m * 64 + 0) * 64 + 0 := by
  omega

theorem TailZero.of_append {q s : Bytes} (h : TailZero (q ++ s)) : TailZero s :=
  ⟨fun p b y hp => h.1 (q ++ p) b y (by rw [hp, List.append_assoc]),
   fun p c z hp => h.2 (q ++ p) c z (by rw [hp, List.append_assoc])⟩

/-- With the unused bits zero, a short final quantum is the full quantum with zero for the
    missing sextets, so the octets the decoder keeps still carry all of it. -/
theorem encode_decodeQuanta (s bs : Bytes) (h : decodeQuanta s = some bs) (hz : TailZero s) :
    encode bs = s := by
  induction s using decodeQuanta.induct generalizing bs with
  | case1 =>
    rw [decodeQuanta] at h
    cases h; rfl
  | case2 a b =>
    simp only [decodeQuanta.eq_2, Option.bind_eq_bind, Option.bind_eq_some_iff, pure,
      Option.some.injEq] at h
    obtain ⟨x, hx, y, hy, rfl⟩ := h
    have hy0 : y % 16 = 0 := hz.1 [a] b y rfl hy
    obtain ⟨hx64, rfl⟩ := decChar_some hx
    obtain ⟨hy64, rfl⟩ := decChar_some hy
    have hm : x * 64 + y < 16 * 256 := by omega
    obtain ⟨e1, e2, _⟩ := sextets_join hy64 (by decide) (by decide)
      (pad2_octets (m := x * 64 + y) (by omega))
    rw [encode, UInt8.toNat_ofNat_of_lt' (Nat.div_lt_of_lt_mul hm), e1, e2]
  | case3 a b c hc =>
    simp only [decodeQuanta.eq_3 _ _ _ hc, Option.bind_eq_bind, Option.bind_eq_some_iff, pure,
      Option.some.injEq] at h
    obtain ⟨x, hx, y, hy, z, hz', rfl⟩ := h
    have hz0 : z % 4 = 0 := hz.2 [a, b] c z rfl hz'
    obtain ⟨hx64, rfl⟩ := decChar_some hx
    obtain ⟨hy64, rfl⟩ := decChar_some hy
    obtain ⟨hz64, rfl⟩ := decChar_some hz'
    have hm : (x * 64 + y) * 64 + z < 1024 * 256 := by omega
    obtain ⟨e1, e2, e3, _⟩ := sextets_join hy64 hz64 (by decide)
      (pad1_octets (m := (x * 64 + y) * 64 + z) (by omega))
    rw [encode, UInt8.toNat_ofNat_of_lt' (Nat.div_lt_of_lt_mul hm),
      UInt8.toNat_ofNat_of_lt' (Nat.mod_lt _ (by decide)), e1, e2, e3]
  | case4 a b c d rest h1 h2 ih =>
    simp only [decodeQuanta.eq_4 _ _ _ _ _ h1 h2, Option.bind_eq_bind, Option.bind_eq_some_iff,
      pure, Option.some.injEq] at h
    obtain ⟨x, hx, y, hy, z, hz', w, hw, r, hr, rfl⟩ := h
    obtain ⟨hx64, rfl⟩ := decChar_some hx
    obtain ⟨hy64, rfl⟩ := decChar_some hy
    obtain ⟨hz64, rfl⟩ := decChar_some hz'
    obtain ⟨hw64, rfl⟩ := decChar_some hw
    have hn : ((x * 64 + y) * 64 + z) * 64 + w < 16777216 := by omega
    obtain ⟨e1, e2, e3, e4⟩ := sextets_join (x := x) hy64 hz64 hw64 rfl
    rw [encode, ih r hr (TailZero.of_append (q := [_, _, _, _]) hz), toNat_octets hn,
      e1, e2, e3, e4]
  | case5 s h1 h2 h3 h4 =>
    rw [decodeQuanta.eq_5 s h1 h2 h3 h4] at h
    cases h

theorem encode_decode (s bs : Bytes) (h : decode s = some bs)
    (hcrlf : ∀ ch ∈ s, ch ≠ 0x0D ∧ ch ≠ 0x0A) (hz : TailZero s) : encode bs = s := by
  rw [decode, filter_crlf hcrlf] at h
  exact encode_decodeQuanta s bs h hz

theorem encode_decode_filter (s bs : Bytes) (h : decode s = some bs)
    (hz : TailZero (s.filter fun c => c != 0x0D && c != 0x0A)) :
    encode bs = s.filter fun c => c != 0x0D && c != 0x0A :=
  encode_decodeQuanta _ bs h hz

theorem decode_encode_of_decode (s bs : Bytes) (_h : decode s = some bs) :
    decode (encode bs) = some bs := decode_encode bs

/-! ### The encoder's output is canonical -/

/-- A `=`-terminated tail of at most three bytes lies inside `s` when `s` is that long. -/
theorem TailZero.cons {s : Bytes} (c : UInt8) (hs : 3 ≤ s.length) (hz : TailZero s) :
    TailZero (c :: s) := by
  have peel : ∀ {p t : Bytes}, c :: s = p ++ t → t.length ≤ 3 → ∃ p', s = p' ++ t := by
    intro p t h ht
    cases p with
    | nil => rw [List.nil_append] at h; rw [← h, List.length_cons] at ht; omega
    | cons _ p' => exact ⟨p', (List.cons.inj h).2⟩
  exact ⟨fun p b y hp => (peel hp (by simp)).elim fun p' hp' => hz.1 p' b y hp',
    fun p c z hp => (peel hp (by simp)).elim fun p' hp' => hz.2 p' c z hp'⟩

theorem TailZero.append_left (q : Bytes) {s : Bytes} (hs : 3 ≤ s.length) (hz : TailZero s) :
    TailZero (q ++ s) := by
  induction q with
  | nil => exact hz
  | cons c q ih => exact .cons (s := q ++ s) c (by rw [List.length_append]; omega) ih

private theorem tailZero_three (q1 q2 q3 : UInt8)
    (h1 : ∀ y, q2 = 0x3D → q3 = 0x3D → decChar q1 = some y → y % 16 = 0)
    (h2 : ∀ z, q3 = 0x3D → decChar q2 = some z → z % 4 = 0) : TailZero [q1, q2, q3] := by
  constructor
  · intro p b y hp
    match p, hp with
    | [], hp => cases hp; exact h1 y rfl rfl
    | [_], hp => cases hp
    | [_, _], hp => cases hp
    | _ :: _ :: _ :: _, hp => simp at hp
  · intro p c z hp
    match p, hp with
    | [_], hp => cases hp; exact h2 z rfl
    | [], hp => cases hp
    | [_, _], hp => cases hp
    | _ :: _ :: _ :: _, hp => simp at hp

theorem tailZero_encode (bs : Bytes) : TailZero (encode bs) := by
  induction bs using encode.induct with
  | case1 a b c rest ih =>
    rw [encode]
    cases hr : rest with
    | nil =>
      exact .cons _ (by simp [encode]) (tailZero_three _ _ _ (fun _ _ h => absurd h (encChar_ne_pad _))
        (fun _ h => absurd h (encChar_ne_pad _)))
    | cons r0 rest' =>
      have hE : 4 ≤ (encode (r0 :: rest')).length := by rw [encode_length, List.length_cons]; omega
      exact .append_left [_, _, _, _] (by omega) (hr ▸ ih)
  | case2 a b =>
    have hb := UInt8.toNat_lt b
    rw [encode]
    refine .cons _ (by simp) (tailZero_three _ _ _ (fun _ h => absurd h (encChar_ne_pad _)) ?_)
    intro z _ hz
    rw [decChar_encChar _ (Nat.mod_lt _ (by decide))] at hz
    cases hz
    omega
  | case3 a =>
    have ha := UInt8.toNat_lt a
    rw [encode]
    refine .cons _ (by simp) (tailZero_three _ _ _ ?_ (fun z _ hz => by cases hz))
    intro y _ _ hy
    rw [decChar_encChar _ (Nat.mod_lt _ (by decide))] at hy
    cases hy
    omega
  | case4 =>
    constructor
    · intro p b y hp; simp [encode] at hp
    · intro p b y hp; simp [encode] at hp

/-- `decodeQuanta`, unlike `decode`, skips no CR/LF. -/
theorem eq_encode_iff (s bs : Bytes) :
    s = encode bs ↔ decodeQuanta s = some bs ∧ TailZero s := by
  constructor
  · rintro rfl; exact ⟨decodeQuanta_encode bs, tailZero_encode bs⟩
  · rintro ⟨h, hz⟩; exact (encode_decodeQuanta s bs h hz).symm

theorem eq_encode_iff_decode (s bs : Bytes) :
    s = encode bs ↔
      decode s = some bs ∧ (∀ ch ∈ s, ch ≠ 0x0D ∧ ch ≠ 0x0A) ∧ TailZero s := by
  constructor
  · rintro rfl; exact ⟨decode_encode bs, encode_no_crlf bs, tailZero_encode bs⟩
  · rintro ⟨h, hc, hz⟩; exact (encode_decode s bs h hc hz).symm

/-! ### Concrete checks (non-vacuity) -/

/-- "hello" ↦ "aGVsbG8=" -/
example : encode [104, 101, 108, 108, 111] = [97, 71, 86, 115, 98, 71, 56, 61] := by decide
example : decode [97, 71, 86, 115, 98, 71, 56, 61] = some [104, 101, 108, 108, 111] := by decide
/-- CR LF inside the text are skipped. -/
example : decode [97, 71, 86, 115, 13, 10, 98, 71, 56, 61] = some [104, 101, 108, 108, 111] := by
  decide
/-- "aGVsbG9=" has non-zero trailing bits and decodes to "hello" as well (Go's non-strict
    mode): the `TailZero` hypothesis of `encode_decode` cannot be dropped. -/
example : decode [97, 71, 86, 115, 98, 71, 57, 61] = some [104, 101, 108, 108, 111] := by decide
example : ¬ TailZero [97, 71, 86, 115, 98, 71, 57, 61] := by
  intro h
  have := h.2 [97, 71, 86, 115, 98, 71] 57 61 rfl (by decide)
  exact absurd this (by decide)
/-- "" , "f" ↦ "Zg==", "fo" ↦ "Zm8=", "foo" ↦ "Zm9v" (RFC 4648 §10). -/
example : encode [] = [] := by decide
example : encode [102] = [90, 103, 61, 61] := by decide
example : encode [102, 111] = [90, 109, 56, 61] := by decide
example : encode [102, 111, 111] = [90, 109, 57, 118] := by decide
/-- Missing padding and padding in the middle are refused. -/
example : decode [90, 103] = none := by decide
example : decode [90, 103, 61] = none := by decide
example : decode [90, 103, 61, 61, 90, 103, 61, 61] = none := by decide
example : decode [90, 61, 61, 61] = none := by decide

end Jl.Base64
