/-
  Proofs.LineColumn — the way of ONE declared column through `jlLine`, for every environment.  `Way` is the
  relation at cell level; `followed` follows every column declared on both sides through an ACCEPTED line with
  any number of columns.  A property about the cells of one kind of column (times, integers, floats, binary) then
  needs cell-level facts only: what `Way` is for its descriptors and members, what `marshalVal` writes for the
  cell reached, what that text is read as.  (One column on both sides: Proofs.LineKeys §0, `jlLine_col`, whose
  hypotheses `hjv himp hnew` are a `Way`.)
-/
import Proofs.LineKeys
import Proofs.Order
import Proofs.JsonPrint
import Proofs.LineValues
import Proofs.Walk

namespace Jl.LineLevel
open Jl Jl.Value Jl.Template Jl.Cast
open Jl.JsonQuote (sanitize)
open Jl.JsonPrint (treeVal treeMembers FloatTextOK)
open Jl.LineTime (objText)

/-! ### The reader's side of a one-member line -/

theorem lookupJV_single (k : Bytes) (v : JV) : LineSpec.lookupJV (.cons k v .nil) k = some v := by
  rw [lookupJV_cons, if_pos rfl]

/-- The shape in which the theorems about one-column lines conclude (Proofs.LineTime, Proofs.LineInts, C09, C11, C14): the
    line is accepted, and whatever was written is a body and a newline whose body reads as a tree with `P`. -/
theorem read_back {o : Outcome (Bytes × Option ErrClass)} {k txt : Bytes} {v : JV}
    {P : JVMembers → Prop} (hw : o = .ok (objText k txt ++ [0x0A], none))
    (hu : Json.unmarshal (objText k txt) = (.cons k v .nil, true)) (hP : P (.cons k v .nil)) :
    (∃ b, o = .ok (b, none)) ∧
    ∀ b, o = .ok (b, none) → ∃ body tree, b = body ++ [0x0A] ∧ Json.unmarshal body = (tree, true) ∧
      P tree := by
  refine ⟨⟨_, hw⟩, fun b hb => ?_⟩
  rw [hw] at hb
  cases hb
  exact ⟨_, _, rfl, hu, hP⟩


/-! ### `GetRow` followed at one declared column -/

/-- The importer's half of a way: `Import` under `(fi, tyi)` accepted the member `jv` and left the cell `c`. -/
def Imported (env : Env) (fi : Format) (tyi : Ty) (jv : JV) (c : Val) : Prop :=
  ∃ x, ofJV env jv = .ok x ∧ importCell env fi tyi x = .ok (c, none)

theorem cloneRow_desc (env : Env) (t row0 : List (Bytes × Val)) (h : cloneRow env t = .ok row0)
    (hnd : (OMap.keys t).Nodup) (k : Bytes) (c0 : Val) (hk : OMap.lookup t k = some c0) :
    ∃ raw, lookup row0 k = some (.cell raw (Cells.format c0) (Cells.rawType c0)) := by
  obtain ⟨c, hc, hl⟩ := Order.cloneRow_lookup env t row0 h hnd k c0 hk
  obtain ⟨raw, rfl⟩ := Order.newValue_cell hc
  exact ⟨raw, hl⟩

/-- The cell is what `Import` made of the LAST member named `k` (every earlier one is overwritten). -/
theorem getRow_cell (env : Env) (ti : Tmpl) (line : Bytes) (r : List (Bytes × Val))
    (hget : getRow env ti line = .ok (r, none)) (hti : (OMap.keys ti).Nodup)
    (k : Bytes) (ci : Val) (hci : OMap.lookup ti k = some ci) (jv : JV)
    (hlast : walk.lastAt k (Json.unmarshal line).1.toList = some jv) :
    ∃ c, Imported env (Cells.format ci) (Cells.rawType ci) jv c ∧ lookup r k = some c := by
  obtain ⟨row0, l, h0, _, hl, hpm⟩ := Order.getRow_accepted_iff.1 hget
  -- `l` is the members with `ofJV` applied: its last `k` is the value of `jv`
  have hlx := congrArg (walk.lastAt k) (Order.ofJVMembers_map env _ l hl)
  rw [walk.lastAt_map, walk.lastAt_map, hlast] at hlx
  obtain ⟨x, hlx, hx⟩ := Option.map_eq_some_iff.1 hlx.symm
  obtain ⟨_, _, h3⟩ := walk.last_at_key hpm k
    (I := fun p => ∃ raw, p = some (.cell raw (Cells.format ci) (Cells.rawType ci)))
    (F := fun x c => importCell env (Cells.format ci) (Cells.rawType ci) x = .ok (c, none))
    (fun p x c hm hp hc => by
      obtain ⟨raw, rfl⟩ := hp
      obtain ⟨raw', rfl, _⟩ :=
        Order.importCell_raw (ofJVMembers_shape env _ l hl _ hm).not_cell hc
      exact ⟨⟨raw', rfl⟩, hc⟩)
    (cloneRow_desc _ ti row0 h0 hti k ci hci)
  obtain ⟨c, hc, hF⟩ := h3 x hlx
  exact ⟨c, ⟨x, hx.symm, hF⟩, hc⟩

theorem separated_of_same_names {ti to : Tmpl} {line : Bytes}
    (hperm : (OMap.keys ti).Perm (OMap.keys to)) (hutf : ∀ k ∈ OMap.keys to, sanitize k = k)
    (k : Bytes) (hk : k ∈ OMap.keys to) :
    ∀ k' ∈ OMap.keys to ++ OMap.keys ti ++ Order.inputKeys line,
      sanitize k' = sanitize k → k' = k := by
  refine separated_of_fixed (fun k' hk' => ?_) k hk
  rcases List.mem_append.1 hk' with hk' | hk'
  · rcases List.mem_append.1 hk' with hk' | hk'
    · exact hutf k' hk'
    · exact hutf k' (hperm.mem_iff.mp hk')
  · exact LineValues.inputKeys_fixed line k' hk'

/-! ### The way of a column -/

/-- The way of an input member `jv` through a column declared `(fi, tyi)` by the importer and `(fo, tyo)`
    by the exporter, up to the cell `c'` that is printed: the reader's value, `Import`, `NewValue`. -/
def Way (env : Env) (fi : Format) (tyi : Ty) (fo : Format) (tyo : Ty) (jv : JV) (c' : Val) : Prop :=
  ∃ c, Imported env fi tyi jv c ∧ newValue env (Cells.raw c) fo tyo = .ok c'

/-! ### Any number of columns -/

theorem normDupV_scalar {jv : JV} (hs : LineSpec.isContainer jv = false) (v : JV)
    (h : LineSpec.normDupV v = jv) : v = jv := by
  cases v <;> simp only [LineSpec.normDupV] at h <;> first | exact h | (subst h; cases hs)

theorem accepted_reads {env : Env} {ti to : Tmpl} {line b : Bytes}
    (h : jlLine env ti to line = .ok (b, none)) :
    Json.unmarshal line = ((Json.unmarshal line).1, true) := by
  obtain ⟨r, _, _, hget, _⟩ := Order.jlLine_ok _ ti to line b h
  obtain ⟨_, _, _, hacc, _⟩ := Order.getRow_accepted_iff.1 hget
  rw [← hacc]

theorem accepted_imported (env : Env) (ti to : Tmpl) (line b : Bytes)
    (h : jlLine env ti to line = .ok (b, none)) (hti : (OMap.keys ti).Nodup)
    {k : Bytes} {ci : Val} (hci : OMap.lookup ti k = some ci) {jv : JV}
    (hlast : LineSpec.lookupJV (LineSpec.normDup (Json.unmarshal line).1) k = some jv)
    (hs : LineSpec.isContainer jv = false) :
    ∃ c, Imported env (Cells.format ci) (Cells.rawType ci) jv c := by
  obtain ⟨r, _, _, hget, _⟩ := Order.jlLine_ok _ ti to line b h
  obtain ⟨c, hi, _⟩ := getRow_cell _ ti line r hget hti k ci hci _
    (LineValues.lastAt_of_normDup (normDupV_scalar hs) hlast)
  exact ⟨c, hi⟩

/-- **A column followed through an accepted line.**  For EVERY column `k` declared by both templates, no other key
    of the line being written like `k`, whose input member as the oracle reads the input is the scalar `jv`: the
    way of `jv` through the column's two descriptors ends in a cell `c'`; if the column is visible that cell was
    printed, and the member the reader finds under the column's written name is what that text is read as. -/
theorem followed (env : Env) (ti to : Tmpl) (line b : Bytes)
    (h : jlLine env ti to line = .ok (b, none)) (hx : FloatTextOK env.ext)
    (hti : (OMap.keys ti).Nodup) (hto : (OMap.keys to).Nodup) :
    ∃ body tree, b = body ++ [0x0A] ∧ Json.unmarshal body = (tree, true) ∧
      ∀ k ci co jv, OMap.lookup ti k = some ci → OMap.lookup to k = some co →
        (∀ k' ∈ OMap.keys to ++ OMap.keys ti ++ Order.inputKeys line,
          sanitize k' = sanitize k → k' = k) →
        LineSpec.lookupJV (LineSpec.normDup (Json.unmarshal line).1) k = some jv →
        LineSpec.isContainer jv = false →
        ∃ c', Way env (Cells.format ci) (Cells.rawType ci) (Cells.format co) (Cells.rawType co) jv c' ∧
          (Cells.format co ≠ .hidden → ∃ txt, RowPrint.marshalVal env c' = .ok txt ∧
            ∀ m, JsonPrint.ReadsAs txt m → LineSpec.lookupJV tree (sanitize k) = some m) := by
  obtain ⟨r, row', body, hget, hcr, hm, hb, hu⟩ := emitted_text env ti to line b h hx
  refine ⟨body, _, hb, hu, ?_⟩
  intro k ci co jv hci hco hsep hlast hs
  obtain ⟨c, hi, hr⟩ := getRow_cell _ ti line r hget hti k ci hci _
    (LineValues.lastAt_of_normDup (normDupV_scalar hs) hlast)
  -- `CreateRow`: the clone of `to` keeps the descriptor at `k`, and `r`'s cell there is stored through `NewValue`
  obtain ⟨_, row0, h0, h1⟩ := Order.createRow_row_iff.1 hcr
  obtain ⟨raw0, hraw0⟩ := cloneRow_desc env to row0 h0 hto k co hco
  have hnd : ((r.map fun (k, c) => (k, Cells.raw c)).map Prod.fst).Nodup := by
    rw [Order.keys_map_raw]; exact Order.getRow_keys_nodup _ ti line r hget
  obtain ⟨c', hc', hl'⟩ := walk.lookup_of_mem h1 hnd
    (List.mem_map.2 ⟨(k, c), OMap.mem_of_lookup hr, rfl⟩)
  rw [show OMap.lookup row0 k = _ from hraw0] at hc'
  have hnew := (fillStep_some.1 hc').1
  refine ⟨c', ⟨c, hi, hnew⟩, fun hvis => ?_⟩
  have hvis' : Cells.format c' ≠ .hidden := by rwa [(Order.newValue_format _ _ _ _ _ hnew).1]
  have htree := LineValues.lookupJV_tree_of_lookup env k row' c' (fun k' hk' => hsep k'
    (created_keys_origin _ ti to line r row' hget hcr k' (visibleKeys_subset row' k' hk'))) hl' hvis'
  -- the printed row was marshalled, hence this cell was
  obtain ⟨parts, hparts, _⟩ := JsonPrint.marshalRow_shape hm
  obtain ⟨txt, htxt⟩ := marshalMembers_mem _ row' parts hparts k _ (OMap.mem_of_lookup hl') hvis'
  exact ⟨txt, htxt, fun m hm' => by
    rw [htree, (JsonPrint.marshalVal_tree env hx c' txt htxt).unique hm']⟩

/-- `followed` for templates declaring the same distinct, sanitize-fixed names: no separation hypothesis
    is left and the member is found under the column's own name. -/
theorem followed_same_names (env : Env) (ti to : Tmpl) (line b : Bytes)
    (h : jlLine env ti to line = .ok (b, none)) (hx : FloatTextOK env.ext)
    (hto : (OMap.keys to).Nodup) (hperm : (OMap.keys ti).Perm (OMap.keys to))
    (hutf : ∀ k ∈ OMap.keys to, sanitize k = k) :
    ∃ body tree, b = body ++ [0x0A] ∧ Json.unmarshal body = (tree, true) ∧
      ∀ k ci co jv, (k, ci) ∈ ti → (k, co) ∈ to →
        LineSpec.lookupJV (LineSpec.normDup (Json.unmarshal line).1) k = some jv →
        LineSpec.isContainer jv = false →
        ∃ c', Way env (Cells.format ci) (Cells.rawType ci) (Cells.format co) (Cells.rawType co) jv c' ∧
          (Cells.format co ≠ .hidden → ∃ txt, RowPrint.marshalVal env c' = .ok txt ∧
            ∀ m, JsonPrint.ReadsAs txt m → LineSpec.lookupJV tree k = some m) := by
  have hti : (OMap.keys ti).Nodup := hperm.nodup_iff.mpr hto
  obtain ⟨body, tree, hb, hu, hall⟩ := followed env ti to line b h hx hti hto
  refine ⟨body, tree, hb, hu, ?_⟩
  intro k ci co jv hmi hmo hlast hs
  have hko : k ∈ OMap.keys to := List.mem_map_of_mem (f := Prod.fst) hmo
  have := hall k ci co jv (OMap.lookup_of_mem hti hmi) (OMap.lookup_of_mem hto hmo)
    (separated_of_same_names hperm hutf k hko) hlast hs
  rwa [hutf k hko] at this

end Jl.LineLevel

/-! ### The literal spellings of a one-member line -/

-- In `LineTime` because the statements about time and integer columns (Proofs.LineTime, Proofs.LineInts) are
-- written with these names; here because this is the lowest module that both import.
namespace Jl.LineTime
open Jl Jl.IntText
open Jl.JsonQuote (sanitize)
open Jl.LineLevel (unmarshal_objText)

/-- The input line `{"k":"s"}` written literally (the name and the text between quotes, with Go's
    escaping — none is needed for an RFC 3339 text). -/
def lineOfStr (k s : Bytes) : Bytes := objText k (JsonWrite.quote s)

/-- The input line `{"k":n}`. -/
def lineOfInt (k : Bytes) (n : Int) : Bytes := objText k (formatInt n)

theorem unmarshal_lineOfStr {k s : Bytes} (hk : sanitize k = k) (hs : sanitize s = s) :
    Json.unmarshal (lineOfStr k s) = (.cons k (.str s) .nil, true) := by
  rw [lineOfStr, unmarshal_objText (JsonPrint.readsAs_quote _), hk, hs]

theorem unmarshal_lineOfInt {k : Bytes} (hk : sanitize k = k) (n : Int) :
    Json.unmarshal (lineOfInt k n) = (.cons k (.num (formatInt n)) .nil, true) := by
  rw [lineOfInt, unmarshal_objText (JsonPrint.readsAs_number (isValidNumber_formatInt n)), hk]

namespace Demo

theorem sanitize_n : sanitize [0x6E] = [0x6E] := by decide +kernel

end Demo

end Jl.LineTime
