/-
  Proofs.RowKeeps — no mutator of row.go ever removes a key's map entry, whatever the cells do and whether or
  not a step reports an error (a failing Import / UnmarshalJSON keeps what it stored before the error).  With
  `LRow.run_prefix` this is C06's "never drops it" for rows that need not be coherent, which the refinement to
  `OMap` does not cover.
-/
import Model.Row
import Proofs.RowSteps
namespace Jl.RowKeeps
open Jl
variable {C V E : Type}

def Keeps (r r' : LRow C) : Prop := ∀ k, (r.m k).isSome → (r'.m k).isSome

theorem keeps_refl (r : LRow C) : Keeps r r := fun _ h => h
theorem keeps_trans {a b c : LRow C} (h1 : Keeps a b) (h2 : Keeps b c) : Keeps a c :=
  fun k h => h2 k (h1 k h)

theorem keeps_mset (r : LRow C) (l : List Bytes) (k : Bytes) (c : C) :
    Keeps r ⟨l, LRow.mset r.m k c⟩ := by
  intro k' h; simp only [LRow.mset]; split
  · rfl
  · exact h

theorem keeps_run (ops : CellOps C V E) (hist : List (RowOp C V)) (r : LRow C) :
    Keeps r (r.run ops hist) :=
  LRow.run_rel Keeps keeps_refl keeps_trans (fun r k c => keeps_mset r _ k c) ops hist r
end Jl.RowKeeps
