/-
  Proofs.FlowTieExport — exporter.go: NewExporter, WithTemplate, Export = `exportLine`
  (overview: Proofs/FlowTie.lean)
-/
import Proofs.FlowTieDefs

namespace Jl.FlowTie
open Jl Jl.Flow Jl.Value Jl.Template

theorem newExporter_as_modelled : Gen.flowTable.newExporter = .writerAndNewTemplate := by decide +kernel

theorem exporterWithTemplate_as_modelled : Gen.flowTable.exporterWithTemplate = .storesArg := by decide +kernel

theorem export_as_modelled : Gen.flowTable.exporterExport = .oneWrite 10 .wrapped := by decide +kernel

theorem export_is_exportLine (env : Env) (t : Tmpl) (v : Dyn) :
    exportG Gen.flowTable.exporterExport env t v = some (exportLine env t v) := rfl

/-- The same fact with the separator byte as `Gen.lineSeparator`, the constant Gen.Sites reads from the source. -/
theorem separator_as_generated : Gen.flowTable.exporterExport = .oneWrite Gen.lineSeparator .wrapped := by decide +kernel

end Jl.FlowTie
