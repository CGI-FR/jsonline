/-
  Proofs.TimeText — the two time layouts as texts, whatever the cast tables: what the parsers of
  Model.Time accept and what `formatDate` / `formatRFC3339` write, in the lexical classes of the line
  oracle (`LineSpec.isDateText`, `isDateTimeText`).  Proofs.TimeShape (same namespace) puts the casters
  and the columns on top.
-/
import Model.LineSpec
import Proofs.Time

namespace Jl.TimeShape
open Jl Jl.Value Cast IntText

/-! ### What the parsers accept -/

theorem ls_isDigit_eq (c : UInt8) : LineSpec.isDigit c = Time.isDigit c := rfl

theorem isDateText_length {s : Bytes} (h : LineSpec.isDateText s = true) : s.length = 10 := by
  unfold LineSpec.isDateText at h
  split at h
  · rfl
  · cases h

theorem num4_some {s : Bytes} {n : Nat} {r : Bytes} (h : Time.num4 s = some (n, r)) :
    ∃ a b c d, s = a :: b :: c :: d :: r ∧ LineSpec.isDigit a = true ∧ LineSpec.isDigit b = true ∧
      LineSpec.isDigit c = true ∧ LineSpec.isDigit d = true ∧ n < 10000 := by
  revert h
  fun_cases Time.num4 s with
  | case1 a b c d rest hd =>
    rintro ⟨⟩
    simp only [Bool.and_eq_true] at hd
    have := Time.dval_le hd.1.1.1
    have := Time.dval_le hd.1.1.2
    have := Time.dval_le hd.1.2
    have := Time.dval_le hd.2
    exact ⟨a, b, c, d, rfl, hd.1.1.1, hd.1.1.2, hd.1.2, hd.2, by omega⟩
  | _ => rintro ⟨⟩

theorem num2_some {s : Bytes} {n : Nat} {r : Bytes} (h : Time.num2 s = some (n, r)) :
    ∃ a b, s = a :: b :: r ∧ LineSpec.isDigit a = true ∧ LineSpec.isDigit b = true := by
  revert h
  fun_cases Time.num2 s with
  | case1 a b rest hd =>
    rintro ⟨⟩
    simp only [Bool.and_eq_true] at hd
    exact ⟨a, b, rfl, hd⟩
  | _ => rintro ⟨⟩

theorem expect_some {c : UInt8} {s r : Bytes} (h : Time.expect c s = some r) : s = c :: r := by
  revert h
  fun_cases Time.expect c s with
  | case1 x rest hx => rintro ⟨⟩; rw [eq_of_beq hx]
  | _ => rintro ⟨⟩

theorem parseDatePart_some {s : Bytes} {y : Int} {m d : Nat} {r : Bytes}
    (h : Time.parseDatePart s = some (y, m, d, r)) :
    (∃ dt, s = dt ++ r ∧ LineSpec.isDateText dt = true) ∧ 0 ≤ y ∧ y ≤ 9999 ∧ Time.ValidDate y m d := by
  unfold Time.parseDatePart at h
  simp only [Option.bind_eq_bind, Option.bind_eq_some_iff] at h
  obtain ⟨⟨yy, s1⟩, h4, s2, he1, ⟨mm, s3⟩, hm, s4, he2, ⟨dd, s5⟩, hdd, h⟩ := h
  obtain ⟨a, b, c, d4, rfl, ha, hb, hc, hd, hyy⟩ := num4_some h4
  cases expect_some he1
  obtain ⟨m1, m2, rfl, hm1, hm2⟩ := num2_some hm
  cases expect_some he2
  obtain ⟨d1, d2, rfl, hd1, hd2⟩ := num2_some hdd
  simp only [Option.ite_none_left_eq_some, Option.some.injEq, Prod.mk.injEq, Bool.or_eq_true,
    decide_eq_true_eq, not_or, Nat.not_lt] at h
  obtain ⟨_, _, rfl, rfl, rfl, rfl⟩ := h
  refine ⟨⟨[a, b, c, d4, 0x2D, m1, m2, 0x2D, d1, d2], rfl, ?_⟩, by omega, by omega, by unfold Time.ValidDate; omega⟩
  simp only [LineSpec.isDateText, List.all_cons, List.all_nil, ha, hb, hc, hd, hm1, hm2, hd1, hd2,
    beq_self_eq_true, Bool.and_self]

theorem parseDateOk_shape {s : Bytes} (h : Time.parseDateOk s = true) :
    LineSpec.isDateText s = true := by
  unfold Time.parseDateOk at h
  split at h
  · rename_i y m d hp
    obtain ⟨⟨dt, rfl, hdt⟩, _⟩ := parseDatePart_some hp
    simpa using hdt
  · cases h

/-- Eight bytes are the int64 image of a second (`binary_time` in Proofs.Pairings); the date part alone
    takes ten. -/
theorem parseRFC3339_len8 (bs : Bytes) (h : bs.length = 8) : Time.parseRFC3339 bs = none := by
  cases hd : Time.parseDatePart bs with
  | none => unfold Time.parseRFC3339; rw [hd]; rfl
  | some p =>
    obtain ⟨y, m, d, r⟩ := p
    obtain ⟨⟨pre, rfl, hdt⟩, _⟩ := parseDatePart_some hd
    rw [List.length_append, isDateText_length hdt] at h
    omega

/-! ### The two layouts -/

theorem formatDate_shape (t : GoTime) (h0 : 0 ≤ Time.year t) (h1 : Time.year t ≤ 9999) :
    LineSpec.isDateText (Time.formatDate t) = true :=
  parseDateOk_shape (Time.parseDatePart_formatDate t h0 h1).2

theorem civil_bounds (t : GoTime) :
    (Time.civilOf t).hour < 100 ∧ (Time.civilOf t).min < 100 ∧ (Time.civilOf t).sec < 100 := by
  obtain ⟨_, hh, hmi, hs⟩ := Time.civilOf_valid t
  omega

/-- The zone element, `Z` or `±dd:dd`: the last `match` of `LineSpec.isDateTimeText`. -/
def isZoneText (z : Bytes) : Bool :=
  match z with
  | [0x5A] => true
  | [sg, a, b, c, d, e] => (sg == 0x2B || sg == 0x2D) && [a, b, d, e].all LineSpec.isDigit && c == 0x3A
  | _ => false

theorem isZoneText_length {z : Bytes} (h : isZoneText z = true) : z.length = 1 ∨ z.length = 6 := by
  revert h
  fun_cases isZoneText z <;> simp

theorem isDateTimeText_eq {dt : Bytes} (hl : dt.length = 10) (h1 h2 m1 m2 s1 s2 : UInt8) {z : Bytes}
    (hz : ∀ d r, z ≠ 0x2E :: d :: r) :
    LineSpec.isDateTimeText (dt ++ [0x54, h1, h2, 0x3A, m1, m2, 0x3A, s1, s2] ++ z) =
      (LineSpec.isDateText dt && ([h1, h2, m1, m2, s1, s2].all LineSpec.isDigit && isZoneText z)) := by
  unfold LineSpec.isDateTimeText
  simp only [List.append_assoc]
  rw [List.take_left' hl, List.drop_left' hl]
  -- `hz` discharges the side condition of the no-fraction alternative
  simp only [List.cons_append, List.nil_append, beq_self_eq_true, Bool.true_and, Bool.and_true]
  rfl

/-- 100 h is where the hour field of the `Z07:00` verb gets a third digit. -/
theorem isZoneText_signed {sg : UInt8} (hs : sg = 0x2B ∨ sg = 0x2D) (z : Nat) :
    isZoneText (sg :: (Time.pad (z / 60) 2 ++ [0x3A] ++ Time.pad (z % 60) 2)) = true ↔ z / 60 < 100 := by
  have hm : z % 60 < 100 := by omega
  constructor
  · intro h
    have hlen := isZoneText_length h
    have h2 : (Time.pad (z % 60) 2).length = 2 := (Time.pad_length (z % 60) 1).2 hm
    simp only [List.length_cons, List.length_append, List.length_nil] at hlen
    exact (Time.pad_length (z / 60) 1).1 (show (Time.pad (z / 60) 2).length = 2 by omega)
  · intro h
    have hsg : (sg == 0x2B || sg == 0x2D) = true := by rcases hs with rfl | rfl <;> rfl
    obtain ⟨a, b, e1, ha, hb, _⟩ := Time.pad2_digits h
    obtain ⟨c, d, e2, hc, hd, _⟩ := Time.pad2_digits hm
    rw [e1, e2]
    simp only [isZoneText, List.cons_append, List.nil_append, List.all_cons, List.all_nil,
      ls_isDigit_eq, ha, hb, hc, hd, hsg, beq_self_eq_true, Bool.and_self]

/-- 360000 s are 100 h; the seconds of the offset are truncated, not required to be zero. -/
theorem isZoneText_formatZone (off : Int) :
    isZoneText (Time.formatZone off) = true ↔ off.natAbs < 360000 := by
  rw [Time.formatZone_eq]
  split
  · exact ⟨fun _ => by omega, fun _ => rfl⟩
  · rw [isZoneText_signed (by split <;> simp), Int.natAbs_tdiv, Nat.div_lt_iff_lt_mul (by decide)]
    show off.natAbs / 60 < 100 * 60 ↔ _
    omega

theorem formatRFC3339_shape_iff (t : GoTime) (h0 : 0 ≤ Time.year t) (h1 : Time.year t ≤ 9999) :
    LineSpec.isDateTimeText (Time.formatRFC3339 t) = true ↔ t.off.natAbs < 360000 := by
  obtain ⟨hh, hmi, hs⟩ := civil_bounds t
  obtain ⟨h1', h2', eh, hh1, hh2, _⟩ := Time.pad2_digits hh
  obtain ⟨m1, m2, em, hm1, hm2, _⟩ := Time.pad2_digits hmi
  obtain ⟨s1, s2, es, hs1, hs2, _⟩ := Time.pad2_digits hs
  have e : Time.formatRFC3339 t = Time.formatDate t ++
      [0x54, h1', h2', 0x3A, m1, m2, 0x3A, s1, s2] ++ Time.formatZone t.off := by
    unfold Time.formatRFC3339
    simp only [eh, em, es, List.append_assoc, List.cons_append, List.nil_append]
  have hz : ∀ d r, Time.formatZone t.off ≠ 0x2E :: d :: r := fun d r e => by
    rcases Time.formatZone_head t.off e with h | h | h <;> cases h
  rw [e, isDateTimeText_eq (isDateText_length (formatDate_shape t h0 h1)) _ _ _ _ _ _ hz,
    formatDate_shape t h0 h1]
  simp only [List.all_cons, List.all_nil, ls_isDigit_eq, hh1, hh2, hm1, hm2, hs1, hs2, Bool.and_self,
    Bool.true_and]
  exact isZoneText_formatZone t.off

theorem formatRFC3339_shape (t : GoTime) (h0 : 0 ≤ Time.year t) (h1 : Time.year t ≤ 9999)
    (hoff : t.off.natAbs < 360000) :
    LineSpec.isDateTimeText (Time.formatRFC3339 t) = true :=
  (formatRFC3339_shape_iff t h0 h1).2 hoff

theorem formatRFC3339_shape_whole_minutes (t : GoTime) (h0 : 0 ≤ Time.year t)
    (h1 : Time.year t ≤ 9999) (_h60 : t.off % 60 = 0) (h24 : t.off.natAbs < 86400) :
    LineSpec.isDateTimeText (Time.formatRFC3339 t) = true :=
  formatRFC3339_shape t h0 h1 (by omega)

end Jl.TimeShape
