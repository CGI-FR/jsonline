/-
  Proofs.JsonAccept — C16: `Json.accepts` (json.Decoder in token mode driven by row.go's
  recursive-descent parser) accepts exactly the texts that are one RFC 8259 object surrounded
  by optional whitespace (`Grammar.IsObjectText`).

  The graph of the parser is an induction principle (`parse_ind`); soundness, fuel monotonicity and what
  the reader delivers for any input (Proofs.RoundTrip) are its instances.  Completeness goes through the
  relations `Reads`, `ReadsMs`, `ReadsXs` (a text is consumed exactly and yields a tree, given enough fuel),
  with one lemma per loop that reads an item and one that closes the loop; the printer proof
  (Proofs.JsonPrint) uses the same lemmas without white space.
-/
import Proofs.JsonLexical

namespace Jl.JsonAcc
open Json JsonLex

/-! ### `tokenCore` by the first byte

Names: `…_eq` is the model's `if` as it stands; the same name without `_eq` (further down) is its accepting
branch under the hypothesis; `…_inv` reads a delivered token backwards. -/

theorem tokenCore_nil (st : TokState) (stack : List TokState) : tokenCore st stack [] = .eof := rfl

/-- The six structural bytes `[ ] { } : ,`. -/
def isDelim (c : UInt8) : Bool :=
  c == 0x5B || c == 0x5D || c == 0x7B || c == 0x7D || c == 0x3A || c == 0x2C

theorem tokenCore_lbrack_eq (st : TokState) (stack : List TokState) (r : Bytes) :
    tokenCore st stack (0x5B :: r) =
      if valueAllowed st then .tok .lbrack ⟨r, .arrayStart, st :: stack⟩ else .err := rfl

theorem tokenCore_lbrace_eq (st : TokState) (stack : List TokState) (r : Bytes) :
    tokenCore st stack (0x7B :: r) =
      if valueAllowed st then .tok .lbrace ⟨r, .objectStart, st :: stack⟩ else .err := rfl

theorem tokenCore_of_not_delim (st : TokState) (stack : List TokState) {c : UInt8} (r : Bytes)
    (h : isDelim c = false) :
    tokenCore st stack (c :: r) =
      if c == 0x22 && (st == .objectStart || st == .objectKey) then
        match strBody r with
        | some (s, r') => .tok (.str s) ⟨r', .objectColon, stack⟩
        | none => .err
      else if valueAllowed st then
        match scanScalar (c :: r) with
        | some (t, r') => .tok t ⟨r', valueEnd st, stack⟩
        | none => .err
      else .err := by
  simp only [isDelim, Bool.or_eq_false_iff] at h
  obtain ⟨⟨⟨⟨⟨h1, h2⟩, h3⟩, h4⟩, h5⟩, h6⟩ := h
  simp only [tokenCore, h1, h2, h3, h4, h5, h6, Bool.or_self, Bool.false_eq_true, if_false]
  rfl

/-- The graph of `tokenCore`, an error being possible anywhere. -/
inductive CoreRes (st : TokState) (stack : List TokState) : Bytes → TokRes → Prop
  | eof : CoreRes st stack [] .eof
  | err (buf : Bytes) : CoreRes st stack buf .err
  | lbrack (r : Bytes) : valueAllowed st = true →
      CoreRes st stack (0x5B :: r) (.tok .lbrack ⟨r, .arrayStart, st :: stack⟩)
  | rbrack (r : Bytes) (s : TokState) (stk : List TokState) :
      (st == .arrayStart || st == .arrayComma) = true → stack = s :: stk →
      CoreRes st stack (0x5D :: r) (.tok .rbrack ⟨r, valueEnd s, stk⟩)
  | lbrace (r : Bytes) : valueAllowed st = true →
      CoreRes st stack (0x7B :: r) (.tok .lbrace ⟨r, .objectStart, st :: stack⟩)
  | rbrace (r : Bytes) (s : TokState) (stk : List TokState) :
      (st == .objectStart || st == .objectComma) = true → stack = s :: stk →
      CoreRes st stack (0x7D :: r) (.tok .rbrace ⟨r, valueEnd s, stk⟩)
  | key (r s r' : Bytes) : (st == .objectStart || st == .objectKey) = true →
      strBody r = some (s, r') →
      CoreRes st stack (0x22 :: r) (.tok (.str s) ⟨r', .objectColon, stack⟩)
  | scalar (buf : Bytes) (t : Tok) (r : Bytes) : valueAllowed st = true →
      scanScalar buf = some (t, r) → CoreRes st stack buf (.tok t ⟨r, valueEnd st, stack⟩)

theorem tokenCore_res (st : TokState) (stack : List TokState) (buf : Bytes) :
    CoreRes st stack buf (tokenCore st stack buf) := by
  -- the branches of `tokenCore` in order; those not named deliver an error
  fun_cases tokenCore st stack buf
  case case1 => exact .eof
  case case2 c r hc hv => exact eq_of_beq hc ▸ .lbrack r hv
  case case4 c r _ hc hst s stk => exact eq_of_beq hc ▸ .rbrack r s stk hst rfl
  case case7 c r _ _ hc hv => exact eq_of_beq hc ▸ .lbrace r hv
  case case9 c r _ _ _ hc hst s stk => exact eq_of_beq hc ▸ .rbrace r s stk hst rfl
  case case13 c r _ _ _ _ _ h s r' hs =>
    rw [Bool.and_eq_true] at h
    exact eq_of_beq h.1 ▸ .key r s r' h.2 hs
  case case15 c r _ _ _ _ _ _ hv t r' hs =>
    rw [hs]
    exact .scalar _ t r' hv hs
  case case16 hs => rw [hs]; exact .err _
  all_goals exact .err _

theorem tokenCore_inv {st : TokState} {stack : List TokState} {buf : Bytes} {res : TokRes}
    (h : tokenCore st stack buf = res) : CoreRes st stack buf res :=
  h ▸ tokenCore_res st stack buf

theorem tokenCore_eof_inv {st : TokState} {stack : List TokState} {buf : Bytes}
    (h : tokenCore st stack buf = .eof) : buf = [] := by
  cases tokenCore_inv h
  rfl

theorem tokenCore_objectColon (stack : List TokState) (buf : Bytes) (t : Tok) (d : Dec) :
    tokenCore .objectColon stack buf ≠ .tok t d := by
  intro h
  cases tokenCore_inv h <;> contradiction

theorem tokenCore_objectComma_inv {stack : List TokState} {buf : Bytes} {t : Tok} {d : Dec}
    (h : tokenCore .objectComma stack buf = .tok t d) : t = .rbrace := by
  cases tokenCore_inv h <;> first | rfl | contradiction

theorem tokenCore_arrayComma_inv {stack : List TokState} {buf : Bytes} {t : Tok} {d : Dec}
    (h : tokenCore .arrayComma stack buf = .tok t d) : t = .rbrack := by
  cases tokenCore_inv h <;> first | rfl | contradiction

theorem va_not_key {st : TokState} (h : valueAllowed st = true) :
    (st == .objectStart || st == .objectKey) = false := by
  cases st <;> first | rfl | cases h

theorem asKey_some {res : TokRes} {key : Bytes} {d : Dec} (h : asKey res = some (key, d)) :
    res = .tok (.str key) d := by
  cases res with
  | tok t d' =>
    cases t <;> first | (cases h; done) | skip
    simp only [asKey, Option.some.injEq, Prod.mk.injEq] at h
    rw [h.1, h.2]
  | eof => cases h
  | err => cases h

theorem asTok_some {res : TokRes} {t : Tok} {d : Dec} (h : asTok res = some (t, d)) :
    res = .tok t d := by
  cases res with
  | tok t' d' =>
    simp only [asTok, Option.some.injEq, Prod.mk.injEq] at h
    rw [h.1, h.2]
  | eof => cases h
  | err => cases h

theorem asClose_some {close : Tok} {res : TokRes} {d' : Dec} (h : asClose close res = some d') :
    res = .tok close d' := by
  cases res with
  | tok t d =>
    simp only [asClose] at h
    split at h
    · rename_i ht; injection h with h; rw [ht, h]
    · cases h
  | eof => cases h
  | err => cases h

theorem tokenCore_key_inv {st : TokState} {stack : List TokState} {buf key : Bytes} {d1 : Dec}
    (hst : st = .objectStart ∨ st = .objectKey) (h : tokenCore st stack buf = .tok (.str key) d1) :
    ∃ k r, Grammar.JString k ∧ buf = k ++ r ∧ d1 = ⟨r, .objectColon, stack⟩ := by
  cases tokenCore_inv h with
  | key rest _ r _ hs =>
    obtain ⟨k, hk, ek⟩ := jstring_of_strBody hs
    exact ⟨k, r, hk, ek, rfl⟩
  | scalar _ _ _ hv => rcases hst with rfl | rfl <;> cases hv

/-! ### `token`: spaces, at most one separator, spaces, `tokenCore` -/

theorem skipSpace_ws_head {w : Bytes} {c : UInt8} (r : Bytes) (hw : Grammar.WS w)
    (hc : isSpace c = false) : skipSpace (w ++ c :: r) = c :: r := by
  rw [skipSpace_ws_append _ hw, skipSpace_of_not _ hc]

theorem token_ws {w : Bytes} (st : TokState) (stack : List TokState) (hw : Grammar.WS w) :
    token ⟨w, st, stack⟩ = .eof := by
  unfold token
  simp only [(skipSpace_eq_nil_iff w).2 hw]

theorem token_at {w : Bytes} {c : UInt8} (r : Bytes) (st : TokState) (stack : List TokState)
    (hw : Grammar.WS w) (hc : isSpace c = false) :
    token ⟨w ++ c :: r, st, stack⟩ =
      if c == 0x3A then
        if st == .objectColon then tokenCore .objectValue stack (skipSpace r) else .err
      else if c == 0x2C then
        if st == .arrayComma then tokenCore .arrayValue stack (skipSpace r)
        else if st == .objectComma then tokenCore .objectKey stack (skipSpace r)
        else .err
      else tokenCore st stack (c :: r) := by
  unfold token
  simp only [skipSpace_ws_head r hw hc]

theorem more_at {w : Bytes} {c : UInt8} (r : Bytes) (st : TokState) (stack : List TokState)
    (hw : Grammar.WS w) (hc : isSpace c = false) :
    more ⟨w ++ c :: r, st, stack⟩ = (c != 0x5D && c != 0x7D) := by
  unfold more
  simp only [skipSpace_ws_head r hw hc]

/-- What `token` passes over in state `st` before it calls `tokenCore` in state `st'`: nothing,
    or optional spaces and the one separator that `st` expects. -/
inductive Sep : TokState → Bytes → TokState → Prop
  | none (st : TokState) : Sep st [] st
  | colon (w : Bytes) : Grammar.WS w → Sep .objectColon (w ++ [0x3A]) .objectValue
  | arrayComma (w : Bytes) : Grammar.WS w → Sep .arrayComma (w ++ [0x2C]) .arrayValue
  | objectComma (w : Bytes) : Grammar.WS w → Sep .objectComma (w ++ [0x2C]) .objectKey

/-- First bytes of values and keys: not a space, not a separator, not a closing delimiter. -/
def ValHead (c : UInt8) : Prop :=
  isSpace c = false ∧ c ≠ 0x3A ∧ c ≠ 0x2C ∧ c ≠ 0x5D ∧ c ≠ 0x7D

instance (c : UInt8) : Decidable (ValHead c) := by unfold ValHead; infer_instance

theorem step_of_sep {st st' : TokState} {sep w : Bytes} {c : UInt8} (r : Bytes)
    (stack : List TokState) (hsep : Sep st sep st') (hw : Grammar.WS w) (hc : ValHead c) :
    more ⟨sep ++ (w ++ c :: r), st, stack⟩ = true ∧
      token ⟨sep ++ (w ++ c :: r), st, stack⟩ = tokenCore st' stack (c :: r) := by
  obtain ⟨hs, h1, h2, h3, h4⟩ := hc
  cases hsep with
  | none =>
    rw [List.nil_append, more_at r st stack hw hs, token_at r st stack hw hs, if_neg (by simpa using h1),
      if_neg (by simpa using h2)]
    exact ⟨by simp [h3, h4], rfl⟩
  | colon w0 hw0 | arrayComma w0 hw0 | objectComma w0 hw0 =>
    rw [List.append_assoc, List.singleton_append, more_at _ _ _ hw0 (by decide),
      token_at _ _ _ hw0 (by decide), skipSpace_ws_head r hw hs]
    exact ⟨rfl, rfl⟩

theorem token_inv {buf : Bytes} {st : TokState} {stack : List TokState} {res : TokRes}
    (h : token ⟨buf, st, stack⟩ = res) (hne : res ≠ .err) :
    ∃ sep st' w b, Sep st sep st' ∧ Grammar.WS w ∧ buf = sep ++ (w ++ b) ∧
      tokenCore st' stack b = res := by
  obtain ⟨w, hw, e⟩ := skipSpace_split buf
  unfold token at h
  simp only [] at h
  cases hs : skipSpace buf with
  | nil =>
    rw [hs] at h e
    exact ⟨[], st, w, [], .none st, hw, e, h⟩
  | cons c rest =>
    rw [hs] at h e
    simp only [] at h
    obtain ⟨w', hw', e'⟩ := skipSpace_split rest
    have e2 : buf = (w ++ [c]) ++ (w' ++ skipSpace rest) := by
      rw [← e', e, List.append_assoc, List.singleton_append]
    by_cases hc : c = 0x3A
    · subst hc
      rw [if_pos (by decide)] at h
      by_cases hst : st = .objectColon
      · subst hst
        exact ⟨_, _, w', _, .colon w hw, hw', e2, h⟩
      · rw [if_neg (by simpa using hst)] at h
        exact absurd h.symm hne
    · by_cases hc' : c = 0x2C
      · subst hc'
        rw [if_neg (by decide), if_pos (by decide)] at h
        by_cases hst : st = .arrayComma
        · subst hst
          exact ⟨_, _, w', _, .arrayComma w hw, hw', e2, h⟩
        · rw [if_neg (by simpa using hst)] at h
          by_cases hst' : st = .objectComma
          · subst hst'
            exact ⟨_, _, w', _, .objectComma w hw, hw', e2, h⟩
          · rw [if_neg (by simpa using hst')] at h
            exact absurd h.symm hne
      · rw [if_neg (by simpa using hc), if_neg (by simpa using hc')] at h
        exact ⟨[], st, w, c :: rest, .none st, hw, e, h⟩

/-! ### `token`, position by position (inversion) -/

theorem token_objectColon_inv {buf : Bytes} {stack : List TokState} {t : Tok} {d2 : Dec}
    (h : token ⟨buf, .objectColon, stack⟩ = .tok t d2) :
    ∃ w w' b, Grammar.WS w ∧ Grammar.WS w' ∧ buf = w ++ 0x3A :: (w' ++ b) ∧
      tokenCore .objectValue stack b = .tok t d2 := by
  obtain ⟨sep, st', w', b, hsep, hw', e, hb⟩ := token_inv h TokRes.noConfusion
  cases hsep with
  | none => exact absurd hb (tokenCore_objectColon _ _ _ _)
  | colon w hw => exact ⟨w, w', b, hw, hw', by rw [e, List.append_assoc, List.singleton_append], hb⟩

/-- What precedes a member at the head of `parseObject`'s loop: nothing on the first iteration,
    optional spaces and one comma afterwards. -/
def KeyPre (st : TokState) (sep : Bytes) : Prop :=
  ∃ st', Sep st sep st' ∧ (st' = .objectStart ∨ st' = .objectKey)

def ElemPre (st : TokState) (sep : Bytes) : Prop :=
  ∃ st', Sep st sep st' ∧ valueAllowed st' = true ∧ valueEnd st' = .arrayComma

theorem token_key_inv {buf : Bytes} {st : TokState} {stack : List TokState} {key : Bytes} {d1 : Dec}
    (hst : st = .objectStart ∨ st = .objectComma)
    (h : token ⟨buf, st, stack⟩ = .tok (.str key) d1) :
    ∃ sep w k r, KeyPre st sep ∧ Grammar.WS w ∧ Grammar.JString k ∧ buf = sep ++ (w ++ (k ++ r)) ∧
      d1 = ⟨r, .objectColon, stack⟩ := by
  obtain ⟨sep, st', w, b, hsep, hw, e, hb⟩ := token_inv h TokRes.noConfusion
  have hst' : st' = .objectStart ∨ st' = .objectKey := by
    rcases hst with rfl | rfl <;> cases hsep
    · exact .inl rfl
    · cases tokenCore_objectComma_inv hb
    · exact .inr rfl
  obtain ⟨k, r, hk, rfl, rfl⟩ := tokenCore_key_inv hst' hb
  exact ⟨sep, w, k, r, ⟨st', hsep, hst'⟩, hw, hk, e, rfl⟩

/-- A closing delimiter never follows a separator. -/
theorem token_close_inv {buf : Bytes} {st : TokState} {stack : List TokState} {t : Tok} {d' : Dec}
    (ht : t = .rbrace ∨ t = .rbrack) (h : token ⟨buf, st, stack⟩ = .tok t d') :
    ∃ w r s stk, Grammar.WS w ∧ buf = w ++ (if t = .rbrace then 0x7D else 0x5D) :: r ∧
      stack = s :: stk ∧ d' = ⟨r, valueEnd s, stk⟩ := by
  obtain ⟨sep, st', w, b, hsep, hw, e, hb⟩ := token_inv h TokRes.noConfusion
  cases tokenCore_inv hb with
  | lbrack | lbrace | key => rcases ht with h | h <;> cases h
  | scalar _ _ _ _ hs => rcases ht with rfl | rfl <;> cases (scanScalar_sound hs).2
  | rbrace r s stk hst hs | rbrack r s stk hst hs =>
    cases hsep with
    | none => exact ⟨w, r, s, stk, hw, e, hs, rfl⟩
    | colon | arrayComma | objectComma => cases hst

theorem token_elem_inv {buf : Bytes} {st : TokState} {stack : List TokState} {t : Tok} {d1 : Dec}
    (hst : st = .arrayStart ∨ st = .arrayComma)
    (h : token ⟨buf, st, stack⟩ = .tok t d1) :
    t = .rbrack ∨
    ∃ sep w b st', Sep st sep st' ∧ valueAllowed st' = true ∧ valueEnd st' = .arrayComma ∧
      Grammar.WS w ∧ buf = sep ++ (w ++ b) ∧ tokenCore st' stack b = .tok t d1 := by
  obtain ⟨sep, st', w, b, hsep, hw, e, hb⟩ := token_inv h TokRes.noConfusion
  rcases hst with rfl | rfl <;> cases hsep
  · exact .inr ⟨_, w, b, _, .none _, rfl, rfl, hw, e, hb⟩
  · exact .inl (tokenCore_arrayComma_inv hb)
  · exact .inr ⟨_, w, b, _, .arrayComma _ ‹_›, rfl, rfl, hw, e, hb⟩


/-! ### One step of the parser, and its graph -/

theorem parseObject_stop {d : Dec} (fuel : Nat) (hm : more d = false) :
    parseObject (fuel + 1) d = (.nil, asClose .rbrace (token d)) := by
  rw [parseObject, hm]
  rfl

theorem parseObject_step {fuel : Nat} {d d1 d2 d3 : Dec} {key : Bytes} {t : Tok} {v : JV}
    {ms : JVMembers} {od : Option Dec} (hm : more d = true) (hk : token d = .tok (.str key) d1)
    (ht : token d1 = .tok t d2) (hh : handleDelim fuel t d2 = some (v, d3))
    (hp : parseObject fuel d3 = (ms, od)) : parseObject (fuel + 1) d = (.cons key v ms, od) := by
  rw [parseObject, if_pos hm, hk]
  simp only [asKey]
  rw [ht]
  simp only [asTok]
  rw [hh]
  simp only [hp]

theorem parseArray_stop {d : Dec} (fuel : Nat) (hm : more d = false) :
    parseArray (fuel + 1) d = (asClose .rbrack (token d)).map fun d' => (.nil, d') := by
  rw [parseArray, hm]
  rfl

theorem parseArray_step {fuel : Nat} {d d1 d2 d3 : Dec} {t : Tok} {v : JV} {xs : JVList}
    (hm : more d = true) (ht : token d = .tok t d1) (hh : handleDelim fuel t d1 = some (v, d2))
    (hp : parseArray fuel d2 = some (xs, d3)) : parseArray (fuel + 1) d = some (.cons v xs, d3) := by
  rw [parseArray, if_pos hm, ht]
  simp only [asTok]
  rw [hh]
  simp only [hp]

theorem handleDelim_lbrace {fuel : Nat} {d d' : Dec} {ms : JVMembers}
    (h : parseObject fuel d = (ms, some d')) :
    handleDelim (fuel + 1) .lbrace d = some (.obj ms, d') := by
  simp only [handleDelim, h]

theorem handleDelim_lbrack {fuel : Nat} {d d' : Dec} {xs : JVList}
    (h : parseArray fuel d = some (xs, d')) :
    handleDelim (fuel + 1) .lbrack d = some (.arr xs, d') := by
  simp only [handleDelim, h]

theorem handleDelim_scalar {t : Tok} {v : JV} (hv : scalarOf t = some v) (fuel : Nat) (d : Dec) :
    handleDelim (fuel + 1) t d = some (v, d) := by
  cases t <;> cases hv <;> rfl

theorem handleDelim_rbrack (fuel : Nat) (d : Dec) : handleDelim fuel .rbrack d = none := by
  cases fuel <;> rfl

theorem handleDelim_rbrace (fuel : Nat) (d : Dec) : handleDelim fuel .rbrace d = none := by
  cases fuel <;> simp [handleDelim]

/-- The graph of the parser as an induction principle: what holds of an error and is closed under the
    other seven ways a result comes about holds of every result, at every fuel. -/
theorem parse_ind {O : Nat → Dec → JVMembers → Option Dec → Prop}
    {A : Nat → Dec → Option (JVList × Dec) → Prop} {V : Nat → Tok → Dec → Option (JV × Dec) → Prop}
    (o_err : ∀ n d, O n d .nil none)
    (o_stop : ∀ n d, more d = false → O (n + 1) d .nil (asClose .rbrace (token d)))
    (o_step : ∀ n d key d1 t d2 v d3 ms od, more d = true → token d = .tok (.str key) d1 →
      token d1 = .tok t d2 → handleDelim n t d2 = some (v, d3) → V n t d2 (some (v, d3)) →
      O n d3 ms od → O (n + 1) d (.cons key v ms) od)
    (a_err : ∀ n d, A n d none)
    (a_stop : ∀ n d, more d = false →
      A (n + 1) d ((asClose .rbrack (token d)).map fun d' => (.nil, d')))
    (a_step : ∀ n d t d1 v d2 xs d3, more d = true → token d = .tok t d1 →
      handleDelim n t d1 = some (v, d2) → V n t d1 (some (v, d2)) → A n d2 (some (xs, d3)) →
      A (n + 1) d (some (.cons v xs, d3)))
    (v_err : ∀ n t d, V n t d none)
    (v_obj : ∀ n d ms d', O n d ms (some d') → V (n + 1) .lbrace d (some (.obj ms, d')))
    (v_arr : ∀ n d xs d', A n d (some (xs, d')) → V (n + 1) .lbrack d (some (.arr xs, d')))
    (v_scalar : ∀ n t d v, scalarOf t = some v → V (n + 1) t d (some (v, d))) (n : Nat) :
    (∀ d, O n d (parseObject n d).1 (parseObject n d).2) ∧ (∀ d, A n d (parseArray n d)) ∧
      ∀ t d, V n t d (handleDelim n t d) := by
  induction n with
  | zero => exact ⟨fun d => o_err 0 d, fun d => a_err 0 d, fun t d => v_err 0 t d⟩
  | succ n ih =>
    obtain ⟨hO, hA, hV⟩ := ih
    refine ⟨fun d => ?_, fun d => ?_, fun t d => ?_⟩
    · rw [parseObject]
      split
      · rename_i hm
        split
        · exact o_err _ d
        · rename_i key d1 hk
          split
          · exact o_err _ d
          · rename_i t d2 ht
            split
            · exact o_err _ d
            · rename_i v d3 hh
              exact o_step n d key d1 t d2 v d3 _ _ hm (asKey_some hk) (asTok_some ht) hh (hh ▸ hV t d2) (hO d3)
      · rename_i hm
        exact o_stop n d (by simpa using hm)
    · rw [parseArray]
      split
      · rename_i hm
        split
        · exact a_err _ d
        · rename_i t d1 ht
          split
          · exact a_err _ d
          · rename_i v d2 hh
            split
            · exact a_err _ d
            · rename_i xs d3 hp
              exact a_step n d t d1 v d2 xs d3 hm (asTok_some ht) hh (hh ▸ hV t d1) (hp ▸ hA d2)
      · rename_i hm
        exact a_stop n d (by simpa using hm)
    · cases t with
      | lbrace =>
        have := hO d
        simp only [handleDelim]
        split
        · rename_i ms d' hp
          rw [hp] at this
          exact v_obj n d ms d' this
        · exact v_err _ _ d
      | lbrack =>
        have := hA d
        simp only [handleDelim]
        split
        · rename_i xs d' hp
          rw [hp] at this
          exact v_arr n d xs d' this
        · exact v_err _ _ d
      | rbrace => exact v_err _ _ d
      | rbrack => exact v_err _ _ d
      | str | num | tru | fls | null => exact v_scalar n _ d _ rfl

/-! ### Soundness of the parser -/

/-- The text from the head of `parseObject`'s loop up to and including the closing brace. -/
def ObjRest (st : TokState) (buf rest : Bytes) : Prop :=
  (∃ w, Grammar.WS w ∧ buf = w ++ 0x7D :: rest) ∨
  (∃ sep m, KeyPre st sep ∧ Grammar.JMembers m ∧ buf = sep ++ (m ++ 0x7D :: rest))

def ArrRest (st : TokState) (buf rest : Bytes) : Prop :=
  (∃ w, Grammar.WS w ∧ buf = w ++ 0x5D :: rest) ∨
  (∃ sep m, ElemPre st sep ∧ Grammar.JElems m ∧ buf = sep ++ (m ++ 0x5D :: rest))

theorem jarray_of_arrRest {buf rest : Bytes} (h : ArrRest .arrayStart buf rest) :
    ∃ a, Grammar.JArray a ∧ 0x5B :: buf = a ++ rest := by
  rcases h with ⟨w, hw, rfl⟩ | ⟨sep, m, hpre, hm, rfl⟩
  · exact ⟨0x5B :: (w ++ [0x5D]), .empty w hw, by simp⟩
  · obtain ⟨_, hsep, _⟩ := hpre
    cases hsep
    exact ⟨0x5B :: (m ++ [0x5D]), .elems m hm, by simp⟩

theorem jobject_of_objRest {buf rest : Bytes} (h : ObjRest .objectStart buf rest) :
    ∃ o, Grammar.JObject o ∧ 0x7B :: buf = o ++ rest := by
  rcases h with ⟨w, hw, rfl⟩ | ⟨sep, m, hpre, hm, rfl⟩
  · exact ⟨0x7B :: (w ++ [0x7D]), .empty w hw, by simp⟩
  · obtain ⟨_, hsep, _⟩ := hpre
    cases hsep
    exact ⟨0x7B :: (m ++ [0x7D]), .members m hm, by simp⟩

/-- The head of `parseObject`'s loop is entered only after `{` or after a member (`objectStart`,
    `objectComma`), that of `parseArray`'s only after `[` or after an element; `ValSound` starts from the
    `tokenCore` call that delivered the token. -/
def ObjSound (d : Dec) (od : Option Dec) : Prop :=
  ∀ d', od = some d' → (d.st = .objectStart ∨ d.st = .objectComma) →
    ∃ s stk, d.stack = s :: stk ∧ d'.st = valueEnd s ∧ d'.stack = stk ∧ ObjRest d.st d.buf d'.buf

def ArrSound (d : Dec) (o : Option (JVList × Dec)) : Prop :=
  ∀ xs d', o = some (xs, d') → (d.st = .arrayStart ∨ d.st = .arrayComma) →
    ∃ s stk, d.stack = s :: stk ∧ d'.st = valueEnd s ∧ d'.stack = stk ∧ ArrRest d.st d.buf d'.buf

def ValSound (t : Tok) (d1 : Dec) (o : Option (JV × Dec)) : Prop :=
  ∀ jv d2, o = some (jv, d2) → ∀ st stack buf, valueAllowed st = true →
    tokenCore st stack buf = .tok t d1 →
    ∃ val, Grammar.JValue val ∧ buf = val ++ d2.buf ∧ d2.st = valueEnd st ∧ d2.stack = stack

theorem sound_all (n : Nat) :
    (∀ d, ObjSound d (parseObject n d).2) ∧ (∀ d, ArrSound d (parseArray n d)) ∧
      ∀ t d, ValSound t d (handleDelim n t d) := by
  refine parse_ind (O := fun _ d _ od => ObjSound d od) (A := fun _ d o => ArrSound d o)
    (V := fun _ t d o => ValSound t d o) (fun _ _ _ h => nomatch h) ?_ ?_ (fun _ _ _ _ h => nomatch h)
    ?_ ?_ (fun _ _ _ _ _ h => nomatch h) ?_ ?_ ?_ n
  -- (`o_err`, `a_err`, `v_err` deliver nothing; inline above.)  `o_stop`: no member follows, the token is `}`
  · rintro _ ⟨buf, st, stack⟩ _ d' hc _
    obtain ⟨w, r, s, stk, hw, e, es, rfl⟩ := token_close_inv (.inl rfl) (asClose_some hc)
    exact ⟨s, stk, es, rfl, rfl, .inl ⟨w, hw, e⟩⟩
  -- `o_step`: a key token, the token after the colon and its value, then the members that remain
  · rintro _ ⟨buf, st, stack⟩ key d1 t d2 v d3 _ od _ hk ht _ hV hO d' rfl hst
    obtain ⟨sep, w1, k, r, hpre, hw1, hk', ebuf, rfl⟩ := token_key_inv hst hk
    obtain ⟨w2, w3, b, hw2, hw3, er, hb⟩ := token_objectColon_inv ht
    obtain ⟨val, hval, eb, hst3, hstk3⟩ := hV _ _ rfl _ _ _ rfl hb
    obtain ⟨buf3, st3, stack3⟩ := d3
    simp only [] at hst3 hstk3 eb
    subst hst3 hstk3
    obtain ⟨s, stk, es, hs1, hs2, hrest⟩ := hO _ rfl (.inr rfl)
    refine ⟨s, stk, es, hs1, hs2, ?_⟩
    simp only [] at hrest ⊢
    rw [ebuf, er, eb]
    rcases hrest with ⟨w4, hw4, rfl⟩ | ⟨sep', m', ⟨_, hsep, hst'⟩, hm', rfl⟩
    · exact .inr ⟨sep, _, hpre, .one w1 k w2 w3 val w4 hw1 hk' hw2 hw3 hval hw4, by simp⟩
    · cases hsep with
      | none => rcases hst' with h | h <;> cases h
      | objectComma w4 hw4 =>
        exact .inr ⟨sep, _, hpre, .more w1 k w2 w3 val w4 m' hw1 hk' hw2 hw3 hval hw4 hm', by simp⟩
  -- `a_stop`: no element follows, the token is `]`
  · rintro _ ⟨buf, st, stack⟩ _ xs d' h _
    obtain ⟨d'', hc, e⟩ := Option.map_eq_some_iff.1 h
    cases e
    obtain ⟨w, r, s, stk, hw, e, es, rfl⟩ := token_close_inv (.inr rfl) (asClose_some hc)
    exact ⟨s, stk, es, rfl, rfl, .inl ⟨w, hw, e⟩⟩
  -- `a_step`: the token of an element and its value, then the elements that remain
  · rintro _ ⟨buf, st, stack⟩ t d1 v d2 xs d3 _ ht hh hV hA _ _ h hst
    cases h
    rcases token_elem_inv hst ht with rfl | ⟨sep, w, b, st', hsep, hva, hve, hw, ebuf, hb⟩
    · rw [handleDelim_rbrack] at hh
      cases hh
    · obtain ⟨val, hval, eb, hst2, hstk2⟩ := hV _ _ rfl _ _ _ hva hb
      obtain ⟨buf2, st2, stack2⟩ := d2
      simp only [] at hst2 hstk2 eb
      rw [hve] at hst2
      subst hst2 hstk2
      obtain ⟨s, stk, es, hs1, hs2, hrest⟩ := hA _ _ rfl (.inr rfl)
      refine ⟨s, stk, es, hs1, hs2, ?_⟩
      simp only [] at hrest ⊢
      rw [ebuf, eb]
      rcases hrest with ⟨w4, hw4, rfl⟩ | ⟨sep', m', ⟨_, hsep', hva', _⟩, hm', rfl⟩
      · exact .inr ⟨sep, _, ⟨st', hsep, hva, hve⟩, .one w val w4 hw hval hw4, by simp⟩
      · cases hsep' with
        | none => cases hva'
        | arrayComma w4 hw4 =>
          exact .inr ⟨sep, _, ⟨st', hsep, hva, hve⟩, .more w val w4 m' hw hval hw4 hm', by simp⟩
  -- `v_obj`: the token is `{`, the value the object that `parseObject` reads after it
  · rintro _ d ms d' hO _ _ h st stack buf _ hb
    cases h
    cases tokenCore_inv hb with
    | lbrace r =>
      obtain ⟨s, stk, es, hs1, hs2, hrest⟩ := hO _ rfl (.inl rfl)
      cases es
      obtain ⟨o, ho, e⟩ := jobject_of_objRest hrest
      exact ⟨o, .obj _ ho, e, hs1, hs2⟩
    | scalar _ _ _ _ hs => cases (scanScalar_sound hs).2
  -- `v_arr`: the token is `[`, the value the array that `parseArray` reads after it
  · rintro _ d xs d' hA _ _ h st stack buf _ hb
    cases h
    cases tokenCore_inv hb with
    | lbrack r =>
      obtain ⟨s, stk, es, hs1, hs2, hrest⟩ := hA _ _ rfl (.inl rfl)
      cases es
      obtain ⟨a, ha, e⟩ := jarray_of_arrRest hrest
      exact ⟨a, .arr _ ha, e, hs1, hs2⟩
    | scalar _ _ _ _ hs => cases (scanScalar_sound hs).2
  -- `v_scalar`: the token is itself the value
  · rintro _ t d v hsc _ _ h st stack buf hva hb
    cases h
    cases tokenCore_inv hb with
    | lbrack | rbrack | lbrace | rbrace => cases hsc
    | key _ _ _ hst => rw [va_not_key hva] at hst; cases hst
    | scalar _ _ r _ hs =>
      obtain ⟨⟨val, hval, e⟩, _⟩ := scanScalar_sound hs
      exact ⟨val, hval, e, rfl, rfl⟩

theorem isEof_iff {r : TokRes} : isEof r = true ↔ r = .eof := by
  cases r <;> simp [isEof]

theorem top_lbrace_inv {bs : Bytes} {d : Dec}
    (h : asClose .lbrace (token ⟨bs, .topValue, []⟩) = some d) :
    ∃ w r, Grammar.WS w ∧ bs = w ++ 0x7B :: r ∧ d = ⟨r, .objectStart, [.topValue]⟩ := by
  obtain ⟨sep, st', w, b, hsep, hw, e, hb⟩ := token_inv (asClose_some h) TokRes.noConfusion
  cases hsep
  cases tokenCore_inv hb with
  | lbrace r => exact ⟨w, r, hw, e, rfl⟩
  | scalar _ _ _ _ hs => cases (scanScalar_sound hs).2

theorem top_eof_inv {buf : Bytes} (h : isEof (token ⟨buf, .topValue, []⟩) = true) :
    Grammar.WS buf := by
  obtain ⟨sep, st', w, b, hsep, hw, e, hb⟩ := token_inv (isEof_iff.1 h) TokRes.noConfusion
  cases hsep
  rw [e, tokenCore_eof_inv hb, List.nil_append, List.append_nil]
  exact hw

/-- C16, soundness: an accepted line is one JSON object surrounded by optional whitespace. -/
theorem accepts_sound (bs : Bytes) (h : Json.accepts bs = true) : Grammar.IsObjectText bs := by
  unfold Json.accepts Json.unmarshal at h
  cases hc : asClose .lbrace (token ⟨bs, .topValue, []⟩) with
  | none => rw [hc] at h; cases h
  | some d =>
    rw [hc] at h
    simp only [] at h
    obtain ⟨w1, r, hw1, ebs, rfl⟩ := top_lbrace_inv hc
    cases hp : parseObject (2 * bs.length + 2) ⟨r, .objectStart, [.topValue]⟩ with
    | mk ms od =>
      rw [hp] at h
      cases od with
      | none => cases h
      | some d' =>
        simp only [] at h
        obtain ⟨s, stk, es, hs1, hs2, hrest⟩ := (sound_all _).1 _ d' (by rw [hp]) (.inl rfl)
        injection es with e1 e2
        subst e1 e2
        obtain ⟨buf', st', stack'⟩ := d'
        simp only [] at hs1 hs2 hrest
        subst hs1 hs2
        obtain ⟨o, ho, e⟩ := jobject_of_objRest hrest
        exact ⟨w1, o, buf', by rw [ebs, List.append_assoc, ← e], hw1, ho, top_eof_inv h⟩

open IntText (NumberEnds)

/-! ### Completeness of the parser -/

theorem valHead_digit {c : UInt8} (h : isDigit c = true) : ValHead c :=
  JsonQuote.forall_isDig (P := ValHead) (by decide) ((IntText.isDigit_iff c).1 h)

theorem tokenCore_quote (stack : List TokState) {st : TokState} (r : Bytes)
    (hst : st = .objectStart ∨ st = .objectKey) :
    tokenCore st stack (0x22 :: r) =
      match strBody r with
      | some (s, r') => .tok (.str s) ⟨r', .objectColon, stack⟩
      | none => .err := by
  rcases hst with rfl | rfl <;> rfl

theorem scanScalar_head {c : UInt8} {r : Bytes} {p : Tok × Bytes} (h : scanScalar (c :: r) = some p) :
    isDelim c = false := by
  cases hd : isDelim c
  · rfl
  · simp only [isDelim, Bool.or_eq_true, beq_iff_eq] at hd
    rcases hd with ((((rfl | rfl) | rfl) | rfl) | rfl) | rfl <;> cases h

theorem tokenCore_scalar {st : TokState} (stack : List TokState) {buf r : Bytes} {t : Tok}
    (hva : valueAllowed st = true) (hs : scanScalar buf = some (t, r)) :
    tokenCore st stack buf = .tok t ⟨r, valueEnd st, stack⟩ := by
  cases buf with
  | nil => cases hs
  | cons c rest =>
    rw [tokenCore_of_not_delim st stack rest (scanScalar_head hs), va_not_key hva, Bool.and_false,
      if_neg Bool.false_ne_true, if_pos hva, hs]

theorem tokenCore_lbrack {st : TokState} (stack : List TokState) (r : Bytes)
    (hva : valueAllowed st = true) :
    tokenCore st stack (0x5B :: r) = .tok .lbrack ⟨r, .arrayStart, st :: stack⟩ :=
  (tokenCore_lbrack_eq st stack r).trans (if_pos hva)

theorem tokenCore_lbrace {st : TokState} (stack : List TokState) (r : Bytes)
    (hva : valueAllowed st = true) :
    tokenCore st stack (0x7B :: r) = .tok .lbrace ⟨r, .objectStart, st :: stack⟩ :=
  (tokenCore_lbrace_eq st stack r).trans (if_pos hva)

theorem numberEnds_ws_sep {w : Bytes} {c : UInt8} (r : Bytes) (hw : Grammar.WS w)
    (hc : c = 0x2C ∨ c = 0x5D ∨ c = 0x7D) : NumberEnds (w ++ c :: r) := by
  cases w with
  | nil =>
    apply IntText.numberEnds_cons
    rcases hc with rfl | rfl | rfl <;> decide
  | cons x w' =>
    have hx := ws_head hw
    unfold isSpace at hx
    simp only [Bool.or_eq_true, beq_iff_eq] at hx
    apply IntText.numberEnds_cons
    rcases hx with ((rfl | rfl) | rfl) | rfl <;> decide

/-- `t` followed by `rest` is read as the value `x`: `t` starts like a value and, when `rest` cannot
    continue a number literal, wherever a value is allowed its first token is recognised and
    `handleDelim` with fuel > its length consumes exactly `t` and builds `x`. -/
def Reads (t : Bytes) (x : JV) (rest : Bytes) : Prop :=
  (∃ c tl, t = c :: tl ∧ ValHead c) ∧
  (NumberEnds rest → ∀ st stack, valueAllowed st = true →
    ∃ tk d1, tokenCore st stack (t ++ rest) = .tok tk d1 ∧
      ∀ fuel, t.length + 1 ≤ fuel → handleDelim fuel tk d1 = some (x, ⟨rest, valueEnd st, stack⟩))

def ReadsKey (k key rest : Bytes) : Prop :=
  ∃ body, k = 0x22 :: body ∧ strBody (body ++ rest) = some (key, rest)

/-- `b` is white space, or the separator `st` expects and members.  The bound is that of `Reads` for the
    enclosing `{b}`, of length `b.length + 2`, less the unit that `handleDelim` spends before it calls
    `parseObject`. -/
def ReadsMs (st : TokState) (b : Bytes) (ms : JVMembers) (rest : Bytes) : Prop :=
  ∀ s stk fuel, b.length + 2 ≤ fuel →
    parseObject fuel ⟨b ++ 0x7D :: rest, st, s :: stk⟩ = (ms, some ⟨rest, valueEnd s, stk⟩)

def ReadsXs (st : TokState) (b : Bytes) (xs : JVList) (rest : Bytes) : Prop :=
  ∀ s stk fuel, b.length + 2 ≤ fuel →
    parseArray fuel ⟨b ++ 0x5D :: rest, st, s :: stk⟩ = some (xs, ⟨rest, valueEnd s, stk⟩)

theorem readsMs_close {w : Bytes} (rest : Bytes) {st : TokState}
    (hst : st = .objectStart ∨ st = .objectComma) (hw : Grammar.WS w) : ReadsMs st w .nil rest := by
  intro s stk fuel hf
  obtain ⟨f, rfl⟩ : ∃ f, fuel = f + 1 := ⟨fuel - 1, by omega⟩
  rw [parseObject, more_at _ _ _ hw (by decide), token_at _ _ _ hw (by decide)]
  rcases hst with rfl | rfl <;> rfl

theorem readsXs_close {w : Bytes} (rest : Bytes) {st : TokState}
    (hst : st = .arrayStart ∨ st = .arrayComma) (hw : Grammar.WS w) : ReadsXs st w .nil rest := by
  intro s stk fuel hf
  obtain ⟨f, rfl⟩ : ∃ f, fuel = f + 1 := ⟨fuel - 1, by omega⟩
  rw [parseArray, more_at _ _ _ hw (by decide), token_at _ _ _ hw (by decide)]
  rcases hst with rfl | rfl <;> rfl

theorem Reads.item {st st' : TokState} {sep w v tail : Bytes} {x : JV} (stack : List TokState)
    (hsep : Sep st sep st') (hva : valueAllowed st' = true) (hw : Grammar.WS w) (hv : Reads v x tail)
    (hn : NumberEnds tail) :
    more ⟨sep ++ (w ++ (v ++ tail)), st, stack⟩ = true ∧
      ∃ t d, token ⟨sep ++ (w ++ (v ++ tail)), st, stack⟩ = .tok t d ∧
        ∀ fuel, v.length + 1 ≤ fuel → handleDelim fuel t d = some (x, ⟨tail, valueEnd st', stack⟩) := by
  obtain ⟨⟨c, r, rfl, hc⟩, hr⟩ := hv
  obtain ⟨t, d, hcore, hfuel⟩ := hr hn st' stack hva
  obtain ⟨hm, htok⟩ := step_of_sep (r ++ tail) stack hsep hw hc
  exact ⟨hm, t, d, htok.trans hcore, hfuel⟩

/-- What follows the value is named (`tail`, with `e`) so that `hk`, `hv` and `hn` speak of one term, in
    whatever shape the caller has it. -/
theorem ReadsMs.member {st : TokState} {sep w1 k key w2 w3 v tl tail rest : Bytes} {x : JV}
    {ms : JVMembers} (hpre : KeyPre st sep) (hw1 : Grammar.WS w1)
    (hk : ReadsKey k key (w2 ++ 0x3A :: (w3 ++ (v ++ tail)))) (hw2 : Grammar.WS w2)
    (hw3 : Grammar.WS w3) (hv : Reads v x tail) (hn : NumberEnds tail)
    (htl : ReadsMs .objectComma tl ms rest) (e : tl ++ 0x7D :: rest = tail) :
    ReadsMs st (sep ++ (w1 ++ (k ++ (w2 ++ 0x3A :: (w3 ++ (v ++ tl)))))) (.cons key x ms) rest := by
  intro s stk fuel hf
  subst e
  simp only [List.length_append, List.length_cons] at hf
  obtain ⟨f, rfl⟩ : ∃ f, fuel = f + 1 := ⟨fuel - 1, by omega⟩
  obtain ⟨st', hsep, hst'⟩ := hpre
  obtain ⟨body, rfl, hbody⟩ := hk
  obtain ⟨hm, hkey⟩ := step_of_sep (body ++ (w2 ++ 0x3A :: (w3 ++ (v ++ (tl ++ 0x7D :: rest))))) (s :: stk)
    hsep hw1 (by decide : ValHead 0x22)
  obtain ⟨_, t, d, htok, hfuel⟩ := Reads.item (s :: stk) (.colon w2 hw2) rfl hw3 hv hn
  simp only [List.append_assoc, List.cons_append, List.nil_append] at htok ⊢
  exact parseObject_step hm (hkey.trans (by rw [tokenCore_quote _ _ hst', hbody])) htok
    (hfuel f (by omega)) (htl s stk f (by omega))

theorem ReadsXs.elem {st : TokState} {sep w1 v tl tail rest : Bytes} {x : JV} {xs : JVList}
    (hpre : ElemPre st sep) (hw1 : Grammar.WS w1) (hv : Reads v x tail) (hn : NumberEnds tail)
    (htl : ReadsXs .arrayComma tl xs rest) (e : tl ++ 0x5D :: rest = tail) :
    ReadsXs st (sep ++ (w1 ++ (v ++ tl))) (.cons x xs) rest := by
  intro s stk fuel hf
  subst e
  obtain ⟨st', hsep, hva, hve⟩ := hpre
  obtain ⟨hm, t, d, htok, hfuel⟩ := Reads.item (s :: stk) hsep hva hw1 hv hn
  obtain ⟨c, r, rfl, _⟩ := hv.1
  simp only [List.length_append, List.length_cons] at hf
  obtain ⟨f, rfl⟩ : ∃ f, fuel = f + 1 := ⟨fuel - 1, by omega⟩
  simp only [List.append_assoc]
  exact parseArray_step hm htok (hve ▸ hfuel f (by rw [List.length_cons]; omega)) (htl s stk f (by omega))

theorem reads_scalar {c : UInt8} {tl rest : Bytes} {tk : Tok} {x : JV} (hc : ValHead c)
    (hx : scalarOf tk = some x)
    (hs : NumberEnds rest → scanScalar (c :: tl ++ rest) = some (tk, rest)) :
    Reads (c :: tl) x rest :=
  ⟨⟨c, tl, rfl, hc⟩, fun hr st stack hva =>
    ⟨tk, _, tokenCore_scalar stack hva (hs hr), fun fuel hf => by
      obtain ⟨f, rfl⟩ : ∃ f, fuel = f + 1 := ⟨fuel - 1, by omega⟩
      exact handleDelim_scalar hx f _⟩⟩

theorem bracket_append (c e : UInt8) (b rest : Bytes) :
    c :: (b ++ [e]) ++ rest = c :: (b ++ e :: rest) := by
  rw [List.cons_append, List.append_assoc, List.singleton_append]

theorem reads_array {body rest : Bytes} {xs : JVList} (hb : ReadsXs .arrayStart body xs rest) :
    Reads (0x5B :: (body ++ [0x5D])) (.arr xs) rest := by
  refine ⟨⟨_, _, rfl, by decide⟩, fun _ st stack hva => ?_⟩
  rw [bracket_append]
  refine ⟨.lbrack, _, tokenCore_lbrack stack _ hva, fun fuel hf => ?_⟩
  simp only [List.length_append, List.length_cons, List.length_nil] at hf
  obtain ⟨f, rfl⟩ : ∃ f, fuel = f + 1 := ⟨fuel - 1, by omega⟩
  exact handleDelim_lbrack (hb st stack f (by omega))

theorem reads_object {body rest : Bytes} {ms : JVMembers} (hb : ReadsMs .objectStart body ms rest) :
    Reads (0x7B :: (body ++ [0x7D])) (.obj ms) rest := by
  refine ⟨⟨_, _, rfl, by decide⟩, fun _ st stack hva => ?_⟩
  rw [bracket_append]
  refine ⟨.lbrace, _, tokenCore_lbrace stack _ hva, fun fuel hf => ?_⟩
  simp only [List.length_append, List.length_cons, List.length_nil] at hf
  obtain ⟨f, rfl⟩ : ∃ f, fuel = f + 1 := ⟨fuel - 1, by omega⟩
  exact handleDelim_lbrace (hb st stack f (by omega))

theorem readsKey_of_jstring {k : Bytes} (hk : Grammar.JString k) (rest : Bytes) :
    ∃ key, ReadsKey k key rest := by
  obtain ⟨body, out, e, ho⟩ := strBody_jstring hk rest
  exact ⟨out, body, e, ho⟩

theorem reads_number {l : Bytes} (hl : Grammar.JNumber l) (rest : Bytes) :
    Reads l (.num l) rest := by
  obtain ⟨c, t, rfl, hc⟩ := jnumber_head hl
  have hcc : ValHead c := by
    rcases hc with rfl | hc
    · decide
    · exact valHead_digit hc
  exact reads_scalar hcc (tk := .num _) rfl fun hr => scanScalar_jnumber hl hr

theorem reads_string {k : Bytes} (hk : Grammar.JString k) (rest : Bytes) :
    ∃ s, Reads k (.str s) rest := by
  obtain ⟨s, body, rfl, ho⟩ := readsKey_of_jstring hk rest
  refine ⟨s, reads_scalar (by decide) (tk := .str s) rfl fun _ => ?_⟩
  simp only [List.cons_append, scanScalar, beq_self_eq_true, if_true, ho]
  rfl

/-- Completeness, by induction on the grammar derivation (the recursor of the mutual grammar
    predicates): one premise per production, in the order of `Model.JsonGrammar`. -/
theorem readsMs_of_jmembers {m : Bytes} (h : Grammar.JMembers m) (rest : Bytes) {st : TokState}
    {sep : Bytes} (hpre : KeyPre st sep) : ∃ ms, ReadsMs st (sep ++ m) ms rest :=
  h.rec (motive_1 := fun v _ => ∀ rest, ∃ x, Reads v x rest)
    (motive_2 := fun a _ => ∀ rest, ∃ x, Reads a x rest)
    (motive_3 := fun m _ => ∀ rest st sep, ElemPre st sep → ∃ xs, ReadsXs st (sep ++ m) xs rest)
    (motive_4 := fun o _ => ∀ rest, ∃ x, Reads o x rest)
    (motive_5 := fun m _ => ∀ rest st sep, KeyPre st sep → ∃ ms, ReadsMs st (sep ++ m) ms rest)
    (fun rest => ⟨_, reads_scalar (by decide) (tk := .null) rfl fun _ => JsonQuote.scanScalar_null rest⟩) -- JValue.null
    (fun rest => ⟨_, reads_scalar (by decide) (tk := .tru) rfl fun _ => JsonQuote.scanScalar_true rest⟩) -- .tru
    (fun rest => ⟨_, reads_scalar (by decide) (tk := .fls) rfl fun _ => JsonQuote.scanScalar_false rest⟩) -- .fls
    (fun _ h rest => ⟨_, reads_number h rest⟩) (fun _ h rest => (reads_string h rest).elim fun _ h => ⟨_, h⟩) -- .num, .str
    (fun _ _ ih => ih) (fun _ _ ih => ih) -- .arr, .obj
    (fun _ hw rest => ⟨_, reads_array (readsXs_close rest (.inl rfl) hw)⟩) -- JArray.empty
    (fun _ _ ih rest => (ih rest .arrayStart [] ⟨_, .none _, rfl, rfl⟩).elim fun _ h => ⟨_, reads_array h⟩) -- .elems
    (fun _ _ _ hw1 _ hw2 ihv rest _ _ hpre => (ihv _).elim fun _ hx => -- JElems.one: the last element
      ⟨_, by
        simpa using ReadsXs.elem hpre hw1 hx (numberEnds_ws_sep _ hw2 (.inr (.inl rfl)))
          (readsXs_close rest (.inr rfl) hw2) rfl⟩)
    (fun _ _ w2 m' hw1 _ hw2 _ ihv ihm rest _ _ hpre => -- JElems.more
      (ihv (w2 ++ 0x2C :: (m' ++ 0x5D :: rest))).elim fun _ hx => (ihm rest _ _ ⟨_, .arrayComma _ hw2, rfl, rfl⟩).elim fun _ hm =>
        ⟨_, by simpa using ReadsXs.elem hpre hw1 hx (numberEnds_ws_sep _ hw2 (.inl rfl)) hm (by simp)⟩)
    (fun _ hw rest => ⟨_, reads_object (readsMs_close rest (.inl rfl) hw)⟩) -- JObject.empty
    (fun _ _ ih rest => (ih rest .objectStart [] ⟨_, .none _, .inl rfl⟩).elim fun _ h => ⟨_, reads_object h⟩) -- .members
    (fun _ _ _ _ _ _ hw1 hk hw2 hw3 _ hw4 ihv rest _ _ hpre => -- JMembers.one: the last member
      (ihv _).elim fun _ hx => (readsKey_of_jstring hk _).elim fun _ hk =>
        ⟨_, by
          simpa using ReadsMs.member hpre hw1 hk hw2 hw3 hx (numberEnds_ws_sep _ hw4 (.inr (.inr rfl)))
            (readsMs_close rest (.inr rfl) hw4) rfl⟩)
    (fun _ _ _ _ _ w4 m' hw1 hk hw2 hw3 _ hw4 _ ihv ihm rest _ _ hpre => -- JMembers.more
      (ihv (w4 ++ 0x2C :: (m' ++ 0x7D :: rest))).elim fun _ hx => (readsKey_of_jstring hk _).elim fun _ hk =>
        (ihm rest _ _ ⟨_, .objectComma _ hw4, .inr rfl⟩).elim fun _ hm =>
          ⟨_, by
            simpa using ReadsMs.member hpre hw1 hk hw2 hw3 hx (numberEnds_ws_sep _ hw4 (.inl rfl)) hm
              (by simp)⟩)
    rest st sep hpre

theorem unmarshal_of_parse {bs w1 r w2 : Bytes} {ms : JVMembers} (hw1 : Grammar.WS w1)
    (hw2 : Grammar.WS w2) (ebs : bs = w1 ++ 0x7B :: r)
    (hp : parseObject (2 * bs.length + 2) ⟨r, .objectStart, [.topValue]⟩ =
      (ms, some ⟨w2, .topValue, []⟩)) : Json.unmarshal bs = (ms, true) := by
  have h1 : token ⟨bs, .topValue, []⟩ = .tok .lbrace ⟨r, .objectStart, [.topValue]⟩ := by
    rw [ebs, token_at _ _ _ hw1 (by decide)]
    rfl
  have h2 : token ⟨w2, .topValue, []⟩ = .eof := token_ws _ _ hw2
  unfold Json.unmarshal
  rw [h1]
  simp only [asClose, if_true]
  rw [hp]
  simp only [h2, isEof]

/-- C16, completeness: one JSON object surrounded by optional whitespace is accepted (and the
    fuel `2 * length + 2` given by `unmarshal` is enough). -/
theorem accepts_complete (bs : Bytes) (h : Grammar.IsObjectText bs) : Json.accepts bs = true := by
  obtain ⟨w1, o, w2, ebs, hw1, ho, hw2⟩ := h
  obtain ⟨body, ms, rfl, hb⟩ : ∃ body ms, o = 0x7B :: (body ++ [0x7D]) ∧ ReadsMs .objectStart body ms w2 := by
    cases ho with
    | empty w hw => exact ⟨w, _, rfl, readsMs_close w2 (.inl rfl) hw⟩
    | members body hb =>
      obtain ⟨ms, h⟩ := readsMs_of_jmembers hb w2 (sep := []) ⟨_, .none _, .inl rfl⟩
      exact ⟨body, ms, rfl, h⟩
  have e : bs = w1 ++ 0x7B :: (body ++ 0x7D :: w2) := by rw [ebs]; simp
  exact congrArg Prod.snd (unmarshal_of_parse hw1 hw2 e (hb .topValue [] _ (by
    rw [e]; simp only [List.length_append, List.length_cons]; omega)))
/-- **C16.** A line is accepted exactly when it is one syntactically valid JSON object,
    optionally surrounded by whitespace. -/
theorem accepts_iff (bs : Bytes) : Json.accepts bs = true ↔ Grammar.IsObjectText bs :=
  ⟨accepts_sound bs, accepts_complete bs⟩

theorem rejects_iff (bs : Bytes) : Json.accepts bs = false ↔ ¬ Grammar.IsObjectText bs := by
  rw [← accepts_iff]; simp


/-! ### Fuel monotonicity

A further instance of `parse_ind`.  The equivalence above does not rest on it: `Reads`, `ReadsMs`, `ReadsXs`
hold for every fuel above their bound. -/

theorem mono_succ (n : Nat) :
    (∀ d d', (parseObject n d).2 = some d' → parseObject (n + 1) d = parseObject n d) ∧
    (∀ d r, parseArray n d = some r → parseArray (n + 1) d = some r) ∧
    ∀ t d r, handleDelim n t d = some r → handleDelim (n + 1) t d = some r :=
  parse_ind
    (O := fun n d ms od => ∀ d', od = some d' → parseObject (n + 1) d = (ms, od))
    (A := fun n d o => ∀ r, o = some r → parseArray (n + 1) d = some r)
    (V := fun n t d o => ∀ r, o = some r → handleDelim (n + 1) t d = some r)
    (fun _ _ _ h => nomatch h)                                  -- o_err
    (fun _ _ hm _ _ => parseObject_stop _ hm)                   -- o_stop
    (fun _ _ _ _ _ _ _ _ _ _ hm hk ht _ hV hO d' h => parseObject_step hm hk ht (hV _ rfl) (hO d' h)) -- o_step
    (fun _ _ _ h => nomatch h)                                  -- a_err
    (fun _ _ hm _ h => (parseArray_stop _ hm).trans h)          -- a_stop
    (fun _ _ _ _ _ _ _ _ hm ht _ hV hA _ h => h ▸ parseArray_step hm ht (hV _ rfl) (hA _ rfl)) -- a_step
    (fun _ _ _ _ h => nomatch h)                                -- v_err
    (fun _ _ _ _ hO _ h => h ▸ handleDelim_lbrace (hO _ rfl))   -- v_obj
    (fun _ _ _ _ hA _ h => h ▸ handleDelim_lbrack (hA _ rfl))   -- v_arr
    (fun _ _ _ _ hs _ h => h ▸ handleDelim_scalar hs _ _) n     -- v_scalar

/-- So the fuel `2 * length + 2` of `unmarshal` is immaterial once it suffices. -/
theorem parseObject_mono {n m : Nat} {d d' : Dec} {ms : JVMembers} (hm : n ≤ m)
    (h : parseObject n d = (ms, some d')) : parseObject m d = (ms, some d') := by
  induction hm with
  | refl => exact h
  | step _ ih => exact ((mono_succ _).1 d d' (by rw [ih])).trans ih

theorem parseArray_mono {n m : Nat} {d : Dec} {r : JVList × Dec} (hm : n ≤ m)
    (h : parseArray n d = some r) : parseArray m d = some r := by
  induction hm with
  | refl => exact h
  | step _ ih => exact (mono_succ _).2.1 d r ih

theorem handleDelim_mono {n m : Nat} {t : Tok} {d : Dec} {r : JV × Dec} (hm : n ≤ m)
    (h : handleDelim n t d = some r) : handleDelim m t d = some r := by
  induction hm with
  | refl => exact h
  | step _ ih => exact (mono_succ _).2.2 t d r ih


/-! ### Corollaries: explicit rejections and acceptances

The concrete lines are evaluated by the kernel alone (`decide +kernel`): `strBody` is defined by
well-founded recursion, which the elaborator's own evaluation does not unfold. -/

theorem accepts_ws_false {bs : Bytes} (h : Grammar.WS bs) : Json.accepts bs = false := by
  unfold Json.accepts Json.unmarshal
  rw [token_ws _ _ h]
  rfl

theorem accepts_nil_false : Json.accepts [] = false := accepts_ws_false ws_nil

theorem accepts_false_of_head {w r : Bytes} {c : UInt8} (hw : Grammar.WS w)
    (hs : isSpace c = false) (hc : c ≠ 0x7B) : Json.accepts (w ++ c :: r) = false := by
  cases h : Json.accepts (w ++ c :: r) with
  | false => rfl
  | true =>
    obtain ⟨w1, o, w2, e, hw1, ho, _⟩ := accepts_sound _ h
    have e' : w ++ c :: r = w1 ++ 0x7B :: (o.tail ++ w2) := by
      rw [e]; cases ho <;> simp
    have h1 := congrArg skipSpace e'
    rw [skipSpace_ws_head _ hw hs, skipSpace_ws_head _ hw1 (by decide)] at h1
    injection h1 with h1 _
    exact absurd h1 hc

example : Json.accepts [] = false := by decide +kernel
-- whitespace only: SP TAB LF CR
example : Json.accepts [0x20, 0x09, 0x0A, 0x0D] = false := by decide +kernel
-- `[1]`
example : Json.accepts [0x5B, 0x31, 0x5D] = false := by decide +kernel
-- `1`
example : Json.accepts [0x31] = false := by decide +kernel
-- `"x"`
example : Json.accepts [0x22, 0x78, 0x22] = false := by decide +kernel
-- `null`
example : Json.accepts [0x6E, 0x75, 0x6C, 0x6C] = false := by decide +kernel
-- `{}x`
example : Json.accepts [0x7B, 0x7D, 0x78] = false := by decide +kernel
-- `{}{}`
example : Json.accepts [0x7B, 0x7D, 0x7B, 0x7D] = false := by decide +kernel
-- `{"a":1`
example : Json.accepts [0x7B, 0x22, 0x61, 0x22, 0x3A, 0x31] = false := by decide +kernel
-- `{"a":1,}`
example : Json.accepts [0x7B, 0x22, 0x61, 0x22, 0x3A, 0x31, 0x2C, 0x7D] = false := by
  decide +kernel
-- `{"a" 1}`
example : Json.accepts [0x7B, 0x22, 0x61, 0x22, 0x20, 0x31, 0x7D] = false := by
  decide +kernel
-- `{"a":}`
example : Json.accepts [0x7B, 0x22, 0x61, 0x22, 0x3A, 0x7D] = false := by decide +kernel
-- `{"a":01}`
example : Json.accepts [0x7B, 0x22, 0x61, 0x22, 0x3A, 0x30, 0x31, 0x7D] = false := by
  decide +kernel
-- `{"a":1.}`
example : Json.accepts [0x7B, 0x22, 0x61, 0x22, 0x3A, 0x31, 0x2E, 0x7D] = false := by
  decide +kernel
-- `{"a":tru}`
example : Json.accepts [0x7B, 0x22, 0x61, 0x22, 0x3A, 0x74, 0x72, 0x75, 0x7D] = false := by
  decide +kernel
-- `{"a":"\x"}` (bad escape)
example : Json.accepts [0x7B, 0x22, 0x61, 0x22, 0x3A, 0x22, 0x5C, 0x78, 0x22, 0x7D] = false := by
  decide +kernel
-- `{"a":"<TAB>"}` (raw control byte in a string)
example : Json.accepts [0x7B, 0x22, 0x61, 0x22, 0x3A, 0x22, 0x09, 0x22, 0x7D] = false := by
  decide +kernel
-- `{'a':1}`
example : Json.accepts [0x7B, 0x27, 0x61, 0x27, 0x3A, 0x31, 0x7D] = false := by decide +kernel
-- `{a:1}`
example : Json.accepts [0x7B, 0x61, 0x3A, 0x31, 0x7D] = false := by decide +kernel
-- `{1:1}`
example : Json.accepts [0x7B, 0x31, 0x3A, 0x31, 0x7D] = false := by decide +kernel
-- a lone `{`
example : Json.accepts [0x7B] = false := by decide +kernel
-- a lone `}`
example : Json.accepts [0x7D] = false := by decide +kernel
-- `{]`
example : Json.accepts [0x7B, 0x5D] = false := by decide +kernel
-- `{"a":[1}` and `{"a":[1,]}`
example : Json.accepts [0x7B, 0x22, 0x61, 0x22, 0x3A, 0x5B, 0x31, 0x7D] = false := by
  decide +kernel
example : Json.accepts [0x7B, 0x22, 0x61, 0x22, 0x3A, 0x5B, 0x31, 0x2C, 0x5D, 0x7D] = false := by
  decide +kernel
-- UTF-8 BOM, then `{}`
example : Json.accepts [0xEF, 0xBB, 0xBF, 0x7B, 0x7D] = false := by decide +kernel
example : Json.accepts [0xEF, 0xBB, 0xBF, 0x7B, 0x7D] = false :=
  accepts_false_of_head (w := []) ws_nil (by decide) (by decide)
-- vertical tab / form feed / NBSP are not JSON whitespace: VT `{}`
example : Json.accepts [0x0B, 0x7B, 0x7D] = false := by decide +kernel

-- `{}`
example : Json.accepts [0x7B, 0x7D] = true := by decide +kernel
-- ` { } `
example : Json.accepts [0x20, 0x7B, 0x20, 0x7D, 0x20] = true := by decide +kernel
-- `{"a":[1,{"b":null}]}`
example : Json.accepts [0x7B, 0x22, 0x61, 0x22, 0x3A, 0x5B, 0x31, 0x2C, 0x7B, 0x22, 0x62, 0x22,
    0x3A, 0x6E, 0x75, 0x6C, 0x6C, 0x7D, 0x5D, 0x7D] = true := by decide +kernel
-- `{"a":1,"a":2}` (duplicate keys are syntactically fine)
example : Json.accepts [0x7B, 0x22, 0x61, 0x22, 0x3A, 0x31, 0x2C, 0x22, 0x61, 0x22, 0x3A, 0x32,
    0x7D] = true := by decide +kernel
-- `{"😀":-1.5e+3}` (surrogate pair escape, full number syntax)
example : Json.accepts [0x7B, 0x22, 0x5C, 0x75, 0x64, 0x38, 0x33, 0x64, 0x5C, 0x75, 0x64, 0x65,
    0x30, 0x30, 0x22, 0x3A, 0x2D, 0x31, 0x2E, 0x35, 0x65, 0x2B, 0x33, 0x7D] = true := by
  decide +kernel
-- ill-formed UTF-8 inside a string is accepted (DESIGN.md §10): `{"<FF>":0}`
example : Json.accepts [0x7B, 0x22, 0xFF, 0x22, 0x3A, 0x30, 0x7D] = true := by
  decide +kernel

/-! The same facts on the grammar side, through `accepts_iff` (non-vacuity of the
    specification in both directions). -/
example : Grammar.IsObjectText [0x7B, 0x7D] := (accepts_iff _).1 (by decide +kernel)
example : ¬ Grammar.IsObjectText [] := (rejects_iff _).1 (by decide +kernel)
example : ¬ Grammar.IsObjectText [0x5B, 0x31, 0x5D] := (rejects_iff _).1 (by decide +kernel)
example : ¬ Grammar.IsObjectText [0x7B, 0x7D, 0x7B, 0x7D] := (rejects_iff _).1 (by decide +kernel)
example : ¬ Grammar.IsObjectText [0x7B, 0x22, 0x61, 0x22, 0x3A, 0x31, 0x2C, 0x7D] :=
  (rejects_iff _).1 (by decide +kernel)
example : Grammar.IsObjectText [0x7B, 0x22, 0x61, 0x22, 0x3A, 0x5B, 0x31, 0x2C, 0x7B, 0x22, 0x62,
    0x22, 0x3A, 0x6E, 0x75, 0x6C, 0x6C, 0x7D, 0x5D, 0x7D] :=
  (accepts_iff _).1 (by decide +kernel)

end Jl.JsonAcc
