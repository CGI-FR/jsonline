/-
  Proofs.JsonQuote — the writer's string escaper against the reader's string scanner (C01, scalar
  level): whatever bytes a Go string holds, `JsonWrite.quote` produces a text that `Json.scanScalar`
  accepts as exactly one string token, and what is read back is the input with every ill-formed byte
  replaced by U+FFFD (`sanitize`).  Also what Model.Utf8 alone is asked about: the shape of well-formed
  sequences (`seqLen_prefix`) and the whole encoded characters (`Chunk`).
-/
import Model.JsonRead
import Model.JsonWrite
import Proofs.Digits

namespace Jl.JsonQuote
open Json JsonWrite

/-! ### What a Go string becomes after a trip through json.Marshal / Token -/

/-- ASCII and well-formed multi-byte sequences are copied; every byte at which
    `utf8.DecodeRune` reports `(RuneError, 1)` becomes U+FFFD.  Same walk as `quoteBody`. -/
def sanitize (bs : Bytes) : Bytes :=
  match bs with
  | [] => []
  | b :: rest =>
    if b < 0x80 then b :: sanitize rest
    else
      match Utf8.seqLen (b :: rest) with
      | some 2 => b :: rest.take 1 ++ sanitize (rest.drop 1)
      | some 3 => b :: rest.take 2 ++ sanitize (rest.drop 2)
      | some 4 => b :: rest.take 3 ++ sanitize (rest.drop 3)
      | _ => Utf8.replacement ++ sanitize rest
termination_by bs.length
decreasing_by all_goals simp <;> omega

/-! ### One unfolding step of `strBody` per kind of chunk -/

theorem pre_some (p s r : Bytes) : pre p (some (s, r)) = some (p ++ s, r) := rfl

theorem strBody_close (rest : Bytes) : strBody (0x22 :: rest) = some ([], rest) := by
  rw [strBody.eq_def]; simp

theorem strBody_plain {c : UInt8} (rest : Bytes) (h1 : c ≠ 0x22) (h2 : c ≠ 0x5C)
    (h3 : ¬ c < 0x20) (h4 : c < 0x80) : strBody (c :: rest) = pre [c] (strBody rest) := by
  rw [strBody.eq_def]; simp [h1, h2, h3, h4]

theorem strBody_simple {e ch : UInt8} (rest : Bytes) (h : simpleEscape e = some ch)
    (hu : e ≠ 0x75) : strBody (0x5C :: e :: rest) = pre [ch] (strBody rest) := by
  rw [strBody.eq_def]; simp [h, hu]

theorem strBody_u {a b c d : UInt8} {r : Nat} (rest : Bytes)
    (h : hex4 [a, b, c, d] = some r) (hs : isSurrogate r = false) :
    strBody (0x5C :: 0x75 :: a :: b :: c :: d :: rest) = pre (Utf8.encode r) (strBody rest) := by
  have h' : hex4 (a :: b :: c :: d :: rest) = some r := h
  rw [strBody.eq_def]; simp [h', hs]

theorem ge20_of_hi {b : UInt8} (h : ¬ b < 0x80) : 0x20 ≤ b := by
  simp [UInt8.le_iff_toNat_le, UInt8.lt_iff_toNat_lt] at h ⊢; omega

theorem hi_ne {c : UInt8} (h : ¬ c < 0x80) : c ≠ 0x22 ∧ c ≠ 0x5C ∧ ¬ c < 0x20 :=
  ⟨fun e => h (e ▸ by decide), fun e => h (e ▸ by decide), UInt8.not_lt.2 (ge20_of_hi h)⟩

theorem strBody_seq {c : UInt8} {n : Nat} (rest : Bytes) (h : ¬ c < 0x80)
    (hl : Utf8.seqLen (c :: rest) = some (n + 2)) (hn : n ≤ 2) :
    strBody (c :: rest) = pre (c :: rest.take (n + 1)) (strBody (rest.drop (n + 1))) := by
  obtain ⟨h1, h2, h3⟩ := hi_ne h
  rw [strBody.eq_def]
  simp only [beq_iff_eq, h1, h2, h3, h, if_false, hl]
  match n, hn with
  | 0, _ => rfl
  | 1, _ => rfl
  | 2, _ => rfl

theorem strBody_bad {c : UInt8} (rest : Bytes) (h : ¬ c < 0x80)
    (h2 : Utf8.seqLen (c :: rest) ≠ some 2) (h3 : Utf8.seqLen (c :: rest) ≠ some 3)
    (h4 : Utf8.seqLen (c :: rest) ≠ some 4) :
    strBody (c :: rest) = pre Utf8.replacement (strBody rest) := by
  obtain ⟨h1, h2', h3'⟩ := hi_ne h
  rw [strBody.eq_def]; simp only [beq_iff_eq, h1, h2', h3', h, if_false]

/-! ### Shape of well-formed multi-byte sequences (`seqLen` looks at no more than it reports) -/

def ok3 (b0 b1 b2 : UInt8) : Bool :=
  (if b0 == 0xE0 then 0xA0 else 0x80) ≤ b1 && b1 ≤ (if b0 == 0xED then 0x9F else 0xBF)
    && Utf8.isCont b2

def ok4 (b0 b1 b2 b3 : UInt8) : Bool :=
  (if b0 == 0xF0 then 0x90 else 0x80) ≤ b1 && b1 ≤ (if b0 == 0xF4 then 0x8F else 0xBF)
    && Utf8.isCont b2 && Utf8.isCont b3

theorem seqLen_cons2 (b0 b1 : UInt8) (rest : Bytes) :
    Utf8.seqLen (b0 :: b1 :: rest) =
      if 0xC2 ≤ b0 && b0 ≤ 0xDF then
        if Utf8.isCont b1 then some 2 else none
      else if 0xE0 ≤ b0 && b0 ≤ 0xEF then
        match rest with
        | b2 :: _ => if ok3 b0 b1 b2 then some 3 else none
        | [] => none
      else if 0xF0 ≤ b0 && b0 ≤ 0xF4 then
        match rest with
        | b2 :: b3 :: _ => if ok4 b0 b1 b2 b3 then some 4 else none
        | _ => none
      else none := rfl

theorem isCont_hi {b : UInt8} (h : Utf8.isCont b = true) : ¬ b < 0x80 := by
  simp [Utf8.isCont, UInt8.le_iff_toNat_le, UInt8.lt_iff_toNat_lt] at h ⊢
  omega

theorem ok3_hi {b0 b1 b2 : UInt8} (h : ok3 b0 b1 b2 = true) : ¬ b1 < 0x80 ∧ ¬ b2 < 0x80 := by
  simp only [ok3, Bool.and_eq_true, decide_eq_true_eq] at h
  refine ⟨?_, isCont_hi h.2⟩
  have := h.1.1
  split at this <;> simp [UInt8.le_iff_toNat_le, UInt8.lt_iff_toNat_lt] at this ⊢ <;> omega

theorem ok4_hi {b0 b1 b2 b3 : UInt8} (h : ok4 b0 b1 b2 b3 = true) :
    ¬ b1 < 0x80 ∧ ¬ b2 < 0x80 ∧ ¬ b3 < 0x80 := by
  simp only [ok4, Bool.and_eq_true, decide_eq_true_eq] at h
  refine ⟨?_, isCont_hi h.1.2, isCont_hi h.2⟩
  have := h.1.1.1
  split at this <;> simp [UInt8.le_iff_toNat_le, UInt8.lt_iff_toNat_lt] at this ⊢ <;> omega

theorem seqLen_prefix {bs : Bytes} {n : Nat} (h : Utf8.seqLen bs = some n) :
    ∃ b p tl', bs = b :: (p ++ tl') ∧ n = p.length + 1 ∧ 2 ≤ n ∧ n ≤ 4 ∧
      (∀ X, Utf8.seqLen (b :: (p ++ X)) = some n) ∧ ∀ x ∈ p, ¬ x < 0x80 := by
  revert h
  fun_cases Utf8.seqLen bs
  case case1 b b1 tl c2 c =>
    rintro ⟨⟩
    refine ⟨b, [b1], tl, rfl, rfl, by decide, by decide, fun X => ?_, by simpa using isCont_hi c⟩
    rw [List.singleton_append, seqLen_cons2, if_pos c2, if_pos c]
  case case3 b b1 c2 c3 lo hi b2 tl c =>
    rintro ⟨⟩
    refine ⟨b, [b1, b2], tl, rfl, rfl, by decide, by decide, fun X => ?_, by simpa using ok3_hi c⟩
    rw [List.cons_append, List.cons_append, seqLen_cons2, if_neg c2, if_pos c3]
    exact if_pos c
  case case6 b b1 c2 c3 c4 lo hi b2 b3 tl c =>
    rintro ⟨⟩
    refine ⟨b, [b1, b2, b3], tl, rfl, rfl, by decide, by decide, fun X => ?_, by simpa using ok4_hi c⟩
    rw [List.cons_append, List.cons_append, List.cons_append, seqLen_cons2, if_neg c2, if_neg c3, if_pos c4]
    exact if_pos c
  all_goals exact nofun

theorem strBody_seq_append {b : UInt8} {tl : Bytes} {n : Nat} (hb : ¬ b < 0x80)
    (hl : Utf8.seqLen (b :: tl) = some (n + 2)) (hn : n ≤ 2) (Y : Bytes) :
    strBody (b :: tl.take (n + 1) ++ Y) = pre (b :: tl.take (n + 1)) (strBody Y) := by
  obtain ⟨_, p, tl', e, hp, _, _, hX, _⟩ := seqLen_prefix hl
  cases e
  have hp := (Nat.succ.inj hp).symm
  rw [List.take_left' hp, List.cons_append, strBody_seq _ hb (hX Y) hn, List.take_left' hp,
    List.drop_left' hp]

/-! ### The escapes the writer emits, as the reader decodes them -/

theorem hexVal_hexLower : ∀ n, n < 16 → hexVal (hexLower n) = some n := by decide

theorem hex4_u00 (n : Nat) (h : n < 256) :
    hex4 [0x30, 0x30, hexLower (n / 16), hexLower (n % 16)] = some n := by
  have h1 := hexVal_hexLower (n / 16) (by omega)
  have h2 := hexVal_hexLower (n % 16) (by omega)
  have h0 : hexVal 0x30 = some 0 := by decide
  simp only [hex4, h0, h1, h2]
  congr 1; omega

theorem encode_ascii {b : UInt8} (h : b < 0x80) : Utf8.encode b.toNat = [b] := by
  have : b.toNat < 128 := by simpa [UInt8.lt_iff_toNat_lt] using h
  simp [Utf8.encode, this]

theorem escapeAscii_cases (b : UInt8) :
    (∃ e, escapeAscii b = [0x5C, e] ∧ simpleEscape e = some b ∧ e ≠ 0x75) ∨
      escapeAscii b = u00 b := by
  by_cases h : b ∈ ([0x5C, 0x22, 0x08, 0x0C, 0x0A, 0x0D, 0x09] : Bytes)
  · simp only [List.mem_cons, List.not_mem_nil, or_false] at h
    rcases h with rfl | rfl | rfl | rfl | rfl | rfl | rfl
    · exact .inl ⟨0x5C, by decide⟩
    · exact .inl ⟨0x22, by decide⟩
    · exact .inl ⟨0x62, by decide⟩
    · exact .inl ⟨0x66, by decide⟩
    · exact .inl ⟨0x6E, by decide⟩
    · exact .inl ⟨0x72, by decide⟩
    · exact .inl ⟨0x74, by decide⟩
  · simp only [List.mem_cons, List.not_mem_nil, or_false, not_or] at h
    obtain ⟨h1, h2, h3, h4, h5, h6, h7⟩ := h
    exact .inr (by simp [escapeAscii, h1, h2, h3, h4, h5, h6, h7])

theorem strBody_escapeAscii {b : UInt8} (hb : b < 0x80) (more : Bytes) :
    strBody (escapeAscii b ++ more) = pre [b] (strBody more) := by
  rcases escapeAscii_cases b with ⟨e, he, hs, hu⟩ | he
  · rw [he]; exact strBody_simple more hs hu
  · have hn : b.toNat < 128 := by simpa [UInt8.lt_iff_toNat_lt] using hb
    have := strBody_u more (hex4_u00 b.toNat (by omega)) (by simp [isSurrogate]; omega)
    rw [encode_ascii hb] at this
    rw [he]; exact this

/-! ### One unfolding step of `sanitize` per branch -/

theorem sanitize_nil : sanitize [] = [] := by rw [sanitize.eq_def]

theorem sanitize_ascii {b : UInt8} (rest : Bytes) (h : b < 0x80) :
    sanitize (b :: rest) = b :: sanitize rest := by
  rw [sanitize.eq_def]; simp only [h, if_true]

theorem sanitize_seq {b : UInt8} {n : Nat} (rest : Bytes) (h : ¬ b < 0x80)
    (hl : Utf8.seqLen (b :: rest) = some (n + 2)) (hn : n ≤ 2) :
    sanitize (b :: rest) = b :: rest.take (n + 1) ++ sanitize (rest.drop (n + 1)) := by
  rw [sanitize.eq_def]
  simp only [h, if_false, hl]
  match n, hn with
  | 0, _ => rfl
  | 1, _ => rfl
  | 2, _ => rfl

theorem sanitize_bad {b : UInt8} (rest : Bytes) (h : ¬ b < 0x80)
    (h2 : Utf8.seqLen (b :: rest) ≠ some 2) (h3 : Utf8.seqLen (b :: rest) ≠ some 3)
    (h4 : Utf8.seqLen (b :: rest) ≠ some 4) :
    sanitize (b :: rest) = Utf8.replacement ++ sanitize rest := by
  rw [sanitize.eq_def]; simp only [h, if_false]

theorem htmlSafe_facts {b : UInt8} (h : htmlSafe b = true) :
    b ≠ 0x22 ∧ b ≠ 0x5C ∧ 0x20 ≤ b := by
  simp only [htmlSafe, Bool.and_eq_true, decide_eq_true_eq, bne_iff_ne, ne_eq] at h
  exact ⟨h.1.1.1.1.2, h.1.1.1.2, h.1.1.1.1.1.1⟩

/-! ### The quote lemma -/

theorem hex4_2028 : hex4 [0x32, 0x30, 0x32, 0x38] = some 0x2028 := by decide
theorem hex4_2029 : hex4 [0x32, 0x30, 0x32, 0x39] = some 0x2029 := by decide
theorem hex4_fffd : hex4 [0x66, 0x66, 0x66, 0x64] = some 0xFFFD := by decide
theorem encode_2028 : Utf8.encode 0x2028 = [0xE2, 0x80, 0xA8] := by decide
theorem encode_2029 : Utf8.encode 0x2029 = [0xE2, 0x80, 0xA9] := by decide
theorem encode_fffd : Utf8.encode 0xFFFD = Utf8.replacement := by decide

/-- The quote lemma.  `s` is any byte string: ill-formed UTF-8, control bytes, quotes, backslashes,
    U+2028/2029 and `<>&` included. -/
theorem strBody_quoteBody (s rest : Bytes) :
    strBody (quoteBody s ++ 0x22 :: rest) = some (sanitize s, rest) := by
  fun_induction quoteBody s
  · rw [sanitize_nil]; exact strBody_close rest
  · rename_i b tl hb hs ih
    obtain ⟨h1, h2, h3⟩ := htmlSafe_facts hs
    rw [List.cons_append, strBody_plain _ h1 h2 (UInt8.not_lt.2 h3) hb, ih, sanitize_ascii _ hb]; rfl
  · rename_i b tl hb hs ih
    rw [List.append_assoc, strBody_escapeAscii hb, ih, sanitize_ascii _ hb]; rfl
  · rename_i b tl hb hl ih
    rw [List.append_assoc, strBody_seq_append (n := 0) hb hl (by omega), ih,
      sanitize_seq (n := 0) _ hb hl (by omega)]; rfl
  · rename_i b tl hb hl h ih
    simp only [Bool.and_eq_true, beq_iff_eq] at h
    rw [sanitize_seq (n := 1) _ hb hl (by omega), h.1, h.2]
    simp only [List.cons_append, List.nil_append]
    rw [strBody_u _ hex4_2028 (by decide), ih, encode_2028]; rfl
  · rename_i b tl hb hl _ h ih
    simp only [Bool.and_eq_true, beq_iff_eq] at h
    rw [sanitize_seq (n := 1) _ hb hl (by omega), h.1, h.2]
    simp only [List.cons_append, List.nil_append]
    rw [strBody_u _ hex4_2029 (by decide), ih, encode_2029]; rfl
  · rename_i b tl hb hl _ _ ih
    rw [List.append_assoc, strBody_seq_append (n := 1) hb hl (by omega), ih,
      sanitize_seq (n := 1) _ hb hl (by omega)]; rfl
  · rename_i b tl hb hl ih
    rw [List.append_assoc, strBody_seq_append (n := 2) hb hl (by omega), ih,
      sanitize_seq (n := 2) _ hb hl (by omega)]; rfl
  · rename_i b tl hb h2 h3 h4 ih
    rw [sanitize_bad _ hb h2 h3 h4]
    simp only [List.cons_append, List.nil_append]
    rw [strBody_u _ hex4_fffd (by decide), ih, encode_fffd]; rfl

theorem quote_append (s rest : Bytes) : quote s ++ rest = 0x22 :: (quoteBody s ++ 0x22 :: rest) := by
  simp [quote]

theorem scanScalar_quote (s rest : Bytes) :
    scanScalar (quote s ++ rest) = some (.str (sanitize s), rest) := by
  rw [quote_append]
  simp [scanScalar, strBody_quoteBody]

/-! ### One unfolding step of `Utf8.valid` per branch -/

theorem valid_ascii {b : UInt8} (rest : Bytes) (h : b < 0x80) :
    Utf8.valid (b :: rest) = Utf8.valid rest := by
  rw [Utf8.valid.eq_def]; simp only [h, if_true]

theorem valid_seq {b : UInt8} {rest : Bytes} {n : Nat} (hb : ¬ b < 0x80)
    (hl : Utf8.seqLen (b :: rest) = some (n + 2)) (hn : n ≤ 2) :
    Utf8.valid (b :: rest) = Utf8.valid (rest.drop (n + 1)) := by
  rw [Utf8.valid.eq_def]
  simp only [hb, if_false]
  split
  · rename_i h; rw [hl] at h; injection h with h; obtain rfl : n = 0 := by omega
    rfl
  · rename_i h; rw [hl] at h; injection h with h; obtain rfl : n = 1 := by omega
    rfl
  · rename_i h; rw [hl] at h; injection h with h; obtain rfl : n = 2 := by omega
    rfl
  · rename_i h2 h3 h4
    exfalso
    match n, hn with
    | 0, _ => exact h2 hl
    | 1, _ => exact h3 hl
    | 2, _ => exact h4 hl

theorem valid_bad {b : UInt8} {rest : Bytes} (hb : ¬ b < 0x80)
    (h2 : Utf8.seqLen (b :: rest) ≠ some 2) (h3 : Utf8.seqLen (b :: rest) ≠ some 3)
    (h4 : Utf8.seqLen (b :: rest) ≠ some 4) : Utf8.valid (b :: rest) = false := by
  rw [Utf8.valid.eq_def]; simp only [hb, if_false]

theorem valid_seq_append {b : UInt8} {tl : Bytes} {n : Nat} (hb : ¬ b < 0x80)
    (hl : Utf8.seqLen (b :: tl) = some (n + 2)) (hn : n ≤ 2) (Y : Bytes) :
    Utf8.valid (b :: tl.take (n + 1) ++ Y) = Utf8.valid Y := by
  obtain ⟨_, p, tl', e, hp, _, _, hX, _⟩ := seqLen_prefix hl
  cases e
  have hp := (Nat.succ.inj hp).symm
  rw [List.take_left' hp, List.cons_append, valid_seq hb (hX Y) hn, List.drop_left' hp]

theorem valid_replacement (X : Bytes) : Utf8.valid (Utf8.replacement ++ X) = Utf8.valid X := by
  have hl : Utf8.seqLen (0xEF :: ([0xBF, 0xBD] ++ X)) = some (1 + 2) := by
    rw [List.cons_append, seqLen_cons2]; rfl
  exact valid_seq (by decide) hl (by omega)

/-! ### `sanitize` is the identity on well-formed UTF-8 -/

theorem sanitize_valid (s : Bytes) (h : Utf8.valid s = true) : sanitize s = s := by
  fun_induction sanitize s
  · rfl
  · rename_i b tl hb ih
    rw [valid_ascii _ hb] at h
    rw [ih h]
  · rename_i b tl hb hl ih
    rw [valid_seq (n := 0) hb hl (by omega)] at h
    rw [ih h, List.cons_append, List.take_append_drop]
  · rename_i b tl hb hl ih
    rw [valid_seq (n := 1) hb hl (by omega)] at h
    rw [ih h, List.cons_append, List.take_append_drop]
  · rename_i b tl hb hl ih
    rw [valid_seq (n := 2) hb hl (by omega)] at h
    rw [ih h, List.cons_append, List.take_append_drop]
  · rename_i b tl hb h2 h3 h4 ih
    rw [valid_bad hb h2 h3 h4] at h
    cases h

/-- The hypothesis is needed: an ill-formed byte is replaced, e.g. a lone 0xFF. -/
example : sanitize [0x41, 0xFF, 0x42] = [0x41, 0xEF, 0xBF, 0xBD, 0x42] := by
  simp [sanitize, Utf8.seqLen, Utf8.replacement]


/-! ### What is read back is well-formed UTF-8 (so a second trip changes nothing) -/

theorem valid_sanitize (s : Bytes) : Utf8.valid (sanitize s) = true := by
  fun_induction sanitize s
  · rw [Utf8.valid.eq_def]
  · rename_i b tl hb ih
    rw [valid_ascii _ hb, ih]
  · rename_i b tl hb hl ih
    rw [valid_seq_append (n := 0) hb hl (by omega), ih]
  · rename_i b tl hb hl ih
    rw [valid_seq_append (n := 1) hb hl (by omega), ih]
  · rename_i b tl hb hl ih
    rw [valid_seq_append (n := 2) hb hl (by omega), ih]
  · rename_i b tl hb h2 h3 h4 ih
    rw [valid_replacement, ih]

theorem sanitize_idem (s : Bytes) : sanitize (sanitize s) = sanitize s :=
  sanitize_valid _ (valid_sanitize s)

open IntText

/-- The callers (`JsonAcc.valHead_digit`, `JsonPrint.isDig_safe`) settle `h` by `decide`. -/
theorem forall_isDig {P : UInt8 → Prop} (h : ∀ n, n < 10 → P (UInt8.ofNat (48 + n))) {c : UInt8}
    (hc : IsDig c) : P c := by
  have := h (c.toNat - 48) (by have := hc.2; omega)
  rwa [Nat.add_sub_cancel' hc.1, UInt8.ofNat_toNat] at this

/-! ### Literal tokens -/

theorem scanScalar_null (rest : Bytes) :
    scanScalar ([0x6E, 0x75, 0x6C, 0x6C] ++ rest) = some (.null, rest) := rfl

theorem scanScalar_true (rest : Bytes) :
    scanScalar ([0x74, 0x72, 0x75, 0x65] ++ rest) = some (.tru, rest) := rfl

theorem scanScalar_false (rest : Bytes) :
    scanScalar ([0x66, 0x61, 0x6C, 0x73, 0x65] ++ rest) = some (.fls, rest) := rfl


/-! ### Texts without control bytes -/

def Printable (s : Bytes) : Prop := ∀ b ∈ s, (0x20 : UInt8) ≤ b

theorem printable_cons {c : UInt8} {t : Bytes} (hc : 0x20 ≤ c) (ht : Printable t) :
    Printable (c :: t) :=
  List.forall_mem_cons.2 ⟨hc, ht⟩

/-! ### Non-vacuity on concrete inputs -/

/-- A key with a control byte, a quote, a backslash and an ill-formed byte. -/
example : quote [0x01, 0x22, 0x5C, 0xFF] =
    [0x22, 0x5C, 0x75, 0x30, 0x30, 0x30, 0x31, 0x5C, 0x22, 0x5C, 0x5C,
     0x5C, 0x75, 0x66, 0x66, 0x66, 0x64, 0x22] := by
  simp [quote, quoteBody, htmlSafe, escapeAscii, u00, hexLower, Utf8.seqLen]

example : sanitize [0x01, 0x22, 0x5C, 0xFF] = [0x01, 0x22, 0x5C, 0xEF, 0xBF, 0xBD] := by
  simp [sanitize, Utf8.seqLen, Utf8.replacement]

example (rest : Bytes) : scanScalar (quote [0x01, 0x22, 0x5C, 0xFF] ++ rest) =
    some (.str [0x01, 0x22, 0x5C, 0xEF, 0xBF, 0xBD], rest) := by
  rw [scanScalar_quote]; simp [sanitize, Utf8.seqLen, Utf8.replacement]

/-- newline, `<`, U+2028 and a 2-byte sequence -/
example : quoteBody [0x0A, 0x3C, 0xE2, 0x80, 0xA8, 0xC3, 0xA9] =
    [0x5C, 0x6E, 0x5C, 0x75, 0x30, 0x30, 0x33, 0x63, 0x5C, 0x75, 0x32, 0x30, 0x32, 0x38,
     0xC3, 0xA9] := by
  simp [quoteBody, htmlSafe, escapeAscii, u00, hexLower, Utf8.seqLen, Utf8.isCont]

/-! ### Whole encoded characters: what may be put in front of well-formed UTF-8 -/

theorem toNat_ofNat_lt {n : Nat} (h : n < 256) : (UInt8.ofNat n).toNat = n :=
  UInt8.toNat_ofNat_of_lt' h

def Chunk (p : Bytes) : Prop := ∀ X, Utf8.valid (p ++ X) = Utf8.valid X

theorem chunk_ascii {c : UInt8} (h : c < 0x80) : Chunk [c] := fun X => valid_ascii X h

theorem chunk_replacement : Chunk Utf8.replacement := valid_replacement

/-- The tests of `seqLen` on bytes given by their numbers become tests on the numbers: the simp set of the
    three lemmas below (`e0 …` say that the numbers are below 256). -/
theorem chunk_ofNat2 {n0 n1 : Nat} (h0 : 0xC2 ≤ n0 ∧ n0 ≤ 0xDF) (h1 : 0x80 ≤ n1 ∧ n1 ≤ 0xBF) :
    Chunk [UInt8.ofNat n0, UInt8.ofNat n1] := by
  intro X
  have e0 := toNat_ofNat_lt (n := n0) (by omega)
  have e1 := toNat_ofNat_lt (n := n1) (by omega)
  have hb : ¬ UInt8.ofNat n0 < 0x80 := by
    rw [UInt8.lt_iff_toNat_lt, e0]; exact (by omega : ¬ n0 < 128)
  refine valid_seq (n := 0) hb ?_ (by omega)
  show Utf8.seqLen (UInt8.ofNat n0 :: UInt8.ofNat n1 :: X) = some 2
  simp only [seqLen_cons2, Utf8.isCont, UInt8.le_iff_toNat_le, e0, e1, UInt8.toNat_ofNat, Bool.and_eq_true,
    decide_eq_true_eq]
  rw [if_pos (by omega), if_pos (by omega)]

theorem chunk_ofNat3 {n0 n1 n2 : Nat} (h0 : 0xE0 ≤ n0 ∧ n0 ≤ 0xEF) (h1 : 0x80 ≤ n1 ∧ n1 ≤ 0xBF)
    (ha : n0 = 0xE0 → 0xA0 ≤ n1) (hb : n0 = 0xED → n1 ≤ 0x9F) (h2 : 0x80 ≤ n2 ∧ n2 ≤ 0xBF) :
    Chunk [UInt8.ofNat n0, UInt8.ofNat n1, UInt8.ofNat n2] := by
  intro X
  have e0 := toNat_ofNat_lt (n := n0) (by omega)
  have e1 := toNat_ofNat_lt (n := n1) (by omega)
  have e2 := toNat_ofNat_lt (n := n2) (by omega)
  have hb : ¬ UInt8.ofNat n0 < 0x80 := by
    rw [UInt8.lt_iff_toNat_lt, e0]; exact (by omega : ¬ n0 < 128)
  refine valid_seq (n := 1) hb ?_ (by omega)
  show Utf8.seqLen (UInt8.ofNat n0 :: UInt8.ofNat n1 :: UInt8.ofNat n2 :: X) = some 3
  simp only [seqLen_cons2, ok3, Utf8.isCont, UInt8.le_iff_toNat_le, e0, e1, e2, ← UInt8.toNat_inj, beq_iff_eq,
    apply_ite UInt8.toNat, UInt8.toNat_ofNat, Bool.and_eq_true, decide_eq_true_eq]
  rw [if_neg (by omega), if_pos (by omega), if_pos (by split <;> split <;> omega)]

theorem chunk_ofNat4 {n0 n1 n2 n3 : Nat} (h0 : 0xF0 ≤ n0 ∧ n0 ≤ 0xF4) (h1 : 0x80 ≤ n1 ∧ n1 ≤ 0xBF)
    (ha : n0 = 0xF0 → 0x90 ≤ n1) (hb : n0 = 0xF4 → n1 ≤ 0x8F) (h2 : 0x80 ≤ n2 ∧ n2 ≤ 0xBF)
    (h3 : 0x80 ≤ n3 ∧ n3 ≤ 0xBF) :
    Chunk [UInt8.ofNat n0, UInt8.ofNat n1, UInt8.ofNat n2, UInt8.ofNat n3] := by
  intro X
  have e0 := toNat_ofNat_lt (n := n0) (by omega)
  have e1 := toNat_ofNat_lt (n := n1) (by omega)
  have e2 := toNat_ofNat_lt (n := n2) (by omega)
  have e3 := toNat_ofNat_lt (n := n3) (by omega)
  have hb : ¬ UInt8.ofNat n0 < 0x80 := by
    rw [UInt8.lt_iff_toNat_lt, e0]; exact (by omega : ¬ n0 < 128)
  refine valid_seq (n := 2) hb ?_ (by omega)
  show Utf8.seqLen (UInt8.ofNat n0 :: UInt8.ofNat n1 :: UInt8.ofNat n2 :: UInt8.ofNat n3 :: X) = some 4
  simp only [seqLen_cons2, ok4, Utf8.isCont, UInt8.le_iff_toNat_le, e0, e1, e2, e3, ← UInt8.toNat_inj, beq_iff_eq,
    apply_ite UInt8.toNat, UInt8.toNat_ofNat, Bool.and_eq_true, decide_eq_true_eq]
  rw [if_neg (by omega), if_neg (by omega), if_pos (by omega), if_pos (by split <;> split <;> omega)]

/-- The second byte avoids the overlong forms (after E0, F0), the surrogates (after ED) and what lies
    beyond U+10FFFF (after F4). -/
theorem lead3 {r : Nat} (h : ¬ r < 0x800) (h' : r < 0x10000) (h2 : ¬ 0xD800 ≤ r ∨ ¬ r < 0xE000) :
    (0xE0 ≤ 0xE0 + r / 4096 ∧ 0xE0 + r / 4096 ≤ 0xEF) ∧
      (0xE0 + r / 4096 = 0xE0 → 0xA0 ≤ 0x80 + r / 64 % 64) ∧
      (0xE0 + r / 4096 = 0xED → 0x80 + r / 64 % 64 ≤ 0x9F) := by
  omega

theorem lead4 {r : Nat} (h : ¬ r < 0x10000) (h' : r < 0x110000) :
    (0xF0 ≤ 0xF0 + r / 262144 ∧ 0xF0 + r / 262144 ≤ 0xF4) ∧
      (0xF0 + r / 262144 = 0xF0 → 0x90 ≤ 0x80 + r / 4096 % 64) ∧
      (0xF0 + r / 262144 = 0xF4 → 0x80 + r / 4096 % 64 ≤ 0x8F) := by
  omega

theorem chunk_encode {r : Nat} (h1 : r < 0x110000) (h2 : isSurrogate r = false) :
    Chunk (Utf8.encode r) := by
  simp only [isSurrogate, Bool.and_eq_false_iff, decide_eq_false_iff_not] at h2
  have m : ∀ n : Nat, 0x80 ≤ 0x80 + n % 64 ∧ 0x80 + n % 64 ≤ 0xBF := fun n =>
    ⟨Nat.le_add_right _ _, Nat.add_le_add_left (Nat.le_of_lt_succ (Nat.mod_lt n (by decide))) _⟩
  unfold Utf8.encode
  split
  · intro X
    refine valid_ascii X ?_
    rw [UInt8.lt_iff_toNat_lt, toNat_ofNat_lt (by omega)]
    exact ‹r < 0x80›
  · split
    · exact chunk_ofNat2 (by omega) (m r)
    · split
      · obtain ⟨h0, ha, hb⟩ := lead3 ‹_› ‹_› h2
        exact chunk_ofNat3 h0 (m _) ha hb (m r)
      · obtain ⟨h0, ha, hb⟩ := lead4 ‹_› h1
        exact chunk_ofNat4 h0 (m _) ha hb (m _) (m r)

end Jl.JsonQuote

/-! ### A multi-byte sequence, in the terms the scanners use -/

namespace Jl.JsonLex
open Json JsonQuote

-- In `JsonLex`, the namespace of Proofs.JsonLexical, whose string lemmas use this form; here because
-- Proofs.JlDescriptor needs it too and imports only this file.
theorem seqLen_some {c : UInt8} {s : Bytes} {n : Nat} (h : Utf8.seqLen (c :: s) = some n) :
    (n = 2 ∨ n = 3 ∨ n = 4) ∧ n - 1 ≤ s.length ∧ ∀ x ∈ s.take (n - 1), 0x80 ≤ x := by
  obtain ⟨_, p, tl, e, rfl, h2, h4, _, hhi⟩ := seqLen_prefix h
  cases e
  rw [Nat.add_sub_cancel, List.take_left' rfl, List.length_append]
  exact ⟨by omega, Nat.le_add_right .., fun x hx => UInt8.not_lt.1 (hhi x hx)⟩

end Jl.JsonLex

/-! ### Text the escaper copies -/

namespace Jl.JsonPrint
open JsonWrite

-- In `JsonPrint`, where Proofs.JsonPrint goes on with these names (`isDig_safe`, `sanitize_of_ascii` …);
-- here because `Order.quote_safe` below needs `quoteBody_safe` and Proofs.Order imports only this file.
def AllSafe (s : Bytes) : Prop := ∀ b ∈ s, htmlSafe b = true

theorem htmlSafe_lt {b : UInt8} (h : htmlSafe b = true) : b < 0x80 := by
  simp only [htmlSafe, Bool.and_eq_true, decide_eq_true_eq] at h
  exact h.1.1.1.1.1.2

theorem quoteBody_safe (s : Bytes) (h : AllSafe s) : quoteBody s = s := by
  induction s with
  | nil => rw [quoteBody.eq_def]
  | cons b tl ih =>
    have hb := h b (by simp)
    rw [quoteBody.eq_def]
    simp only [htmlSafe_lt hb, hb, if_true]
    rw [ih fun x hx => h x (by simp [hx])]

end Jl.JsonPrint

namespace Jl.Order

-- In `Order` because Proofs.Order (and Proofs.RowRoundTrip after it) cite it where they evaluate
-- written lines.
theorem quote_safe (s : Bytes) (h : ∀ b ∈ s, JsonWrite.htmlSafe b = true) :
    JsonWrite.quote s = 0x22 :: (s ++ [0x22]) := by
  rw [JsonWrite.quote, JsonPrint.quoteBody_safe s h]

end Jl.Order
