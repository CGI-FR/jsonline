/-
  Proofs.RowTieMarshal — MarshalJSON's buffer discipline and the Format constants of row.go
  (overview: Proofs/RowTie.lean)
-/
import Model.RowFactsSpec
import Model.RowPrint
import Model.MapTo
import Gen.RowFacts

namespace Jl.RowTie
open Jl

def pieceG (kb vb : Bytes) : Piece → Bytes
  | .key => kb
  | .cell => vb
  | .byte b => [UInt8.ofNat b]
  | .other _ => []

def closeG (n : Nat) (c : UInt8) (buf : Bytes) : Bytes :=
  if buf.length > n then buf.dropLast ++ [c] else buf ++ [c]

/-- The walk: the buffer so far, the members in list order; a cell whose format is the skipped constant adds
    nothing; the others add the pieces; a failed marshal of the cell is the result (a key — a string — always
    marshals: `JsonWrite.quote`). -/
def walkG (skip : Format) (pieces : List Piece) (mv : Val → Outcome Bytes) : Bytes → List (Bytes × Val) → Outcome Bytes
  | buf, [] => .ok buf
  | buf, (k, v) :: rest =>
    if Cells.format v == skip then walkG skip pieces mv buf rest
    else
      match mv v with
      | .ok vb => walkG skip pieces mv (buf ++ (pieces.map (pieceG (JsonWrite.quote k) vb)).flatten) rest
      | .err e => .err e
      | .panic s => .panic s

/-- The Format constant of a number (`ValueTie.formats_as_modelled`, in a file this one does not import: the
    constants are numbered as Model.Basic's `Format` is ordered). -/
def formatOf : Int → Format
  | 0 => .string | 1 => .numeric | 2 => .boolean | 3 => .binary | 4 => .date | 5 => .datetime
  | 6 => .timestamp | 7 => .auto | 8 => .hidden | _ => .bad

theorem formatOf_ctorIdx (f : Format) (h : f ≠ .bad) : formatOf (f.ctorIdx : Int) = f := by
  cases f <;> first | rfl | exact absurd rfl h

/-- The walk of the other discipline: a member that is written first gets the separator when the buffer is longer
    than `n` (something was written after the opening), then the pieces. -/
def walkSepG (skip : Format) (n : Nat) (sep : UInt8) (pieces : List Piece) (mv : Val → Outcome Bytes) :
    Bytes → List (Bytes × Val) → Outcome Bytes
  | buf, [] => .ok buf
  | buf, (k, v) :: rest =>
    if Cells.format v == skip then walkSepG skip n sep pieces mv buf rest
    else
      match mv v with
      | .ok vb =>
        walkSepG skip n sep pieces mv
          ((if buf.length > n then buf ++ [sep] else buf) ++ (pieces.map (pieceG (JsonWrite.quote k) vb)).flatten) rest
      | .err e => .err e
      | .panic s => .panic s

/-- `row.MarshalJSON` read off the fact. `none`: the fact is `unknown`. -/
def marshalRowG (f : MarshalFact) (mv : Val → Outcome Bytes) (ms : List (Bytes × Val)) : Option (Outcome Bytes) :=
  match f with
  | .unknown _ => none
  | .members opening skip pieces n c =>
    some (
      match walkG (formatOf skip) pieces mv (opening.map UInt8.ofNat) ms with
      | .ok buf => .ok (closeG n (UInt8.ofNat c) buf)
      | .err e => .err e
      | .panic s => .panic s)
  | .separated opening skip n sep pieces c =>
    some (
      match walkSepG (formatOf skip) n (UInt8.ofNat sep) pieces mv (opening.map UInt8.ofNat) ms with
      | .ok buf => .ok (buf ++ [UInt8.ofNat c])
      | .err e => .err e
      | .panic s => .panic s)

/-- The members `marshalMembers` collects, over an abstract cell marshaller. -/
def partsG (mv : Val → Outcome Bytes) : List (Bytes × Val) → Outcome (List Bytes)
  | [] => .ok []
  | (k, v) :: rest =>
    if Cells.format v == .hidden then partsG mv rest
    else
      match mv v with
      | .ok b =>
        match partsG mv rest with
        | .ok ps => .ok ((JsonWrite.quote k ++ 0x3A :: b) :: ps)
        | .err e => .err e
        | .panic s => .panic s
      | .err e => .err e
      | .panic s => .panic s

theorem parts_eq (env : Value.Env) : ∀ ms : Members,
    RowPrint.marshalMembers env ms = partsG (RowPrint.marshalVal env) ms.toList
  | .nil => by simp [RowPrint.marshalMembers, Members.toList, partsG]
  | .cons k v ms => by
    have ih := parts_eq env ms
    rw [RowPrint.marshalMembers]
    simp only [Members.toList, partsG, ih]
    split
    · rfl
    · cases RowPrint.marshalVal env v with
      | ok b => cases partsG (RowPrint.marshalVal env) ms.toList <;> rfl
      | err e => rfl
      | panic s => rfl

theorem flatten_commas : ∀ (p : Bytes) (ps : List Bytes),
    ((p :: ps).map (· ++ [0x2C])).flatten = RowPrint.joinComma (p :: ps) ++ [0x2C] := by
  intro p ps
  induction ps generalizing p with
  | nil => simp [RowPrint.joinComma]
  | cons q qs ih =>
    have := ih q
    simp only [List.map_cons, List.flatten_cons] at this ⊢
    rw [this]
    simp [RowPrint.joinComma]

/-- The buffer discipline: `{`, every member followed by a comma, then the last byte replaced by `}` when
    something was written and `}` appended otherwise — is `{` + the members joined by commas + `}`. -/
theorem close_commas (ps : List Bytes) :
    closeG 1 0x7D (0x7B :: (ps.map (· ++ [0x2C])).flatten) = 0x7B :: (RowPrint.joinComma ps ++ [0x7D]) := by
  cases ps with
  | nil => simp [closeG, RowPrint.joinComma]
  | cons p ps =>
    rw [flatten_commas]
    have hlen : (0x7B :: (RowPrint.joinComma (p :: ps) ++ [0x2C])).length > 1 := by simp
    rw [closeG, if_pos hlen]
    have : (0x7B :: (RowPrint.joinComma (p :: ps) ++ [(0x2C : UInt8)])) = (0x7B :: RowPrint.joinComma (p :: ps)) ++ [0x2C] := by simp
    rw [this, List.dropLast_concat]
    simp

theorem walk_parts (mv : Val → Outcome Bytes) : ∀ (ms : List (Bytes × Val)) (buf : Bytes),
    walkG .hidden [.key, .byte 0x3A, .cell, .byte 0x2C] mv buf ms =
      match partsG mv ms with
      | .ok ps => .ok (buf ++ (ps.map (· ++ [0x2C])).flatten)
      | .err e => .err e
      | .panic s => .panic s := by
  intro ms
  induction ms with
  | nil => intro buf; simp [walkG, partsG]
  | cons kv ms ih =>
    intro buf
    cases kv with
    | mk k v =>
      simp only [walkG, partsG]
      split
      · exact ih buf
      · cases hv : mv v with
        | ok vb =>
          simp only [ih]
          cases partsG mv ms with
          | ok ps => simp [pieceG]
          | err e => rfl
          | panic s => rfl
        | err e => rfl
        | panic s => rfl

theorem joinComma_cons2 (a b : Bytes) (bs : List Bytes) :
    RowPrint.joinComma (a :: b :: bs) = a ++ 0x2C :: RowPrint.joinComma (b :: bs) := by
  simp [RowPrint.joinComma]

theorem joinComma_snoc : ∀ (acc : List Bytes) (p : Bytes), acc ≠ [] →
    RowPrint.joinComma (acc ++ [p]) = RowPrint.joinComma acc ++ 0x2C :: p := by
  intro acc
  induction acc with
  | nil => intro p h; exact absurd rfl h
  | cons a as ih =>
    intro p _
    cases as with
    | nil => simp [RowPrint.joinComma]
    | cons b bs =>
      have := ih p (by simp)
      simp only [List.cons_append] at this ⊢
      rw [joinComma_cons2, this, joinComma_cons2]
      simp

theorem joinComma_ne_nil (a : Bytes) (as : List Bytes) (ha : a ≠ []) : RowPrint.joinComma (a :: as) ≠ [] := by
  cases as with
  | nil => simpa [RowPrint.joinComma] using ha
  | cons b bs => simp [RowPrint.joinComma, ha]

/-- One step of the other discipline on a buffer that is `{` + the members so far joined by commas. -/
theorem sep_step (acc : List Bytes) (hacc : ∀ p ∈ acc, p ≠ []) (part : Bytes) :
    (if (0x7B :: RowPrint.joinComma acc).length > 1 then (0x7B :: RowPrint.joinComma acc) ++ [0x2C]
      else 0x7B :: RowPrint.joinComma acc) ++ part = 0x7B :: RowPrint.joinComma (acc ++ [part]) := by
  cases acc with
  | nil => simp [RowPrint.joinComma]
  | cons a as =>
    have hne := joinComma_ne_nil a as (hacc a (by simp))
    have hlen : (0x7B :: RowPrint.joinComma (a :: as)).length > 1 := by
      cases h : RowPrint.joinComma (a :: as) with
      | nil => exact absurd h hne
      | cons x xs => simp
    rw [if_pos hlen, joinComma_snoc (a :: as) part (by simp)]
    simp

theorem walkSep_parts (mv : Val → Outcome Bytes) : ∀ (ms : List (Bytes × Val)) (acc : List Bytes), (∀ p ∈ acc, p ≠ []) →
    walkSepG .hidden 1 0x2C [.key, .byte 0x3A, .cell] mv (0x7B :: RowPrint.joinComma acc) ms =
      match partsG mv ms with
      | .ok ps => .ok (0x7B :: RowPrint.joinComma (acc ++ ps))
      | .err e => .err e
      | .panic s => .panic s := by
  intro ms
  induction ms with
  | nil => intro acc _; simp [walkSepG, partsG]
  | cons kv ms ih =>
    intro acc hacc
    cases kv with
    | mk k v =>
      simp only [walkSepG, partsG]
      split
      · exact ih acc hacc
      · cases hv : mv v with
        | ok vb =>
          have hpart : ([Piece.key, .byte 0x3A, .cell].map (pieceG (JsonWrite.quote k) vb)).flatten = JsonWrite.quote k ++ 0x3A :: vb := by
            simp [pieceG]
          simp only [hpart, sep_step acc hacc]
          have hacc' : ∀ p ∈ acc ++ [JsonWrite.quote k ++ 0x3A :: vb], p ≠ [] := by
            intro p hp
            rcases List.mem_append.mp hp with h | h
            · exact hacc p h
            · simp at h; subst h; simp
          rw [ih _ hacc']
          cases partsG mv ms with
          | ok ps => simp
          | err e => rfl
          | panic s => rfl
        | err e => rfl
        | panic s => rfl

/-- `row.MarshalJSON` is `RowPrint.marshalVal env (.row ms)` under EITHER comma discipline: the separator after every
    member and the last one replaced by `}`, or the separator in front of every member but the first and `}` appended.
    In both facts `[123]` is the opening `{`, `8` the number of `Hidden` (the format skipped), `58` / `44` / `125` are
    `:` `,` `}`, and `1` the buffer length above which something was written after the opening
    (Model.RowFactsSyntax.MarshalFact). -/
theorem marshal_either (env : Value.Env) (ms : Members) (f : MarshalFact)
    (h : f = .members [123] 8 [.key, .byte 58, .cell, .byte 44] 1 125
       ∨ f = .separated [123] 8 1 44 [.key, .byte 58, .cell] 125) :
    marshalRowG f (RowPrint.marshalVal env) ms.toList = some (RowPrint.marshalVal env (.row ms)) := by
  have hf : formatOf 8 = .hidden := rfl
  have h1 : ([123] : List Nat).map UInt8.ofNat = [0x7B] := by decide +kernel
  have hc : UInt8.ofNat 125 = 0x7D := by decide +kernel
  rw [RowPrint.marshalVal, parts_eq]
  rcases h with h | h
  · subst h
    have hw := walk_parts (RowPrint.marshalVal env) ms.toList [0x7B]
    simp only [marshalRowG, hf]
    have h2 : ([.key, .byte 58, .cell, .byte 44] : List Piece) = [.key, .byte 0x3A, .cell, .byte 0x2C] := rfl
    rw [h1, h2, hw]
    cases partsG (RowPrint.marshalVal env) ms.toList with
    | ok ps =>
      simp only [hc]
      have := close_commas ps
      simp only [List.cons_append, List.nil_append] at this ⊢
      rw [this]
    | err e => rfl
    | panic s => rfl
  · subst h
    have hw := walkSep_parts (RowPrint.marshalVal env) ms.toList [] (by simp)
    simp only [marshalRowG, hf]
    have h2 : ([.key, .byte 58, .cell] : List Piece) = [.key, .byte 0x3A, .cell] := rfl
    have h3 : UInt8.ofNat 44 = 0x2C := by decide +kernel
    have h4 : (0x7B :: RowPrint.joinComma []) = [0x7B] := rfl
    rw [h1, h2, h3, ← h4, hw]
    cases partsG (RowPrint.marshalVal env) ms.toList with
    | ok ps => simp [hc]
    | err e => rfl
    | panic s => rfl

theorem marshal_as_modelled (env : Value.Env) (ms : Members) :
    marshalRowG Gen.rowFacts.marshal (RowPrint.marshalVal env) ms.toList = some (RowPrint.marshalVal env (.row ms)) :=
  marshal_either env ms Gen.rowFacts.marshal (by decide +kernel)


/-- The format a row reports for itself is `.auto` (`Cells.format (.row _)`), the format MarshalJSON skips is
    `.hidden` (`RowPrint.marshalMembers`), and a row has no raw type (`Cells.rawType (.row _) = .none`). -/
theorem formats_as_modelled (ms : Members) :
    Gen.rowFacts.selfFormat.map formatOf = some (Cells.format (.row ms))
    ∧ Gen.rowFacts.marshal.skipFormat = some (Format.hidden.ctorIdx : Int)
    ∧ Gen.rowFacts.selfRawTypeNil = true ∧ Cells.rawType (.row ms) = .none := by
  exact ⟨rfl, by decide +kernel, rfl, rfl⟩


end Jl.RowTie
