/-
  Proofs.RowTieGetters — the sixteen typed getters and MapTo's type switch
  (overview: Proofs/RowTie.lean)
-/
import Model.RowFactsSpec
import Model.RowPrint
import Model.MapTo
import Gen.RowFacts

namespace Jl.RowTie
open Jl

/-- The Go spelling of a getter's result type. -/
def goType : Ty → String
  | .int .int => "int" | .int .i64 => "int64" | .int .i32 => "int32" | .int .i16 => "int16" | .int .i8 => "int8"
  | .int .uint => "uint" | .int .u64 => "uint64" | .int .u32 => "uint32" | .int .u16 => "uint16" | .int .u8 => "byte"
  | .f64 => "float64" | .f32 => "float32" | .bool => "bool" | .str => "string" | .bytes => "[]byte"
  | .time => "time.Time" | _ => "?"

/-- The sixteen typed getters are `Getters.table`: the caster on `GetOrNil(key)`, the comma-ok assertion to the
    result type (so the zero value, never a panic: `Getters.typedGet`), and there is no seventeenth. -/
theorem getters_as_modelled :
    (∀ row ∈ Getters.table, Gen.rowFacts.getters.lookup row.1 = some (.castCommaOk "GetOrNil" row.2.1 (goType row.2.2)))
    ∧ Gen.rowFacts.getters.length = Getters.table.length
    ∧ Gen.rowFacts.readers.lookup "GetOrNil" = some (.orNil "Get")
    ∧ Gen.rowFacts.readers.lookup "Get" = some .mapRaw := by
  decide +kernel

/-- The Go spelling of an integer type in a type switch. -/
def goInt : IntTy → String
  | .int => "int" | .i64 => "int64" | .i32 => "int32" | .i16 => "int16" | .i8 => "int8"
  | .uint => "uint" | .u64 => "uint64" | .u32 => "uint32" | .u16 => "uint16" | .u8 => "byte"

def mapCases : MapToFact → List (String × MapCase)
  | .fields _ _ _ _ cs => cs
  | .unknown _ => []

/-- MapTo's type switch is the one of `MapTo.store`: signed integers through `ToInt64` under `CanInt` with the
    single-value `i.(int64)`, unsigned through `ToUint64` / `CanUint` / `i.(uint64)`, floats through `ToFloat64` /
    `CanFloat` / `i.(float64)`, strings, bools and byte slices by the field's kind; the key is `LcFirst(name)`
    looked up with `Get`; only a non-nil pointer to a struct is touched.  A clause may test the guard before the
    cast or after it (`MapCase.castFirst`): the casters have no effect, `MapTo.viaCast` is either.  The numbers are
    `reflect.Kind`s: 1 Bool, 8 Uint8, 22 Pointer, 23 Slice, 24 String, 25 Struct. -/
theorem mapTo_as_modelled :
    (∀ t ∈ IntTy.all, ((mapCases Gen.rowFacts.mapTo).lookup (goInt t)).map MapCase.castFirst =
      some (if t.signed then .viaCast "ToInt64" "CanInt" "SetInt" "int64" else .viaCast "ToUint64" "CanUint" "SetUint" "uint64"))
    ∧ (∀ n ∈ ["float32", "float64"], ((mapCases Gen.rowFacts.mapTo).lookup n).map MapCase.castFirst
        = some (.viaCast "ToFloat64" "CanFloat" "SetFloat" "float64"))
    ∧ (mapCases Gen.rowFacts.mapTo).lookup "string" = some (.whenKind 24 "SetString")
    ∧ (mapCases Gen.rowFacts.mapTo).lookup "bool" = some (.whenKind 1 "SetBool")
    ∧ (mapCases Gen.rowFacts.mapTo).lookup "[]byte" = some (.whenSliceOf 23 8 "SetBytes")
    ∧ (mapCases Gen.rowFacts.mapTo).length = 15
    ∧ (∃ cs, Gen.rowFacts.mapTo = .fields 22 25 "LcFirst" "Get" cs) := by
  refine ⟨by decide +kernel, by decide +kernel, by decide +kernel, by decide +kernel, by decide +kernel, by decide +kernel, ⟨_, rfl⟩⟩


end Jl.RowTie
