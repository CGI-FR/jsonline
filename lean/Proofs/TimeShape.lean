/-
  Proofs.TimeShape — C04 for the `date` and `datetime` formats: lexical class of what a date /
  date-time column exports, over the generated tables.  What the two layouts write and what the
  parsers accept is Proofs.TimeText (same namespace); what the casters do and what a cell exports is
  Proofs.CasterFacts.
-/
import Model.LineSpec
import Model.Value
import Model.CastGen
import Proofs.TimeText
import Proofs.CasterFacts

namespace Jl.TimeShape
open Jl Jl.Value Cast CastTyped IntText CasterFacts

/-! ### `ToDate` and the date column -/

theorem date_export_class (ext : Ext) (raw : Dyn) (typ : Ty) (e : Dyn)
    (h : exportVal ⟨genTables, ext⟩ (.cell raw .date typ) = .ok e) :
    e = .nil ∨ ∃ s, e = .str s ∧ Time.parseDateOk s = true := by
  by_cases hraw : raw = .nil
  · subst hraw
    cases h; exact .inl rfl
  · obtain ⟨t, hd, h2⟩ := export_via_inv rfl h hraw
    rcases toDate_ok ext raw t hd with rfl | ⟨s, rfl, hs⟩
    · rw [toString_nil] at h2
      cases h2
      exact Or.inl rfl
    · rw [toString_str] at h2
      cases h2
      exact Or.inr ⟨s, rfl, hs⟩

theorem date_column_class (ext : Ext) (raw : Dyn) (typ : Ty) (e : Dyn)
    (h : exportVal ⟨genTables, ext⟩ (.cell raw .date typ) = .ok e) :
    e = .nil ∨ ∃ s, e = .str s ∧ LineSpec.isDateText s = true :=
  (date_export_class ext raw typ e h).imp_right fun ⟨s, hs, hp⟩ => ⟨s, hs, parseDateOk_shape hp⟩

/-! ### `ToTime` and the date-time column -/

/-- The offsets the `Z07:00` verb writes as `Z` or `±HH:MM`: below 100 h (`isZoneText_formatZone`). -/
def OffsetOK (off : Int) : Prop := off.natAbs < 360000

/-- The process time zone is `time.Local`, consulted by `time.Unix`. -/
def ZoneOK (ext : Ext) : Prop := ∀ sec off, ext.zoneOffset sec = some off → OffsetOK off

def TimeSrcOK (v : Dyn) : Prop := ∀ t, v = .time t → OffsetOK t.off

def TimeClass (r : Dyn) : Prop := r = .nil ∨ ∃ t, r = .time t ∧ OffsetOK t.off

theorem toTime_class (ext : Ext) (hext : ZoneOK ext) (v r : Dyn) (hv : TimeSrcOK v)
    (h : castNamed genTables ext "ToTime" v = .ok r) : TimeClass r := by
  obtain ⟨-, rfl⟩ | ⟨t, rfl, ho⟩ := toTime_ok ext v r h
  · exact .inl rfl
  · refine .inr ⟨t, rfl, ?_⟩
    cases ho with
    | self => exact hv t rfl
    | str hp | bytes hp => have := (Time.parseRFC3339_off hp).2; unfold OffsetOK; omega
    | unix _ hz => exact hext _ _ hz

/-- The offsets that reach the `Z07:00` verb from outside a text are that of the process zone
    (`ext.zoneOffset`, where it answers) and that of a raw `time.Time`; both bounds are needed
    (`datetime_raw_offset_bound_needed`, `datetime_zone_offset_bound_needed`). -/
theorem datetime_column_class (ext : Ext) (raw : Dyn) (typ : Ty) (e : Dyn)
    (hext : ∀ sec off, ext.zoneOffset sec = some off → off.natAbs < 360000)
    (hraw : ∀ t, raw = .time t → t.off.natAbs < 360000)
    (h : exportVal ⟨genTables, ext⟩ (.cell raw .datetime typ) = .ok e) :
    e = .nil ∨ ∃ s, e = .str s ∧ LineSpec.isDateTimeText s = true := by
  by_cases hnil : raw = .nil
  · subst hnil
    cases h
    exact .inl rfl
  · obtain ⟨t, hd, h2⟩ := export_via_inv rfl h hnil
    rcases toTime_class ext hext raw t hraw hd with rfl | ⟨tm, rfl, hoff⟩
    · rw [toString_nil] at h2
      cases h2
      exact .inl rfl
    · obtain ⟨rfl, h0, h1⟩ := toString_time_inv ext tm e h2
      exact .inr ⟨_, rfl, formatRFC3339_shape tm h0 h1 hoff⟩


/-! ### A time in a date / date-time column; non-vacuity; the offset hypotheses are needed -/

theorem toTime_of_int64 (ext : Ext) (x off : Int) (hz : ext.zoneOffset x = some off)
    (hlo : -(2 ^ 62 : Int) < x) (hhi : x < 2 ^ 62) :
    castNamed genTables ext "ToTime" (.int .i64 x) = .ok (.time ⟨x, 0, off⟩) :=
  toTime_i64 ext x off hz ⟨hlo, hhi⟩

theorem toString_of_time (ext : Ext) (t : GoTime) (h0 : 0 ≤ Time.year t) (h1 : Time.year t ≤ 9999) :
    castNamed genTables ext "ToString" (.time t) = .ok (.str (Time.formatRFC3339 t)) :=
  toString_time ext t h0 h1

theorem date_column_of_time (ext : Ext) (t : GoTime) (typ : Ty)
    (h0 : 0 ≤ Time.year t) (h1 : Time.year t ≤ 9999) :
    exportVal ⟨genTables, ext⟩ (.cell (.time t) .date typ) = .ok (.str (Time.formatDate t)) :=
  export_via (f := .date) rfl (toDate_time ext t h0 h1) (toString_str ext _) nofun

theorem datetime_column_of_time (ext : Ext) (t : GoTime) (typ : Ty)
    (h0 : 0 ≤ Time.year t) (h1 : Time.year t ≤ 9999) :
    exportVal ⟨genTables, ext⟩ (.cell (.time t) .datetime typ) = .ok (.str (Time.formatRFC3339 t)) :=
  export_via (f := .datetime) rfl (toTime_time ext t) (toString_time ext t h0 h1) nofun

/-- The epoch in a date column: `"1970-01-01"`. -/
theorem date_column_epoch :
    exportVal ⟨genTables, Ext.empty⟩ (.cell (.time ⟨0, 0, 0⟩) .date .time) =
      .ok (.str [0x31, 0x39, 0x37, 0x30, 0x2D, 0x30, 0x31, 0x2D, 0x30, 0x31]) := by
  rw [date_column_of_time _ _ _ (by decide +kernel) (by decide +kernel)]
  exact congrArg (fun s => Outcome.ok (Dyn.str s)) (by decide +kernel)

example : ∃ e, exportVal ⟨genTables, Ext.empty⟩ (.cell (.time ⟨0, 0, 0⟩) .date .time) = .ok e ∧
    ∃ s, e = .str s ∧ LineSpec.isDateText s = true := by
  refine ⟨_, date_column_epoch, _, rfl, ?_⟩
  decide

/-- The epoch in a date-time column: `"1970-01-01T00:00:00Z"`. -/
theorem datetime_column_epoch :
    exportVal ⟨genTables, Ext.empty⟩ (.cell (.time ⟨0, 0, 0⟩) .datetime .time) =
      .ok (.str [0x31, 0x39, 0x37, 0x30, 0x2D, 0x30, 0x31, 0x2D, 0x30, 0x31, 0x54,
        0x30, 0x30, 0x3A, 0x30, 0x30, 0x3A, 0x30, 0x30, 0x5A]) := by
  rw [datetime_column_of_time _ _ _ (by decide +kernel) (by decide +kernel)]
  exact congrArg (fun s => Outcome.ok (Dyn.str s)) (by decide +kernel)

example : ∃ e, exportVal ⟨genTables, Ext.empty⟩ (.cell (.time ⟨0, 0, 0⟩) .datetime .time) = .ok e ∧
    (∀ sec off, Ext.empty.zoneOffset sec = some off → off.natAbs < 360000) ∧
    (∀ t, Dyn.time ⟨0, 0, 0⟩ = .time t → t.off.natAbs < 360000) ∧
    ∃ s, e = .str s ∧ LineSpec.isDateTimeText s = true := by
  refine ⟨_, datetime_column_epoch, ?_, ?_, _, rfl, ?_⟩
  · intro sec off h; cases h
  · intro t h; cases h; decide
  · decide

def extPlus1 : Ext := { Ext.empty with zoneOffset := fun _ => some 3600 }

/-- `"1970-01-01T01:00:00+01:00"`: the route through `time.Unix` and `ext.zoneOffset`. -/
theorem datetime_column_int64_plus1 :
    exportVal ⟨genTables, extPlus1⟩ (.cell (.int .i64 0) .datetime .time) =
      .ok (.str [0x31, 0x39, 0x37, 0x30, 0x2D, 0x30, 0x31, 0x2D, 0x30, 0x31, 0x54,
        0x30, 0x31, 0x3A, 0x30, 0x30, 0x3A, 0x30, 0x30, 0x2B, 0x30, 0x31, 0x3A, 0x30, 0x30]) := by
  rw [export_via (f := .datetime) rfl (toTime_of_int64 extPlus1 0 3600 rfl (by decide) (by decide))
    (toString_of_time extPlus1 ⟨0, 0, 3600⟩ (by decide +kernel) (by decide +kernel)) nofun]
  exact congrArg (fun s => Outcome.ok (Dyn.str s)) (by decide +kernel)

example : ∃ e, exportVal ⟨genTables, extPlus1⟩ (.cell (.int .i64 0) .datetime .time) = .ok e ∧
    (∀ sec off, extPlus1.zoneOffset sec = some off → off.natAbs < 360000) ∧
    ∃ s, e = .str s ∧ LineSpec.isDateTimeText s = true := by
  refine ⟨_, datetime_column_int64_plus1, ?_, _, rfl, ?_⟩
  · intro sec off h
    simp only [extPlus1, Option.some.injEq] at h
    subst h
    decide
  · decide

/-- The customary reading of "a zone offset": whole minutes, below 24 h. -/
theorem datetime_column_class_whole_minutes (ext : Ext) (raw : Dyn) (typ : Ty) (e : Dyn)
    (hext : ∀ sec off, ext.zoneOffset sec = some off → off % 60 = 0 ∧ off.natAbs < 86400)
    (hraw : ∀ t, raw = .time t → t.off % 60 = 0 ∧ t.off.natAbs < 86400)
    (h : exportVal ⟨genTables, ext⟩ (.cell raw .datetime typ) = .ok e) :
    e = .nil ∨ ∃ s, e = .str s ∧ LineSpec.isDateTimeText s = true :=
  datetime_column_class ext raw typ e
    (fun sec off hz => by have := (hext sec off hz).2; omega)
    (fun t ht => by have := (hraw t ht).2; omega) h

/-- `1970-01-05T04:00:00+100:00`: the epoch at offset +100 h. -/
def text100h : Bytes :=
  [0x31, 0x39, 0x37, 0x30, 0x2D, 0x30, 0x31, 0x2D, 0x30, 0x35, 0x54,
    0x30, 0x34, 0x3A, 0x30, 0x30, 0x3A, 0x30, 0x30, 0x2B, 0x31, 0x30, 0x30, 0x3A, 0x30, 0x30]

theorem formatRFC3339_100h : Time.formatRFC3339 ⟨0, 0, 360000⟩ = text100h := by decide +kernel

theorem text100h_not_datetime : LineSpec.isDateTimeText text100h = false := by decide

/-- A `time.FixedZone` can carry +100 h; the zone hour then has three digits. -/
theorem datetime_raw_offset_bound_needed :
    exportVal ⟨genTables, Ext.empty⟩ (.cell (.time ⟨0, 0, 360000⟩) .datetime .time) =
      .ok (.str text100h) ∧ LineSpec.isDateTimeText text100h = false := by
  refine ⟨?_, text100h_not_datetime⟩
  rw [datetime_column_of_time _ _ _ (by decide +kernel) (by decide +kernel), formatRFC3339_100h]

def extPlus100 : Ext := { Ext.empty with zoneOffset := fun _ => some 360000 }

theorem datetime_zone_offset_bound_needed :
    exportVal ⟨genTables, extPlus100⟩ (.cell (.int .i64 0) .datetime .time) =
      .ok (.str text100h) ∧ LineSpec.isDateTimeText text100h = false := by
  refine ⟨?_, text100h_not_datetime⟩
  rw [export_via (f := .datetime) rfl (toTime_of_int64 extPlus100 0 360000 rfl (by decide) (by decide))
    (toString_of_time extPlus100 ⟨0, 0, 360000⟩ (by decide +kernel) (by decide +kernel)) nofun,
    formatRFC3339_100h]

end Jl.TimeShape
