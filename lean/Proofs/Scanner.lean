/-
  Proofs.Scanner — the bufio.Scanner port (Model.Scanner) as C07/C08 use it.

  The relation `Turn` lists what one iteration of `Scan`'s loop can do; `scan_succ` rewrites one
  unfolding of `scan` as `t.run (scan … fuel)` for such a turn `t`, and every fact is read off by
  `cases` on it.  `readLoop_facts` collects what the inner read loop can do; `scan_induct` is the
  induction principle for the fuel-independent facts.

  `St.done` is bufio's `s.done`, which only a split function returning `ErrFinalToken` sets; `ScanLines`
  never does, so nothing in the model sets it: the `done` fields and `hd` hypotheses carry `false` along.
-/
import Model.Scanner
import Model.Stream

namespace Jl.Scanner

/-! ### `splitLF` -/

theorem splitLF_append {l : Bytes} (r : Bytes) (h : (0x0A : UInt8) ∉ l) :
    splitLF (l ++ 0x0A :: r) = some (l, r) := by
  induction l with
  | nil => simp [splitLF]
  | cons c l ih =>
    simp only [List.mem_cons, not_or] at h
    have hc : (c == 0x0A) = false := by simpa using Ne.symm h.1
    simp only [List.cons_append, splitLF, hc, Bool.false_eq_true, if_false, ih h.2]

theorem splitLF_some {d l r : Bytes} :
    splitLF d = some (l, r) ↔ d = l ++ 0x0A :: r ∧ (0x0A : UInt8) ∉ l := by
  refine ⟨fun h => ?_, fun ⟨e, h⟩ => e ▸ splitLF_append r h⟩
  induction d generalizing l with
  | nil => simp [splitLF] at h
  | cons c rest ih =>
    unfold splitLF at h
    split at h
    · rename_i hc
      cases h
      simp only [beq_iff_eq] at hc
      simp [hc]
    · rename_i hc
      split at h
      · rename_i l0 r0 hs
        cases h
        obtain ⟨h1, h2⟩ := ih hs
        simp only [beq_iff_eq] at hc
        exact ⟨by rw [h1]; rfl, by simp [h2, Ne.symm hc]⟩
      · cases h

theorem splitLF_none {d : Bytes} : splitLF d = none ↔ (0x0A : UInt8) ∉ d := by
  induction d with
  | nil => simp [splitLF]
  | cons c rest ih =>
    unfold splitLF
    by_cases hc : c = 0x0A
    · simp [hc]
    · have hc' : (c == 0x0A) = false := by simpa using hc
      simp only [hc', Bool.false_eq_true, if_false, List.mem_cons, not_or, ← ih, Ne.symm hc,
        not_false_eq_true, true_and]
      cases splitLF rest <;> simp


/-! ### One iteration of `Scan`'s outer loop -/

/-- `Scan`'s test `s.err != nil`, which in bufio includes io.EOF. -/
def hasErr (s : St) : Bool := s.err.isSome || s.eof

/-- Compaction (`copy(s.buf, s.buf[s.start:s.end])`). -/
def shift (s : St) : St :=
  if s.start > 0 && (s.start + s.buf.length == s.cap || s.start > s.cap / 2) then { s with start := 0 } else s

/-- Buffer doubling; `4096` is bufio's `startBufSize`. -/
def grow (m : Nat) (s : St) : St :=
  { s with cap := min (if s.cap == 0 then 4096 else s.cap * 2) m, start := 0 }

inductive Step
  | ret (r : Option Bytes × St)
  | cont (s : St)

/-- The "read more" part of an iteration; `101`: the read loop gives up (`noProgress`) at the 101st
    consecutive empty read (`maxConsecutiveEmptyReads = 100`). -/
def more (m : Nat) (s : St) : Step :=
  let s1 := shift s
  if s1.start + s1.buf.length == s1.cap then
    if s1.cap ≥ m then .ret (none, { s1 with err := some .tooLong })
    else .cont (readLoop (grow m s1) 101)
  else .cont (readLoop s1 101)

def Step.run (k : St → Option Bytes × St) : Step → Option Bytes × St
  | .ret r => r
  | .cont s => k s

theorem splitLF_drop {d l r : Bytes} (h : splitLF d = some (l, r)) : d.drop (l.length + 1) = r := by
  have := (splitLF_some.mp h).1
  subst this
  rw [show l ++ 10 :: r = (l ++ [10]) ++ r by simp, List.drop_left' (by simp)]

theorem shift_eq (s : St) : ∃ st, shift s = { s with start := st } ∧ (st = s.start ∨ st = 0) ∧
    (st + s.buf.length = s.cap → st = 0) := by
  unfold shift
  split
  · exact ⟨0, rfl, .inr rfl, fun _ => rfl⟩
  · rename_i hc
    simp only [Bool.and_eq_true, Bool.or_eq_true, decide_eq_true_eq, beq_iff_eq, not_and, not_or] at hc
    refine ⟨s.start, rfl, .inl rfl, fun h => ?_⟩
    by_cases h0 : s.start > 0
    · exact absurd h (hc h0).1
    · omega

/-- `tooLong`, `double` and `read` show the state after compaction (`shift_eq`): a full buffer
    (`hfull`) has `start = 0`, and `st` is the compacted start. -/
inductive Turn (m : Nat) (s : St) : Step → Prop
  | done (hd : s.done = true) : Turn m s (.ret (none, s))
  | line (l rest : Bytes) (hb : s.buf = l ++ 0x0A :: rest) (hl : (0x0A : UInt8) ∉ l) :
      Turn m s (.ret (some (dropCR l), { s with buf := rest, start := s.start + (l.length + 1) }))
  | endNone (he : hasErr s = true) (hb : s.buf = []) :
      Turn m s (.ret (none, { s with buf := [], start := 0 }))
  | endLast (hn : (0x0A : UInt8) ∉ s.buf) (he : hasErr s = true) (hb : s.buf ≠ []) :
      Turn m s (.ret (some (dropCR s.buf), { s with buf := [], start := s.start + s.buf.length }))
  | tooLong (hn : (0x0A : UInt8) ∉ s.buf) (he : hasErr s = false)
      (hfull : s.buf.length = s.cap) (hm : m ≤ s.cap) :
      Turn m s (.ret (none, { s with start := 0, err := some .tooLong }))
  | double (he : hasErr s = false) (hfull : s.buf.length = s.cap) (hm : s.cap < m) :
      Turn m s (.cont (readLoop (grow m s) 101))
  | read (st : Nat) (he : hasErr s = false) (hst : st = s.start ∨ st = 0) (hroom : st + s.buf.length ≠ s.cap) :
      Turn m s (.cont (readLoop { s with start := st } 101))

theorem more_turn {m : Nat} {s : St} (hn : (0x0A : UInt8) ∉ s.buf)
    (he : hasErr s = false) : Turn m s (more m s) := by
  obtain ⟨st, e, hst, h0⟩ := shift_eq s
  simp only [more, e, beq_iff_eq, ge_iff_le]
  by_cases hf : st + s.buf.length = s.cap
  · have hst0 := h0 hf
    subst hst0
    by_cases hm : m ≤ s.cap
    · rw [if_pos hf, if_pos hm]; exact .tooLong hn he (by omega) hm
    · rw [if_pos hf, if_neg hm]; exact .double he (by omega) (by omega)
  · rw [if_neg hf]; exact .read st he hst hf

theorem scan_succ (i m fuel : Nat) (s : St) :
    ∃ t, Turn m s t ∧ scan i m (fuel + 1) s = t.run (scan i m fuel) := by
  obtain ⟨buf, start, cap, err, eof, script, done⟩ := s
  unfold scan
  cases done with
  | true => exact ⟨_, .done rfl, by simp [Step.run]⟩
  | false =>
    simp only [Bool.false_eq_true, if_false]
    cases hs : splitLF buf with
    | some p =>
      obtain ⟨l, r⟩ := p
      obtain ⟨h1, h2⟩ := splitLF_some.mp hs
      have hne : buf.length > 0 := by rw [h1]; simp; omega
      refine ⟨_, .line l r h1 h2, ?_⟩
      simp [scanLines, hs, hne, splitLF_drop hs, Step.run, List.isEmpty_iff, List.ne_nil_of_length_pos hne]
    | none =>
      have hn := splitLF_none.mp hs
      cases he : (err.isSome || eof) with
      | true =>
        by_cases hb : buf = []
        · refine ⟨_, .endNone he hb, ?_⟩
          simp [scanLines, hb, Step.run]
        · have hne : buf.length > 0 := List.length_pos_iff.mpr hb
          refine ⟨_, .endLast hn he hb, ?_⟩
          simp [scanLines, hs, hb, Step.run, hne, List.isEmpty_iff]
      | false =>
        refine ⟨_, more_turn hn he, ?_⟩
        have hrun : ∀ (c : Prop) [Decidable c] (a b : Step),
            (if c then a else b).run (scan i m fuel) =
              if c then a.run (scan i m fuel) else b.run (scan i m fuel) := by
          intro c _ a b; split <;> rfl
        simp only [scanLines, hs, Bool.or_false, Bool.false_and, Bool.false_eq_true, if_false,
          more, shift, grow, hrun]
        simp only [Step.run]
        by_cases hb : buf.length > 0
        · simp only [hb, decide_true, if_true]
        · simp only [hb, decide_false, Bool.false_eq_true, if_false]


/-! ### The inner read loop -/

/-- The bytes the reader will still deliver before its first error. -/
def scriptBytes : List ReadEv → Bytes
  | [] => []
  | .data bs :: rest => bs ++ scriptBytes rest
  | .dataErr bs :: _ => bs
  | .err :: _ => []
  | .empty :: rest => scriptBytes rest

def pending (s : St) : Bytes := s.buf ++ scriptBytes s.script

theorem readOnce_eof {sp : Nat} {sc rest : List ReadEv} (h : readOnce sp sc = (.eof, rest)) :
    sc = [] ∧ rest = [] := by
  revert h
  fun_cases readOnce sp sc <;> rintro ⟨⟩
  exact ⟨rfl, rfl⟩

theorem readOnce_got {sp : Nat} {sc rest : List ReadEv} {bs : Bytes} {e : Bool}
    (h : readOnce sp sc = (.got bs e, rest)) :
    rest.length ≤ sc.length ∧ bs.length ≤ sp ∧
    (e = false → scriptBytes sc = bs ++ scriptBytes rest) ∧
    (rest.length < sc.length ∨ (bs.length = sp ∧ e = false ∧ sc ≠ [] ∧ rest ≠ [])) := by
  -- the branches of `readOnce`: a `data` chunk that fits, one cut at the free space, the same two for
  -- `dataErr`, an error alone, an empty read
  revert h
  fun_cases readOnce sp sc <;> rintro ⟨⟩
  · simp [scriptBytes, *]
  · simp only [scriptBytes, List.length_cons, List.length_take]
    refine ⟨Nat.le_refl _, Nat.min_le_left _ _, fun _ => ?_, Or.inr ⟨by omega, by simp⟩⟩
    rw [← List.append_assoc, List.take_append_drop]
  · simp [*]
  · simp only [scriptBytes, List.length_cons, List.length_take]
    refine ⟨Nat.le_refl _, Nat.min_le_left _ _, fun _ => ?_, Or.inr ⟨by omega, by simp⟩⟩
    rw [List.take_append_drop]
  · simp
  · simp [scriptBytes]


/-- `progress` is what lowers the bound of `Turn.cont_rank`. -/
structure ReadFacts (s s' : St) : Prop where
  start : s'.start = s.start
  cap : s'.cap = s.cap
  done : s'.done = s.done
  script_le : s'.script.length ≤ s.script.length
  err_none : s'.err = none → s.err = none
  err_some : s.err.isSome = true → s'.err.isSome = true
  eof_mono : s.eof = true → s'.eof = true
  buf_len : s.buf.length ≤ s'.buf.length
  pending : s'.err = none → pending s' = pending s
  wf : (s.eof = true → s.script = []) → (s'.eof = true → s'.script = [])
  inv : s.start + s.buf.length ≤ s.cap → s'.start + s'.buf.length ≤ s'.cap
  progress : s'.err = none → s'.eof = false →
    s.buf.length < s'.buf.length ∧
      (s'.script.length < s.script.length ∨ s'.start + s'.buf.length = s'.cap)

theorem readLoop_facts (s : St) (n : Nat) : ReadFacts s (readLoop s n) := by
  -- along the branches of `readLoop`: out of tries, EOF, bytes with an error, bytes, an empty read
  fun_induction readLoop s n with
  | case1 s =>
    -- the fields in order: start cap done script_le err_none err_some eof_mono buf_len pending wf inv progress
    exact ⟨rfl, rfl, rfl, Nat.le_refl _, nofun, fun _ => rfl, id, Nat.le_refl _, nofun, id, id,
      nofun⟩
  | case2 s n space rest hr =>
    obtain ⟨h1, rfl⟩ := readOnce_eof hr
    exact ⟨rfl, rfl, rfl, Nat.zero_le _, id, id, fun _ => rfl, Nat.le_refl _,
      fun _ => by rw [pending, pending, h1], fun _ _ => rfl, id, fun _ => nofun⟩
  | case3 s n space bs rest s1 hr =>
    obtain ⟨g1, g2, g3, g4⟩ := readOnce_got hr
    refine ⟨rfl, rfl, rfl, g1, nofun, fun _ => rfl, id, ?_, nofun, ?_, ?_, nofun⟩
    · simp [s1]  -- buf_len
    · intro hw he  -- wf
      have := hw he; simp [this, readOnce] at hr
    · intro hi; simp only [s1, List.length_append]; omega  -- inv
  | case4 s n space bs e rest hr s1 he hpos =>
    obtain rfl : e = false := by simpa using he
    obtain ⟨g1, g2, g3, g4⟩ := readOnce_got hr
    refine ⟨rfl, rfl, rfl, g1, id, id, id, ?_, ?_, ?_, ?_, ?_⟩
    · simp [s1]  -- buf_len
    · intro _; simp [s1, pending, g3]  -- pending
    · intro hw he  -- wf
      have := hw he; simp [this, readOnce] at hr
    · intro hi; simp only [s1, List.length_append]; omega  -- inv
    · intro _ _  -- progress
      simp only [s1, List.length_append]
      refine ⟨by omega, ?_⟩
      rcases g4 with g4 | g4
      · left; exact g4
      · right; omega
  | case5 s n space bs e rest hr s1 he _ ih =>
    obtain rfl : e = false := by simpa using he
    obtain ⟨g1, g2, g3, g4⟩ := readOnce_got hr
    have hb : s.buf.length ≤ s1.buf.length := by simp [s1]
    constructor
    · exact ih.start
    · exact ih.cap
    · exact ih.done
    · exact Nat.le_trans ih.script_le g1
    · exact ih.err_none
    · exact ih.err_some
    · exact ih.eof_mono
    · exact Nat.le_trans hb ih.buf_len
    · intro h0; rw [ih.pending h0]; simp [s1, pending, g3]
    · intro hw; apply ih.wf; intro he
      have := hw he; simp [this, readOnce] at hr
    · intro hi; apply ih.inv; simp only [s1, List.length_append]; omega
    · intro h0 h1
      obtain ⟨p1, p2⟩ := ih.progress h0 h1
      refine ⟨Nat.lt_of_le_of_lt hb p1, ?_⟩
      rcases p2 with p2 | p2
      · left; exact Nat.lt_of_lt_of_le p2 g1
      · right; exact p2


/-! ### Induction over the iterations; the state an iteration hands to the read loop -/

theorem scan_induct (i m : Nat) (P : St → Option Bytes × St → Prop)
    (h0 : ∀ s, P s (none, s))
    (hret : ∀ s r, Turn m s (.ret r) → P s r)
    (hcont : ∀ s s1 f, Turn m s (.cont s1) → P s1 (scan i m f s1) → P s (scan i m f s1)) :
    ∀ fuel s, P s (scan i m fuel s) := by
  intro fuel
  induction fuel with
  | zero => intro s; exact h0 s
  | succ f ih =>
    intro s
    obtain ⟨t, ht, e⟩ := scan_succ i m f s
    rw [e]
    cases t with
    | ret r => exact hret s r ht
    | cont s1 => exact hcont s s1 f ht (ih s1)

theorem grow_cap {m : Nat} {s : St} (h : s.cap < m) : s.cap < (grow m s).cap ∧ (grow m s).cap ≤ m := by
  simp only [grow]
  by_cases h0 : s.cap = 0
  · simp only [h0, beq_self_eq_true, if_true]; omega
  · have : (s.cap == 0) = false := by simpa using h0
    simp only [this, Bool.false_eq_true, if_false]; omega

/-- `s0` is what an iteration from `s` hands to the read loop: `s` compacted, and its buffer doubled
    when it was full. -/
structure Refill (m : Nat) (s s0 : St) : Prop where
  buf : s0.buf = s.buf
  err : s0.err = s.err
  eof : s0.eof = s.eof
  script : s0.script = s.script
  done : s0.done = s.done
  cap_le : s.cap ≤ s0.cap
  cap_max : s.cap ≤ m → s0.cap ≤ m
  room : s.start + s.buf.length ≤ s.cap → s0.start + s0.buf.length < s0.cap

theorem Refill.pending {m : Nat} {s s0 : St} (r : Refill m s s0) : pending s0 = pending s := by
  show s0.buf ++ scriptBytes s0.script = s.buf ++ scriptBytes s.script
  rw [r.buf, r.script]

theorem Turn.refill {m : Nat} {s s1 : St} (h : Turn m s (.cont s1)) :
    s.err = none ∧ s.eof = false ∧ ∃ s0, Refill m s s0 ∧ s1 = readLoop s0 101 := by
  cases h with
  | double he hfull hm =>
    have he' : s.err = none ∧ s.eof = false := by simpa [hasErr] using he
    have hg := grow_cap hm
    refine ⟨he'.1, he'.2, grow m s, ⟨rfl, rfl, rfl, rfl, rfl, Nat.le_of_lt hg.1, fun _ => hg.2, fun _ => ?_⟩, rfl⟩
    show 0 + s.buf.length < (grow m s).cap
    omega
  | read st he hst hroom =>
    have he' : s.err = none ∧ s.eof = false := by simpa [hasErr] using he
    refine ⟨he'.1, he'.2, { s with start := st }, ⟨rfl, rfl, rfl, rfl, rfl, Nat.le_refl _, id, fun hi => ?_⟩, rfl⟩
    show st + s.buf.length < s.cap
    rcases hst with rfl | rfl <;> omega

/-! ### An error and the EOF mark are sticky, and the other fuel-independent facts about `scan` -/

structure ScanFacts (s : St) (r : Option Bytes × St) : Prop where
  done : r.2.done = s.done
  cap : s.cap ≤ r.2.cap
  err_sticky : ∀ e, s.err = some e → r.2.err = some e
  eof_sticky : s.eof = true → r.2.eof = true
  wf : (s.eof = true → s.script = []) → (r.2.eof = true → r.2.script = [])
  conserve : (s.eof = true → s.script = []) → r.2.err = none → ∀ tok, r.1 = some tok →
    ∃ raw, tok = dropCR raw ∧ (0x0A : UInt8) ∉ raw ∧
      ((pending s = raw ++ 0x0A :: pending r.2) ∨
       (raw ≠ [] ∧ pending s = raw ∧ pending r.2 = [] ∧ r.2.eof = true))

theorem scan_facts (i m fuel : Nat) (s : St) : ScanFacts s (scan i m fuel s) := by
  apply scan_induct i m ScanFacts
  · intro s; exact ⟨rfl, Nat.le_refl _, fun _ h => h, id, id, fun _ _ _ h => by cases h⟩
  · intro s r h
    cases h with
    | done => exact ⟨rfl, Nat.le_refl _, fun _ h => h, id, id, fun _ _ _ h => by cases h⟩
    | line l rest h1 h2 =>
      refine ⟨rfl, Nat.le_refl _, fun _ h => h, id, id, fun _ _ tok ht => ?_⟩
      cases ht
      exact ⟨l, rfl, h2, .inl (by simp [pending, h1])⟩
    | endNone => exact ⟨rfl, Nat.le_refl _, fun _ h => h, id, id, fun _ _ _ h => by cases h⟩
    | endLast hn hE hb =>
      refine ⟨rfl, Nat.le_refl _, fun _ h => h, id, id, fun hwf he tok ht => ?_⟩
      cases ht
      have he' : s.err = none := he
      have heof : s.eof = true := by simpa [hasErr, he'] using hE
      have hsc := hwf heof
      exact ⟨s.buf, rfl, hn, .inr ⟨hb, by simp [pending, hsc, scriptBytes],
        by simp [pending, hsc, scriptBytes], heof⟩⟩
    | tooLong _ he =>
      refine ⟨rfl, Nat.le_refl _, ?_, id, id, fun _ _ _ h => by cases h⟩
      intro e he'; simp [hasErr, he'] at he
  · intro s s1 f h ih
    obtain ⟨he, heof, s0, r, rfl⟩ := h.refill
    have rf := readLoop_facts s0 101
    have hwf1 : (readLoop s0 101).eof = true → (readLoop s0 101).script = [] :=
      rf.wf fun h' => by rw [r.eof, heof] at h'; cases h'
    refine ⟨?_, ?_, ?_, ?_, fun _ => ih.wf hwf1, fun _ he' tok ht => ?_⟩
    · rw [ih.done, rf.done, r.done]
    · exact Nat.le_trans (Nat.le_trans r.cap_le (Nat.le_of_eq rf.cap.symm)) ih.cap
    · intro e h'; rw [he] at h'; cases h'  -- err_sticky
    · intro h'; rw [heof] at h'; cases h'  -- eof_sticky
    · -- conserve: the read loop met no error (it would have stuck), so it kept the pending bytes
      have he1 : (readLoop s0 101).err = none := by
        cases h1 : (readLoop s0 101).err with
        | none => rfl
        | some e => rw [ih.err_sticky e h1] at he'; cases he'
      rw [← r.pending, ← rf.pending he1]
      exact ih.conserve hwf1 he' tok ht

theorem scan_err_sticky (i m fuel : Nat) (s : St) (e : ScanErr) (h : s.err = some e) :
    (scan i m fuel s).2.err = some e := (scan_facts i m fuel s).err_sticky e h

theorem scan_err_none (i m fuel : Nat) (s : St) (h : (scan i m fuel s).2.err = none) : s.err = none := by
  cases he : s.err with
  | none => rfl
  | some e => rw [scan_err_sticky i m fuel s e he] at h; cases h

theorem scan_eof_sticky (i m fuel : Nat) (s : St) (h : s.eof = true) :
    (scan i m fuel s).2.eof = true := (scan_facts i m fuel s).eof_sticky h

theorem readLoop_err_none (s : St) (n : Nat) (h : (readLoop s n).err = none) : s.err = none :=
  (readLoop_facts s n).err_none h

theorem readLoop_err_some (s : St) (n : Nat) (h : s.err.isSome = true) : (readLoop s n).err.isSome = true :=
  (readLoop_facts s n).err_some h

theorem readLoop_eof_sticky (s : St) (n : Nat) (h : s.eof = true) : (readLoop s n).eof = true :=
  (readLoop_facts s n).eof_mono h


/-! ### `scan` returns `none` only for a reason -/

theorem hasErr_scan (i m fuel : Nat) (s : St) (h : hasErr s = true) : hasErr (scan i m fuel s).2 = true := by
  simp only [hasErr, Bool.or_eq_true] at h ⊢
  rcases h with h | h
  · left
    obtain ⟨e, he⟩ := Option.isSome_iff_exists.mp h
    rw [scan_err_sticky i m fuel s e he]; rfl
  · right; exact scan_eof_sticky i m fuel s h

theorem grow_pow {m d : Nat} {s : St} (h : s.cap < m) (hd : m ≤ s.cap * 2 ^ d) :
    ∃ d', d = d' + 1 ∧ m ≤ (grow m s).cap * 2 ^ d' := by
  cases d with
  | zero => simp at hd; omega
  | succ d' =>
    refine ⟨d', rfl, ?_⟩
    have hc : s.cap ≠ 0 := by intro h0; rw [h0] at hd; simp at hd; omega
    have : (s.cap == 0) = false := by simpa using hc
    simp only [grow, this, Bool.false_eq_true, if_false]
    have hp : 0 < 2 ^ d' := Nat.pow_pos (by decide)
    by_cases hm : s.cap * 2 ≤ m
    · rw [Nat.min_eq_left hm, Nat.mul_assoc, ← Nat.pow_succ']; exact hd
    · rw [Nat.min_eq_right (by omega)]; exact Nat.le_mul_of_pos_right _ hp

theorem scan_hasErr_buf (i m f : Nat) (s : St) (he : hasErr s = true) (hd : s.done = false)
    (hn : (scan i m (f + 1) s).1 = none) : (scan i m (f + 1) s).2.buf = [] := by
  obtain ⟨t, ht, e⟩ := scan_succ i m f s
  rw [e] at hn ⊢
  cases ht with
  | done h1 => rw [hd] at h1; cases h1
  | line => cases hn
  | endNone => rfl
  | endLast => cases hn
  | tooLong _ he' => rw [he] at he'; cases he'
  | double he' => rw [he] at he'; cases he'
  | read _ he' => rw [he] at he'; cases he'

/-- A bound on the iterations `scan` still needs: two per reader event, one per buffer doubling
    left (`d`), `a` for a pending compaction, `b` for a refill of the free space.  An iteration that
    goes on reading and meets neither an error nor EOF lowers it. -/
theorem Turn.cont_rank {m : Nat} {s s1 : St} {d a b : Nat} (h : Turn m s (.cont s1))
    (he1 : s1.err = none) (heof1 : s1.eof = false) (hpow : m ≤ s.cap * 2 ^ d)
    (ha : s.start > 0 → 1 ≤ a) (hb : s.start + s.buf.length ≠ s.cap → 1 ≤ b) :
    ∃ d' a' b', m ≤ s1.cap * 2 ^ d' ∧ (s1.start > 0 → 1 ≤ a') ∧
      (s1.start + s1.buf.length ≠ s1.cap → 1 ≤ b') ∧
      2 * s1.script.length + d' + a' + b' < 2 * s.script.length + d + a + b := by
  cases h with
  | double _ hfull hm =>
    have rf := readLoop_facts (grow m s) 101
    obtain ⟨-, p2⟩ := rf.progress he1 heof1
    obtain ⟨d', rfl, hd'⟩ := grow_pow hm hpow
    have hstart : (readLoop (grow m s) 101).start = 0 := rf.start
    have hscr : (grow m s).script = s.script := rfl
    have hle := rf.script_le
    rw [hscr] at p2 hle
    refine ⟨d', 0, if (readLoop (grow m s) 101).script.length < s.script.length then 1 else 0,
      by rw [rf.cap]; exact hd', by rw [hstart]; omega, fun hne => ?_, ?_⟩
    · rw [if_pos (p2.resolve_right hne)]; exact Nat.le_refl _
    · split <;> omega
  | read st _ f7 hnf =>
    have rf := readLoop_facts { s with start := st } 101
    obtain ⟨-, p2⟩ := rf.progress he1 heof1
    have hle := rf.script_le
    simp only [] at p2 hle
    have hst : (readLoop { s with start := st } 101).start = st := rf.start
    have hcap : m ≤ (readLoop { s with start := st } 101).cap * 2 ^ d := by rw [rf.cap]; exact hpow
    rcases p2 with p2 | p2
    · refine ⟨d, a, 1, hcap, ?_, fun _ => Nat.le_refl _, by omega⟩
      rw [hst]; rcases f7 with f7 | f7 <;> rw [f7]
      · exact ha
      · omega
    · by_cases hs0 : st = s.start
      · have hb1 := hb (by rw [← hs0]; exact hnf)
        refine ⟨d, a, 0, hcap, ?_, fun h => absurd p2 h, by omega⟩
        rw [hst, hs0]; exact ha
      · have h00 : st = 0 := f7.resolve_left hs0
        have ha1 := ha (by omega)
        refine ⟨d, 0, 0, hcap, ?_, fun h => absurd p2 h, by omega⟩
        rw [hst, h00]; omega

theorem scan_none_reason_aux (i m : Nat) : ∀ (fuel : Nat) (s : St) (d a b : Nat),
    s.done = false → m ≤ s.cap * 2 ^ d → (s.start > 0 → 1 ≤ a) →
    (s.start + s.buf.length ≠ s.cap → 1 ≤ b) →
    2 * s.script.length + d + a + b + 2 ≤ fuel →
    (scan i m fuel s).1 = none →
    hasErr (scan i m fuel s).2 = true ∧ ((scan i m fuel s).2.err = none → (scan i m fuel s).2.buf = []) := by
  intro fuel
  induction fuel with
  | zero => intro s d a b _ _ _ _ hf; omega
  | succ f ih =>
    intro s d a b hd hpow ha hb hf
    obtain ⟨st, t, e⟩ := scan_succ i m f s
    rw [e]
    cases st with
    | ret r =>
      simp only [Step.run]
      intro hn
      cases t with
      | done h1 => rw [hd] at h1; cases h1
      | line => cases hn
      | endNone he => exact ⟨by simpa [hasErr] using he, fun _ => rfl⟩
      | endLast => cases hn
      | tooLong => exact ⟨by simp [hasErr], fun h => by simp at h⟩
    | cont s1 =>
      simp only [Step.run]
      have hd1 : s1.done = false := by
        obtain ⟨-, -, s0, r, rfl⟩ := t.refill
        rw [(readLoop_facts s0 101).done, r.done]; exact hd
      by_cases he1 : hasErr s1 = true
      · intro hn
        obtain ⟨f', rfl⟩ : ∃ f', f = f' + 1 := ⟨f - 1, by omega⟩
        exact ⟨hasErr_scan i m _ s1 he1, fun _ => scan_hasErr_buf i m f' s1 he1 hd1 hn⟩
      · have he1' : s1.err = none ∧ s1.eof = false := by simpa [hasErr] using he1
        obtain ⟨d', a', b', h1, h2, h3, h4⟩ := Turn.cont_rank t he1'.1 he1'.2 hpow ha hb
        exact ih s1 d' a' b' hd1 h1 h2 h3 (by omega)
/-- `d` bounds the number of buffer doublings still possible. -/
theorem scan_none_reason (i m fuel : Nat) (s : St) (d : Nat)
    (hd : s.done = false) (hpow : m ≤ s.cap * 2 ^ d)
    (hf : 2 * s.script.length + d + 4 ≤ fuel)
    (hn : (scan i m fuel s).1 = none) :
    (scan i m fuel s).2.err.isSome = true ∨ (scan i m fuel s).2.eof = true := by
  have := (scan_none_reason_aux i m fuel s d 1 1 hd hpow (fun _ => Nat.le_refl _) (fun _ => Nat.le_refl _)
    (by omega) hn).1
  simpa [hasErr] using this

def WF (s : St) : Prop := s.eof = true → s.script = []

theorem WF_init (n : Nat) (sc : List ReadEv) : WF (init n sc) := by intro h; cases h

theorem WF_scan (i m fuel : Nat) (s : St) (h : WF s) : WF (scan i m fuel s).2 :=
  (scan_facts i m fuel s).wf h

theorem scan_none_clean (i m fuel : Nat) (s : St) (d : Nat)
    (hd : s.done = false) (hpow : m ≤ s.cap * 2 ^ d)
    (hf : 2 * s.script.length + d + 4 ≤ fuel) (hwf : WF s)
    (hn : (scan i m fuel s).1 = none) (he : (scan i m fuel s).2.err = none) :
    (scan i m fuel s).2.eof = true ∧ (scan i m fuel s).2.script = [] ∧ (scan i m fuel s).2.buf = [] := by
  have h := scan_none_reason_aux i m fuel s d 1 1 hd hpow (fun _ => Nat.le_refl _) (fun _ => Nat.le_refl _)
    (by omega) hn
  have heof : (scan i m fuel s).2.eof = true := by
    have := h.1; simpa [hasErr, he] using this
  exact ⟨heof, WF_scan i m fuel s hwf heof, h.2 he⟩

/-- The fuel `Model.Stream.loop` gives `scan`, written there as a literal (so a statement with the
    literal and one with `scanFuel` are the same by `show`).  The constants are generous: `loop_fuel_ok`
    uses 2 per script event and 204, which covers 200 buffer doublings (64 KiB → 10 MiB needs 8). -/
def scanFuel (st : St) : Nat := st.script.length * 103 + st.buf.length + 210

theorem loop_fuel_ok (s : St) : 2 * s.script.length + 200 + 4 ≤ scanFuel s := by
  unfold scanFuel; omega


/-! ### Conservation: each token is exactly the next line of the pending bytes -/

theorem scan_conserve (i m fuel : Nat) (s s' : St) (tok : Bytes) (hwf : WF s)
    (h : scan i m fuel s = (some tok, s')) (he : s'.err = none) :
    ∃ raw, tok = dropCR raw ∧ (0x0A : UInt8) ∉ raw ∧
      ((pending s = raw ++ 0x0A :: pending s') ∨
       (raw ≠ [] ∧ pending s = raw ∧ pending s' = [] ∧ s'.eof = true)) := by
  have := (scan_facts i m fuel s).conserve hwf
  rw [h] at this
  exact this he tok rfl


/-! ### Chunk independence for fault-free scripts within the limit -/

/-- The script has no error events and never more than `k` (then 100) consecutive empty reads. -/
def Calm : Nat → List ReadEv → Prop
  | _, [] => True
  | k, .data bs :: rest => if bs = [] then 1 ≤ k ∧ Calm (k - 1) rest else Calm 100 rest
  | k, .empty :: rest => 1 ≤ k ∧ Calm (k - 1) rest
  | _, .dataErr _ :: _ => False
  | _, .err :: _ => False

/-- Each line with its LF fits in `m` bytes, and the final unterminated line is shorter than `m`. -/
def LinesFit (m : Nat) (bs : Bytes) : Prop :=
  ∀ seg, seg <:+: bs → (0x0A : UInt8) ∉ seg → seg.length < m

theorem LinesFit.infix {m : Nat} {a b : Bytes} (h : LinesFit m b) (hs : a <:+: b) : LinesFit m a :=
  fun seg hseg hn => h seg (List.IsInfix.trans hseg hs) hn

theorem LinesFit.suffix {m : Nat} {a b : Bytes} (h : LinesFit m b) (hs : a <:+ b) : LinesFit m a :=
  h.infix hs.isInfix

theorem readOnce_calm {sp k : Nat} {sc rest : List ReadEv} {bs : Bytes} {e : Bool}
    (h : readOnce sp sc = (.got bs e, rest)) (hsp : 0 < sp) (hc : Calm k sc) :
    e = false ∧ (bs ≠ [] → Calm 100 rest) ∧ (bs = [] → 1 ≤ k ∧ Calm (k - 1) rest) := by
  revert h
  fun_cases readOnce sp sc <;> rintro ⟨⟩
  · refine ⟨rfl, fun hb => ?_, fun hb => ?_⟩ <;> simpa [Calm, hb] using hc
  · rename_i b t hlen
    have hbne : b ≠ [] := by intro h0; simp [h0] at hlen
    have hdrop : b.drop sp ≠ [] := by
      intro h0
      have := congrArg List.length h0
      simp only [List.length_drop, List.length_nil] at this
      omega
    refine ⟨rfl, fun _ => ?_, fun hb => ?_⟩
    · simp only [Calm, hdrop, if_false]
      simpa [Calm, hbne] using hc
    · have := congrArg List.length hb
      simp only [List.length_take, List.length_nil] at this
      omega
  · exact absurd hc (by simp [Calm])
  · exact absurd hc (by simp [Calm])
  · exact absurd hc (by simp [Calm])
  · exact ⟨rfl, fun hb => absurd rfl hb, fun _ => by simpa [Calm] using hc⟩

/-- The last conjunct: EOF is met only with no byte left, so the buffer is as it was
    (`ReadFacts.pending`). -/
theorem readLoop_calm (s : St) (n : Nat) : ∀ k, k < n → s.err = none → Calm k s.script →
    s.start + s.buf.length < s.cap →
    (readLoop s n).err = none ∧ Calm 100 (readLoop s n).script ∧
      (s.eof = false → (readLoop s n).eof = true → scriptBytes s.script = []) := by
  fun_induction readLoop s n with
  | case1 s => intro k hk; omega
  | case2 s n space rest hr =>
    intro k _ he _ _
    obtain ⟨h1, rfl⟩ := readOnce_eof hr
    exact ⟨he, trivial, fun _ _ => by rw [h1]; rfl⟩
  | case3 s n space bs rest s1 hr =>
    intro k _ _ hc hsp
    have := (readOnce_calm hr (by omega) hc).1; cases this
  | case4 s n space bs e rest hr s1 _ hpos =>
    intro k _ he hc hsp
    exact ⟨he, (readOnce_calm hr (by omega) hc).2.1 (List.ne_nil_of_length_pos hpos),
      fun h0 h1 => by rw [show s1.eof = false from h0] at h1; cases h1⟩
  | case5 s n space bs e rest hr s1 _ hlen ih =>
    intro k hk he hc hsp
    obtain rfl : bs = [] := List.eq_nil_of_length_eq_zero (by omega)
    obtain ⟨hk1, hc1⟩ := (readOnce_calm hr (by omega) hc).2.2 rfl
    obtain ⟨g1, g2, g3⟩ := ih (k - 1) (by omega) he hc1 (by simpa [s1] using hsp)
    exact ⟨g1, g2, fun h0 h1 => by rw [(readOnce_got hr).2.2.1 (readOnce_calm hr (by omega) hc).1]; exact g3 h0 h1⟩

/-- A fault-free scanner in the middle of its input.  `eof`: fewer than `m` bytes are left, because
    the read that met EOF had room.  `pow`: at most 200 doublings separate the buffer from the limit,
    so that the streaming loop's fuel suffices (`loop_fuel_ok`). -/
structure Live (m : Nat) (s : St) : Prop where
  err : s.err = none
  done : s.done = false
  inv : s.start + s.buf.length ≤ s.cap
  capm : s.cap ≤ m
  calm : Calm 100 s.script
  eof : s.eof = true → s.script = [] ∧ (pending s).length < m
  pow : m ≤ s.cap * 2 ^ 200

theorem Turn.cont_live {m : Nat} {s s1 : St} (h : Turn m s (.cont s1)) (g : Live m s) :
    Live m s1 ∧ pending s1 = pending s := by
  obtain ⟨-, heof, s0, r, rfl⟩ := h.refill
  have rf := readLoop_facts s0 101
  have hsp := r.room g.inv
  have hc := readLoop_calm s0 101 100 (Nat.lt_succ_self _) (r.err.trans g.err) (by rw [r.script]; exact g.calm) hsp
  have hcap := r.cap_max g.capm
  have hp : pending (readLoop s0 101) = pending s := by rw [rf.pending hc.1, r.pending]
  refine ⟨⟨hc.1, rf.done.trans (r.done.trans g.done), rf.inv (Nat.le_of_lt hsp),
    by rw [rf.cap]; exact hcap, hc.2.1, fun he => ⟨?_, ?_⟩,
    Nat.le_trans g.pow (Nat.mul_le_mul_right _ (Nat.le_trans r.cap_le (Nat.le_of_eq rf.cap.symm)))⟩, hp⟩
  · exact rf.wf (fun h' => by rw [r.eof, heof] at h'; cases h') he
  · rw [hp, ← r.pending, pending, hc.2.2 (r.eof.trans heof) he, List.append_nil]
    omega

/-- What one call of `Scan` answers when `p` is pending, and where it leaves the scanner.  `done`
    carries `0 < m` so that it and `over` exclude each other (`Next.of_over`). -/
inductive Next (m : Nat) (p : Bytes) : Option Bytes × St → Prop
  | line (raw rest : Bytes) (s' : St) (hp : p = raw ++ 0x0A :: rest) (hraw : (0x0A : UInt8) ∉ raw)
      (hlen : raw.length < m) (live : Live m s') (pend : pending s' = rest) :
      Next m p (some (dropCR raw), s')
  | last (s' : St) (hne : p ≠ []) (hp : (0x0A : UInt8) ∉ p) (hlen : p.length < m)
      (live : Live m s') (pend : pending s' = []) : Next m p (some (dropCR p), s')
  | done (s' : St) (hp : p = []) (hm : 0 < m) (err : s'.err = none) (eof : s'.eof = true)
      (script : s'.script = []) (buf : s'.buf = []) : Next m p (none, s')
  | over (s' : St) (hlen : m ≤ p.length) (hp : (0x0A : UInt8) ∉ p.take m)
      (err : s'.err = some .tooLong) (buf : s'.buf = p.take m)
      (script : scriptBytes s'.script = p.drop m) (done : s'.done = false) : Next m p (none, s')

theorem Live.wf {m : Nat} {s : St} (g : Live m s) : WF s := fun h => (g.eof h).1

/-- The fuel-independent half: whatever `scan` answers is `Next`, unless it ran out of fuel (a `none`
    with neither error nor a finished input). -/
theorem scan_next_aux (i m fuel : Nat) (s : St) : Live m s →
    ((scan i m fuel s).1 = none ∧ (scan i m fuel s).2.err = none ∧
      ¬ ((scan i m fuel s).2.eof = true ∧ (scan i m fuel s).2.buf = [])) ∨
    Next m (pending s) (scan i m fuel s) := by
  apply scan_induct i m (fun s r => Live m s →
    (r.1 = none ∧ r.2.err = none ∧ ¬ (r.2.eof = true ∧ r.2.buf = [])) ∨ Next m (pending s) r)
  · intro s g
    by_cases h : s.eof = true ∧ s.buf = []
    · have hs := (g.eof h.1).1
      exact .inr (.done s (by simp [pending, h.2, hs, scriptBytes])
        (Nat.lt_of_le_of_lt (Nat.zero_le _) (g.eof h.1).2) g.err h.1 hs h.2)
    · exact .inl ⟨rfl, g.err, h⟩
  · intro s r h g
    have hlen : s.buf.length ≤ m := by have := g.inv; have := g.capm; omega
    right
    cases h with
    | done hd => rw [g.done] at hd; cases hd
    | line l rest h1 h2 =>
      have hl : l.length + 1 + rest.length = s.buf.length := by rw [h1]; simp; omega
      refine .line l (rest ++ scriptBytes s.script) _ (by simp [pending, h1]) h2 (by omega)
        ⟨g.err, g.done, ?_, g.capm, g.calm, fun he => ⟨(g.eof he).1, ?_⟩, g.pow⟩ rfl
      · have := g.inv; show s.start + (l.length + 1) + rest.length ≤ s.cap; omega  -- inv
      · have := (g.eof he).2  -- eof
        simp only [pending, h1, List.length_append, List.length_cons] at this ⊢; omega
    | endNone he hb =>
      have heof : s.eof = true := by simpa [hasErr, g.err] using he
      have hsc := (g.eof heof).1
      exact .done _ (by simp [pending, hb, hsc, scriptBytes])
        (Nat.lt_of_le_of_lt (Nat.zero_le _) (g.eof heof).2) g.err heof hsc rfl
    | endLast hn he hb =>
      have heof : s.eof = true := by simpa [hasErr, g.err] using he
      obtain ⟨hsc, hlt⟩ := g.eof heof
      have hp : pending s = s.buf := by simp [pending, hsc, scriptBytes]
      rw [hp] at hlt ⊢
      refine .last _ hb hn hlt
        ⟨g.err, g.done, ?_, g.capm, g.calm, fun _ => ⟨hsc, ?_⟩, g.pow⟩ (by simp [pending, hsc, scriptBytes])
      · have := g.inv; show s.start + s.buf.length + 0 ≤ s.cap; omega  -- inv
      · simp only [pending, hsc, scriptBytes, List.append_nil, List.length_nil]; omega  -- eof
    | tooLong hn _ hb hm =>
      have hcap := g.capm
      have hbm : s.buf.length = m := by omega
      refine .over _ (by simp [pending]; omega) ?_ rfl ?_ ?_ g.done
      · rw [pending, List.take_left' hbm]; exact hn
      · show s.buf = _; rw [pending, List.take_left' hbm]
      · show scriptBytes s.script = _; rw [pending, List.drop_left' hbm]
  · intro s s1 f h ih g
    obtain ⟨g1, hp⟩ := Turn.cont_live h g
    rw [← hp]
    exact ih g1

theorem scan_next (i m : Nat) (s : St) (g : Live m s) : Next m (pending s) (scan i m (scanFuel s) s) := by
  rcases scan_next_aux i m (scanFuel s) s g with ⟨hn, he, hx⟩ | h
  · obtain ⟨h1, -, h3⟩ := scan_none_clean i m _ s 200 g.done g.pow (loop_fuel_ok s) g.wf hn he
    exact absurd ⟨h1, h3⟩ hx
  · exact h

/-! ### `Next` is a function of the pending bytes: three inversions -/

theorem mem_take_of_line {m : Nat} {raw rest : Bytes} (h : raw.length < m) :
    (0x0A : UInt8) ∈ (raw ++ 0x0A :: rest).take m := by
  have : raw ++ [0x0A] <+: (raw ++ 0x0A :: rest).take m :=
    List.prefix_take_iff.mpr ⟨⟨rest, by simp⟩, by simp; omega⟩
  exact this.subset (by simp)

theorem Next.of_line {m : Nat} {l rest : Bytes} {r : Option Bytes × St} (hl : (0x0A : UInt8) ∉ l)
    (hlen : l.length < m) (h : Next m (l ++ 0x0A :: rest) r) :
    ∃ s', r = (some (dropCR l), s') ∧ Live m s' ∧ pending s' = rest := by
  cases h with
  | line raw rest' s' hp hraw _ live pend =>
    have h1 : splitLF (l ++ 0x0A :: rest) = some (l, rest) := splitLF_some.mpr ⟨rfl, hl⟩
    rw [splitLF_some.mpr ⟨hp, hraw⟩] at h1
    simp only [Option.some.injEq, Prod.mk.injEq] at h1
    exact ⟨s', by rw [h1.1], live, pend.trans h1.2⟩
  | last s' _ hp => simp at hp
  | done s' hp => simp at hp
  | over s' _ hp => exact absurd (mem_take_of_line hlen) hp

theorem Next.of_short {m : Nat} {p : Bytes} {r : Option Bytes × St} (hp : (0x0A : UInt8) ∉ p)
    (hlen : p.length < m) (h : Next m p r) :
    (p ≠ [] ∧ ∃ s', r = (some (dropCR p), s') ∧ Live m s' ∧ pending s' = []) ∨
    (p = [] ∧ ∃ s', r = (none, s') ∧ s'.err = none) := by
  cases h with
  | line raw rest s' hp' => rw [hp'] at hp; simp at hp
  | last s' hne _ _ live pend => exact .inl ⟨hne, s', rfl, live, pend⟩
  | done s' hp' _ err => exact .inr ⟨hp', s', rfl, err⟩
  | over s' hlen' => omega

theorem Next.of_over {m : Nat} {p : Bytes} {r : Option Bytes × St} (hlen : m ≤ p.length)
    (hp : (0x0A : UInt8) ∉ p.take m) (h : Next m p r) :
    ∃ s', r = (none, s') ∧ s'.err = some .tooLong ∧ s'.buf = p.take m ∧
      scriptBytes s'.script = p.drop m ∧ s'.done = false := by
  cases h with
  | line raw rest s' hp' _ hl => rw [hp'] at hp; exact absurd (mem_take_of_line hl) hp
  | last s' _ _ hl => omega
  | done s' hp' hm =>
    have : p.length = 0 := by rw [hp']; rfl
    omega
  | over s' _ _ err buf script done => exact ⟨s', rfl, err, buf, script, done⟩

/-! #### The specification's line splitting -/

open Jl.Stream in
theorem specLinesAux_stable : ∀ (f g : Nat) (bs : Bytes), bs.length < f → bs.length < g →
    specLinesAux f bs = specLinesAux g bs := by
  intro f
  induction f with
  | zero => intro g bs h; omega
  | succ f ih =>
    intro g bs hf hg
    cases g with
    | zero => omega
    | succ g =>
      unfold specLinesAux
      split
      · rfl
      · cases hs : splitLF bs with
        | none => rfl
        | some p =>
          obtain ⟨l, rest⟩ := p
          have := (splitLF_some.mp hs).1
          have hlen : rest.length < bs.length := by rw [this]; simp; omega
          simp only []
          rw [ih g rest (by omega) (by omega)]

open Jl.Stream in
theorem specLines_nil : specLines [] = [] := by
  simp [specLines, specLinesAux]

open Jl.Stream in
theorem specLines_line (raw rest : Bytes) (h : (0x0A : UInt8) ∉ raw) :
    specLines (raw ++ 0x0A :: rest) = dropCR raw :: specLines rest := by
  have hs : splitLF (raw ++ 0x0A :: rest) = some (raw, rest) := splitLF_some.mpr ⟨rfl, h⟩
  unfold specLines
  rw [specLinesAux]
  have hne : (raw ++ 0x0A :: rest).isEmpty = false := by cases raw <;> rfl
  simp only [hne, Bool.false_eq_true, if_false, hs]
  rw [specLinesAux_stable _ (rest.length + 1) rest (by simp; omega) (by omega)]

open Jl.Stream in
theorem specLines_last (raw : Bytes) (hne : raw ≠ []) (h : (0x0A : UInt8) ∉ raw) :
    specLines raw = [dropCR raw] := by
  have hs : splitLF raw = none := splitLF_none.mpr h
  unfold specLines
  rw [specLinesAux]
  have hne' : raw.isEmpty = false := by cases raw <;> simp_all
  simp only [hne', Bool.false_eq_true, if_false, hs]

/-! #### Iterating `scan` -/

/-- Iterating `scan`, with the fuel the streaming loop uses, yields exactly `lines` and then a clean end. -/
inductive ScansAs (i m : Nat) : St → List Bytes → Prop
  | nil {s s' : St} : scan i m (scanFuel s) s = (none, s') → s'.err = none → ScansAs i m s []
  | cons {s s' : St} {l : Bytes} {ls : List Bytes} : scan i m (scanFuel s) s = (some l, s') →
      s'.err = none → ScansAs i m s' ls → ScansAs i m s (l :: ls)

/-- `ScansAs` is `Scans` and then a clean end (`ScansAs.split`, `Scans.append`);
    `ScannerLimit.ScansTooLong` is `Scans` and then the `tooLong` stop. -/
inductive Scans (i m : Nat) : St → List Bytes → St → Prop
  | nil {s : St} : Scans i m s [] s
  | cons {s s1 s' : St} {l : Bytes} {ls : List Bytes} : scan i m (scanFuel s) s = (some l, s1) →
      s1.err = none → Scans i m s1 ls s' → Scans i m s (l :: ls) s'

theorem ScansAs.split {i m : Nat} : ∀ (pre : List Bytes) {s : St} {rest : List Bytes},
    ScansAs i m s (pre ++ rest) → ∃ s1, Scans i m s pre s1 ∧ ScansAs i m s1 rest
  | [], s, _, h => ⟨s, .nil, h⟩
  | l :: pre, _, _, h => by
    cases h with
    | cons hs he hrest =>
      obtain ⟨s1, h1, h2⟩ := ScansAs.split pre hrest
      exact ⟨s1, .cons hs he h1, h2⟩

theorem Live.init {i m : Nat} (reader : List ReadEv) (hcalm : Calm 100 reader) (hle : i ≤ m)
    (hpow : m ≤ i * 2 ^ 200) : Live m (init i reader) :=
  ⟨rfl, rfl, Nat.zero_le i, hle, hcalm, nofun, hpow⟩

def allData : List ReadEv → Bytes
  | [] => []
  | .data bs :: rest => bs ++ allData rest
  | _ :: rest => allData rest

theorem scriptBytes_of_calm (k : Nat) (sc : List ReadEv) (h : Calm k sc) : scriptBytes sc = allData sc := by
  fun_induction Calm k sc <;> simp_all [scriptBytes, allData]

theorem ScansAs.unique {i m : Nat} {s : St} {l1 l2 : List Bytes} (h1 : ScansAs i m s l1)
    (h2 : ScansAs i m s l2) : l1 = l2 := by
  induction h1 generalizing l2 with
  | nil hs _ =>
    cases h2 with
    | nil => rfl
    | cons hs' => rw [hs] at hs'; cases hs'
  | cons hs _ _ ih =>
    cases h2 with
    | nil hs' => rw [hs] at hs'; cases hs'
    | cons hs' _ hrest =>
      rw [hs] at hs'
      cases hs'
      rw [ih hrest]

end Jl.Scanner

-- `scans_fitting` and `lines_of_fit` below need `joinLF` and `FitLines`, which Proofs.ScannerLimit and
-- Props.C08 cite under `Jl.ScannerLimit`.
namespace Jl.ScannerLimit

def joinLF : List Bytes → Bytes
  | [] => []
  | l :: ls => l ++ 0x0A :: joinLF ls

/-- `Scanner.LinesFit`, which speaks of the bytes, said of a list of lines (`Scanner.lines_of_fit`). -/
def FitLines (m : Nat) (lines : List Bytes) : Prop := ∀ l ∈ lines, (0x0A : UInt8) ∉ l ∧ l.length < m

end Jl.ScannerLimit

namespace Jl.Scanner
open Jl.ScannerLimit Jl.Stream

/-! #### The complete lines the pending bytes start with -/

theorem specLines_joinLF_append : ∀ (lines : List Bytes), (∀ l ∈ lines, (0x0A : UInt8) ∉ l) →
    ∀ rest, specLines (joinLF lines ++ rest) = lines.map dropCR ++ specLines rest
  | [], _, _ => rfl
  | l :: ls, h, rest => by
    simp only [joinLF, List.map_cons, List.cons_append, List.append_assoc]
    rw [specLines_line l _ (h l (by simp)), specLines_joinLF_append ls (fun x hx => h x (by simp [hx]))]


theorem scans_fitting (i m : Nat) (tail : Bytes) : ∀ (lines : List Bytes) (s : St), FitLines m lines →
    Live m s → pending s = joinLF lines ++ tail →
    ∃ s1, Scans i m s (lines.map dropCR) s1 ∧ Live m s1 ∧ pending s1 = tail
  | [], s, _, g, hp => ⟨s, .nil, g, hp⟩
  | l :: ls, s, hfit, g, hp => by
    have hN := scan_next i m s g
    rw [hp, show joinLF (l :: ls) ++ tail = l ++ 0x0A :: (joinLF ls ++ tail) by simp [joinLF]] at hN
    obtain ⟨s', hr, g', hp'⟩ := hN.of_line (hfit l (by simp)).1 (hfit l (by simp)).2
    obtain ⟨s1, h1, h2⟩ := scans_fitting i m tail ls s' (fun x hx => hfit x (by simp [hx])) g' hp'
    exact ⟨s1, .cons hr g'.err h1, h2⟩

theorem pending_init (i : Nat) (reader : List ReadEv) (hcalm : Calm 100 reader) :
    pending (init i reader) = allData reader := by
  simp [pending, init, scriptBytes_of_calm 100 reader hcalm]

theorem Scans.append {i m : Nat} {s s1 : St} {pre rest : List Bytes} (h : Scans i m s pre s1)
    (hr : ScansAs i m s1 rest) : ScansAs i m s (pre ++ rest) := by
  induction h with
  | nil => exact hr
  | cons h1 h2 _ ih => exact .cons h1 h2 (ih hr)

theorem lines_of_fit (m : Nat) : ∀ (n : Nat) (p : Bytes), p.length ≤ n → LinesFit m p →
    ∃ lines last, p = joinLF lines ++ last ∧ FitLines m lines ∧ (0x0A : UInt8) ∉ last ∧ last.length < m := by
  intro n
  induction n with
  | zero =>
    intro p hlen hfit
    have : p = [] := List.eq_nil_of_length_eq_zero (by omega)
    exact ⟨[], [], this, nofun, by simp, hfit [] (List.nil_infix) (by simp)⟩
  | succ n ih =>
    intro p hlen hfit
    cases hs : splitLF p with
    | none => exact ⟨[], p, rfl, nofun, splitLF_none.mp hs, hfit p (List.infix_refl _) (splitLF_none.mp hs)⟩
    | some q =>
      obtain ⟨l, r⟩ := q
      obtain ⟨h1, h2⟩ := splitLF_some.mp hs
      obtain ⟨lines, last, e1, e2, e3⟩ := ih r (by rw [h1] at hlen; simp at hlen; omega)
        (hfit.suffix ⟨l ++ [0x0A], by simp [h1]⟩)
      refine ⟨l :: lines, last, by rw [h1, e1]; simp [joinLF], ?_, e3⟩
      intro x hx
      rcases List.mem_cons.mp hx with rfl | hx
      · exact ⟨h2, hfit x ⟨[], 0x0A :: r, by simp [h1]⟩ h2⟩
      · exact e2 x hx


open Jl.Stream in
/-- `C07.scanner_yields_the_lines`: the tokens are the specification's lines of the concatenated data,
    whatever the chunking and the initial buffer size. -/
theorem A4_chunk_independence (i m : Nat) (reader : List ReadEv)
    (hcalm : Calm 100 reader) (hfit : LinesFit m (allData reader))
    (hle : i ≤ m) (hpow : m ≤ i * 2 ^ 200) :
    ScansAs i m (init i reader) (specLines (allData reader)) := by
  obtain ⟨lines, last, hp, hl, hn, hlen⟩ := lines_of_fit m _ (allData reader) (Nat.le_refl _) hfit
  obtain ⟨s1, hsc, g1, hp1⟩ := scans_fitting i m last lines _ hl (Live.init reader hcalm hle hpow)
    (by rw [pending_init i reader hcalm, hp])
  rw [hp, specLines_joinLF_append lines (fun l h => (hl l h).1)]
  refine hsc.append ?_
  have hN := scan_next i m s1 g1
  rw [hp1] at hN
  rcases hN.of_short hn hlen with ⟨hne, s', hr, g', hp'⟩ | ⟨rfl, s', hr, he⟩
  · rw [specLines_last _ hne hn]
    have hN' := scan_next i m s' g'
    rw [hp'] at hN'
    rcases hN'.of_short (by simp) (Nat.lt_of_le_of_lt (Nat.zero_le _) hlen) with ⟨h, -⟩ | ⟨-, s2, hr2, he2⟩
    · exact absurd rfl h
    · exact .cons hr g'.err (.nil hr2 he2)
  · rw [specLines_nil]; exact .nil hr he


theorem pow_bound {m i k : Nat} (h : m ≤ i * 2 ^ k) (hk : k ≤ 200) : m ≤ i * 2 ^ 200 :=
  Nat.le_trans h (Nat.mul_le_mul_left i (Nat.pow_le_pow_right (by decide) hk))

/-! ### Concrete instances (non-vacuity) -/

section Examples

/-- chunked input, initial buffer 2, limit 4: `a\nb` arrives as `a\n` then `b` -/
private def ex1 : St := init 2 [.data [0x61, 0x0A, 0x62]]
example : (scan 2 4 (scanFuel ex1) ex1).1 = some [0x61] := by decide +kernel
example : (scan 2 4 (scanFuel ex1) ex1).2.err = none := by decide +kernel
private def ex1b : St := (scan 2 4 (scanFuel ex1) ex1).2
example : (scan 2 4 (scanFuel ex1b) ex1b).1 = some [0x62] := by decide +kernel
private def ex1c : St := (scan 2 4 (scanFuel ex1b) ex1b).2
example : (scan 2 4 (scanFuel ex1c) ex1c).1 = none ∧ (scan 2 4 (scanFuel ex1c) ex1c).2.err = none ∧
    (scan 2 4 (scanFuel ex1c) ex1c).2.eof = true := by decide +kernel

/-- a CRLF split over two reads: the first token is `a`, without the CR -/
example : (scan 2 8 40 (init 2 [.data [0x61, 0x0D], .data [0x0A, 0x62]])).1 = some [0x61] := by decide +kernel

/-- the reader fails exactly after a newline: the line is delivered, the next call reports the error -/
private def ex2 : St := init 2 [.data [0x61, 0x0A], .err]
example : (scan 2 4 (scanFuel ex2) ex2).1 = some [0x61] ∧ (scan 2 4 (scanFuel ex2) ex2).2.err = none := by
  decide +kernel
private def ex2b : St := (scan 2 4 (scanFuel ex2) ex2).2
example : (scan 2 4 (scanFuel ex2b) ex2b).1 = none ∧
    (scan 2 4 (scanFuel ex2b) ex2b).2.err = some .io := by decide +kernel

/-- the reader fails at offset 0 -/
example : (scan 2 4 300 (init 2 [.err])).1 = none ∧ (scan 2 4 300 (init 2 [.err])).2.err = some .io := by
  decide +kernel

/-- an over-long line (5 bytes + LF, limit 4) -/
example : (scan 2 4 400 (init 2 [.data [0x61, 0x62, 0x63, 0x64, 0x65, 0x0A]])).1 = none ∧
    (scan 2 4 400 (init 2 [.data [0x61, 0x62, 0x63, 0x64, 0x65, 0x0A]])).2.err = some .tooLong := by
  decide +kernel

/-- a line of exactly limit-1 bytes plus LF fits; an unterminated final line of `limit` bytes does not -/
example : (scan 2 4 400 (init 2 [.data [0x61, 0x62, 0x63, 0x0A]])).1 = some [0x61, 0x62, 0x63] := by decide +kernel
example : (scan 2 4 400 (init 2 [.data [0x61, 0x62, 0x63, 0x64]])).2.err = some .tooLong := by decide +kernel
example : (scan 2 4 400 (init 2 [.data [0x61, 0x62, 0x63]])).1 = some [0x61, 0x62, 0x63] := by decide +kernel

/-- a chunked, stalling reader -/
example : ScansAs 2 4 (init 2 [.data [0x61], .empty, .data [0x0A, 0x62]])
    (Jl.Stream.specLines [0x61, 0x0A, 0x62]) := by
  have := A4_chunk_independence 2 4 [.data [0x61], .empty, .data [0x0A, 0x62]]
    (by simp [Calm])
    (by intro seg hseg _; have := hseg.length_le; simp [allData] at this; omega)
    (by decide +kernel) (pow_bound (k := 1) (by decide +kernel) (by decide +kernel))
  simpa [allData] using this

/-- the library's sizes: 64 KiB initial buffer, 10 MiB limit -/
example : 10 * 1024 * 1024 ≤ 64 * 1024 * 2 ^ 200 := pow_bound (k := 8) (by decide +kernel) (by decide +kernel)

example : Jl.Stream.specLines [0x61, 0x0A, 0x62] = [[0x61], [0x62]] := by decide +kernel

/-- Model artefact: when `scan` runs out of fuel it answers `(none, s)` with neither `err` nor `eof`
    set — which `Stream.loop` (it only looks at `errOf`) cannot tell from a clean end.  With the
    loop's fuel (`scanFuel`) this needs more than ~200 buffer doublings inside one call, hence the
    hypothesis `maxSize ≤ cap * 2 ^ 200` of `scan_none_reason`/`scan_none_clean` users. -/
example : (scan 1 1000 3 (init 1 [.data [0x61, 0x61, 0x61, 0x61, 0x61, 0x61, 0x61, 0x61]])).1 = none ∧
    (scan 1 1000 3 (init 1 [.data [0x61, 0x61, 0x61, 0x61, 0x61, 0x61, 0x61, 0x61]])).2.err = none ∧
    (scan 1 1000 3 (init 1 [.data [0x61, 0x61, 0x61, 0x61, 0x61, 0x61, 0x61, 0x61]])).2.eof = false := by
  decide +kernel

end Examples

end Jl.Scanner
