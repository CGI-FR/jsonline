/-
  Proofs.RowCells — the cell-level vocabulary of C13: the route of one column (`Route`, `LineRoute`), what
  travels through the text (`Wire`), the cell pairing (`Pairing`), and the lists `covered` / `coveredExt` with the
  property's domain by kind of value.  The case analysis over the table is in Proofs.CellTable.  A `Pairing`
  gives the `CellRoute` of a column (`RowRoundTripN.CellRoute.of_pairing`), which `route_N` lifts to `RouteN`;
  `RouteN` on one column is `Route` (`RowRoundTripN.RouteN.toRoute`).
  Namespace `Jl.RowRoundTrip`: the names are the ones the statements of Proofs.RowRoundTrip,
  Proofs.RowRoundTripN, Proofs.CellTable and Props/C13 use, and this is the lowest module those share.
-/
import Model.Tables
import Model.Value
import Model.Template
import Model.RowPrint
import Model.CastGen
import Proofs.Pairings
import Proofs.JsonPrint
import Proofs.LineCast

namespace Jl.RowRoundTrip
open Jl Jl.Value Jl.Template Jl.RowPrint Jl.JsonPrint Jl.JsonQuote Cast
open Jl.CasterFacts


/-! ### The route -/

def Route (env : Env) (key : Bytes) (f : Format) (ty : Ty) (v v' : Dyn) : Prop :=
  ∃ (row : List (Bytes × Val)) (bytes : Bytes) (r0 r : List (Bytes × Val)),
    createRow env (withCol [] key f ty) (.gomap (.cons key v .nil)) = .ok (row, none) ∧
    marshalRow env (Members.ofList row) = .ok bytes ∧
    createRowEmpty env (withCol [] key f ty) = .ok r0 ∧
    unmarshalInto env r0 bytes = .ok (r, none) ∧
    (lookup r key).map Cells.raw = some v'

/-- The same route through the two public entry points, `exporter.Export` and `importer.GetRow`. -/
def LineRoute (env : Env) (key : Bytes) (f : Format) (ty : Ty) (v v' : Dyn) : Prop :=
  ∃ (bytes : Bytes) (r : List (Bytes × Val)),
    exportLine env (withCol [] key f ty) (.gomap (.cons key v .nil)) = .ok (bytes ++ [0x0A], none) ∧
    getRow env (withCol [] key f ty) bytes = .ok (r, none) ∧
    (lookup r key).map Cells.raw = some v'

theorem Route.line {env : Env} {key : Bytes} {f : Format} {ty : Ty} {v v' : Dyn}
    (h : Route env key f ty v v') : LineRoute env key f ty v v' := by
  obtain ⟨row, bytes, r0, r, h1, h2, h3, h4, h5⟩ := h
  refine ⟨bytes, r, ?_, ?_, h5⟩
  · exact Order.exportLine_iff.2 ⟨row, bytes, h1, h2, rfl⟩
  · exact (Order.getRow_of_clone h3 bytes).trans h4


theorem marshalVal_str {env : Env} {raw : Dyn} {f : Format} {ty : Ty} {s : Bytes}
    (h : exportVal env (.cell raw f ty) = .ok (.str s)) :
    marshalVal env (.cell raw f ty) = .ok (JsonWrite.quote s) := by
  rw [marshalVal_cell_ok h, marshalExported_str]

/-- What `Export` hands to json.Marshal, and what the reader hands to `Import` for the text
    written: the scalar kinds (everything `Export` returns outside Auto / Hidden columns). -/
inductive Wire : Dyn → Dyn → Prop
  | nil : Wire .nil .nil
  | bool (b : Bool) : Wire (.bool b) (.bool b)
  | int (t : IntTy) (v : Int) : Wire (.int t v) (.num (IntText.formatInt v))
  | str (s : Bytes) : Wire (.str s) (.str (sanitize s))
  | num (l : Bytes) : JsonWrite.isValidNumber l = true → Wire (.num l) (.num l)

theorem numText_valid {l : Bytes} (h : JsonWrite.isValidNumber l = true) : numText l = l := by
  unfold numText
  cases l with
  | nil => exact absurd h (by decide)
  | cons c r => simp

theorem Wire.text {e e' : Dyn} (w : Wire e e') (env : Env) (rt : JV) :
    ∃ b, (∀ raw, marshalExported env e raw = .ok b) ∧ ReadsAs b (treeExported e rt) ∧
      ofJV env (treeExported e rt) = .ok e' := by
  cases w with
  | nil => exact ⟨_, fun _ => by rw [marshalExported_nil], readsAs_null, rfl⟩
  | bool b =>
    refine ⟨_, fun _ => by rw [marshalExported_bool], ?_, rfl⟩
    cases b
    · exact readsAs_false
    · exact readsAs_true
  | int t v =>
    exact ⟨_, fun _ => by rw [marshalExported_int],
      readsAs_number (IntText.isValidNumber_formatInt v), rfl⟩
  | str s => exact ⟨_, fun _ => by rw [marshalExported_str], readsAs_quote s, rfl⟩
  | num l hl =>
    -- a valid number is not empty, so it is printed and read as it stands
    cases l with
    | nil => exact absurd hl (by decide)
    | cons c r => exact ⟨c :: r, fun _ => by rw [marshalExported_num]; simp [hl], readsAs_number hl, rfl⟩

theorem Wire.marshal {e e' : Dyn} (w : Wire e e') (env : Env) (raw : Dyn) :
    ∃ b j, marshalExported env e raw = .ok b ∧ ReadsAs b j ∧ ofJV env j = .ok e' :=
  have ⟨b, h1, h2, h3⟩ := w.text env .null
  ⟨b, _, h1 raw, h2, h3⟩

/-- The shape of the theorems of Proofs.Pairings. -/
def Pairing (env : Env) (f : Format) (ty : Ty) (v v' : Dyn) : Prop :=
  ∃ e e', Wire e e' ∧ Trip env f ty v e e' v'

theorem Pairing.of {env : Env} {f : Format} {ty : Ty} {v v' e e' : Dyn} (hw : Wire e e')
    (hp : Trip env f ty v e e' v') : Pairing env f ty v v' :=
  ⟨e, e', hw, hp⟩

theorem Pairing.nil (env : Env) (f : Format) (ty : Ty) : Pairing env f ty .nil .nil :=
  .of Wire.nil ⟨exportVal_nil env f ty, rfl⟩

/-! ### `NewValue` keeps a well-typed value; the texts that travel unchanged -/

theorem newValue_of_castTo (env : Env) (v : Dyn) (f : Format) (ty : Ty)
    (h : castTo env.T env.ext ty v = .ok v) : newValue env v f ty = .ok (.cell v f ty) := by
  simp only [newValue, h]

theorem gen_castTo_other (ext : Ext) (x : Dyn) : castTo genTables ext .other x = .err .cast := by
  rfl

theorem gen_newValue_none (ext : Ext) (v : Dyn) (f : Format) :
    newValue ⟨genTables, ext⟩ v f .none = .ok (.cell v f .none) :=
  LineCast.newValue_keeps ext f (.inr (.inl rfl))


theorem Wire.str_fixed {s : Bytes} (h : sanitize s = s) : Wire (.str s) (.str s) := by
  have := Wire.str s
  rwa [h] at this

theorem wire_formatInt (v : Int) : Wire (.str (IntText.formatInt v)) (.str (IntText.formatInt v)) :=
  Wire.str_fixed (Pairings.sanitize_validNumber _ (IntText.isValidNumber_formatInt v))

theorem wire_base64 (b : Bytes) : Wire (.str (Base64.encode b)) (.str (Base64.encode b)) :=
  Wire.str_fixed (sanitize_base64 b)

theorem wire_rfc3339 (t : GoTime) : Wire (.str (Time.formatRFC3339 t)) (.str (Time.formatRFC3339 t)) :=
  Wire.str_fixed (Pairings.sanitize_formatRFC3339 t)

theorem wire_formatBool (b : Bool) : Wire (.str (IntText.formatBool b)) (.str (IntText.formatBool b)) :=
  Wire.str_fixed (sanitize_of_ascii _ (by cases b <;> decide))

theorem wire_formatInt_num (v : Int) : Wire (.num (IntText.formatInt v)) (.num (IntText.formatInt v)) :=
  Wire.num _ (IntText.isValidNumber_formatInt v)

/-! #### Cell-level facts: string / numeric / binary × the ten integer types, string × bool
    (as Props/C13 states them; string × json.Number is `Pairings.string_num`) -/

theorem toString_int (ext : Ext) (t : IntTy) (v : Int) (hv : t.inRange v) :
    castNamed genTables ext "ToString" (.int t v) = .ok (.str (IntText.formatInt v)) :=
  toString_of_int ext t v hv

theorem toNumber_int (ext : Ext) (t : IntTy) (v : Int) (hv : t.inRange v) :
    castNamed genTables ext "ToNumber" (.int t v) = .ok (.num (IntText.formatInt v)) :=
  toNumber_of_int ext t v hv

theorem castTo_int_str (ext : Ext) (t : IntTy) (v : Int) (hv : t.inRange v) :
    castTo genTables ext (.int t) (.str (IntText.formatInt v)) = .ok (.int t v) :=
  (castTo_cast ext rfl _).trans ((cast_text_source ext t v).trans (if_pos hv))

theorem string_int (ext : Ext) (t : IntTy) (v : Int) (hv : t.inRange v) :
    exportVal ⟨genTables, ext⟩ (.cell (.int t v) .string (.int t)) = .ok (.str (IntText.formatInt v)) ∧
    importCell ⟨genTables, ext⟩ .string (.int t) (.str (IntText.formatInt v)) =
      .ok (.cell (.int t v) .string (.int t), none) :=
  ⟨export_single rfl (toString_int ext t v hv) nofun, importCell_typed rfl (castTo_int_str ext t v hv) trivial nofun⟩

theorem numeric_int (ext : Ext) (t : IntTy) (v : Int) (hv : t.inRange v) :
    exportVal ⟨genTables, ext⟩ (.cell (.int t v) .numeric (.int t)) = .ok (.num (IntText.formatInt v)) ∧
    importCell ⟨genTables, ext⟩ .numeric (.int t) (.num (IntText.formatInt v)) =
      .ok (.cell (.int t v) .numeric (.int t), none) :=
  ⟨export_single rfl (toNumber_int ext t v hv) nofun, importCell_cast rfl rfl ((cast_num_source ext t v).trans (if_pos hv)) trivial⟩

theorem binary_int (ext : Ext) (t : IntTy) (v : Int) (hv : t.inRange v) :
    exportVal ⟨genTables, ext⟩ (.cell (.int t v) .binary (.int t)) =
      .ok (.str (Base64.encode (LE.put (t.bits / 8) (LE.toU t.bits v)))) ∧
    importCell ⟨genTables, ext⟩ .binary (.int t)
        (.str (Base64.encode (LE.put (t.bits / 8) (LE.toU t.bits v)))) =
      .ok (.cell (.int t v) .binary (.int t), none) :=
  (Pairings.binary_fixed ext (v := .int t v) rfl rfl hv).and

theorem string_bool (ext : Ext) (b : Bool) :
    Trip ⟨genTables, ext⟩ .string .bool (.bool b) (.str (IntText.formatBool b)) (.str (IntText.formatBool b))
      (.bool b) := by
  have hc : castTo genTables ext .bool (.str (IntText.formatBool b)) = .ok (.bool b) := by
    rw [castTo_cast ext (ty := .bool) rfl, toBool_str_eq, Pairings.parseBool_formatBool]
  exact ⟨export_single rfl (toString_bool ext b) nofun,
    importCell_typed rfl hc trivial nofun⟩

/-! ### The covered pairings -/

/-- The Go type of the values a column `(f, ty)` holds. -/
def valueTy (f : Format) (ty : Ty) : Ty := if ty = .none then Tables.defaultTy f else ty

/-- The pairings covered with no hypothesis on the standard-library parameter. -/
def covered : List (Format × Ty) :=
  IntTy.all.flatMap (fun t =>
    [(.string, .int t), (.numeric, .int t), (.binary, .int t), (.timestamp, .int t), (.auto, .int t)]) ++
  [(.string, .str), (.string, .none), (.string, .bool), (.string, .time),
   (.numeric, .num), (.numeric, .none),
   (.boolean, .bool), (.boolean, .none),
   (.binary, .bytes), (.binary, .none), (.binary, .str), (.binary, .bool), (.binary, .num),
   (.datetime, .time), (.datetime, .none),
   (.timestamp, .none),
   (.auto, .bool), (.auto, .str), (.auto, .num)]

/-- The pairings covered given answers of the standard-library parameter (the process zone at
    the second concerned; ParseFloat on "1" and "0"). -/
def coveredExt : List (Format × Ty) :=
  [(.numeric, .time), (.timestamp, .time), (.binary, .time), (.numeric, .bool), (.timestamp, .bool)]

example : covered.length = 69 := by decide

def coveredB (f : Format) (ty : Ty) : Bool :=
  match f, ty with
  | .string, .int _ | .string, .str | .string, .none | .string, .bool | .string, .time => true
  | .numeric, .int _ | .numeric, .num | .numeric, .none => true
  | .boolean, .bool | .boolean, .none => true
  | .binary, .int _ | .binary, .bytes | .binary, .none | .binary, .str | .binary, .bool
  | .binary, .num => true
  | .datetime, .time | .datetime, .none => true
  | .timestamp, .int _ | .timestamp, .none => true
  | .auto, .int _ | .auto, .bool | .auto, .str | .auto, .num => true
  | _, _ => false

theorem covered_spec : ∀ p ∈ covered, coveredB p.1 p.2 = true := by decide

theorem coveredExt_lossless : ∀ p ∈ coveredExt, Tables.lossless p.1 p.2 = true ∧ p.1 ≠ .hidden := by
  decide

theorem inDomain_int {f : Format} {ty : Ty} {t : IntTy} {x : Int}
    (h : Tables.inDomain f ty (.int t x) = true) :
    t.inRange x ∧ (f = .timestamp → x ≤ 9223372036854775807) := by
  simp only [Tables.inDomain, Bool.and_eq_true, Bool.or_eq_true, bne_iff_ne, decide_eq_true_eq] at h
  exact ⟨h.1, fun e => h.2.resolve_left (not_not_intro e)⟩

theorem inDomain_str {f : Format} {ty : Ty} {s : Bytes} (h : Tables.inDomain f ty (.str s) = true)
    (hf : f ≠ .binary) : Utf8.valid s = true := by
  simp only [Tables.inDomain, Bool.or_eq_true, beq_iff_eq] at h
  exact h.resolve_right hf

theorem inDomain_num {f : Format} {ty : Ty} {l : Bytes} (h : Tables.inDomain f ty (.num l) = true)
    (hf : f ≠ .binary) (hs : f ≠ .string) : JsonWrite.isValidNumber l = true := by
  simp only [Tables.inDomain, Bool.or_eq_true, Bool.and_eq_true, beq_iff_eq] at h
  rcases h with (⟨h, _⟩ | h) | h
  · exact absurd h hs
  · exact absurd h hf
  · exact h

theorem sameValue_refl {v : Dyn} (h : typeOf v ≠ .other) : Tables.sameValue v v = true := by
  cases v <;> first | exact absurd rfl h | simp [Tables.sameValue]

/-- A value of the column's Go type, in the form `LineCast.newValue_keeps` asks for. -/
theorem typed_of_valueTy {f : Format} {ty : Ty} {v : Dyn}
    (h : v = .nil ∨ typeOf v = valueTy f ty) : v = .nil ∨ ty = .none ∨ typeOf v = ty := by
  rcases h with h | h
  · exact .inl h
  · by_cases hn : ty = .none
    · exact .inr (.inl hn)
    · exact .inr (.inr (by rwa [valueTy, if_neg hn] at h))

/-! ### Pairings outside the list: json.Number under string, floats -/

theorem pairing_string_num (ext : Ext) (l : Bytes) (hl : sanitize l = l) :
    Pairing ⟨genTables, ext⟩ .string .num (.num l) (.num l) :=
  .of (Wire.str_fixed hl) (Pairings.string_num ext l)

theorem sanitize_num_of_inDomain {l : Bytes} (hd : Tables.inDomain .string .num (.num l) = true) :
    sanitize l = l := by
  simp [Tables.inDomain] at hd
  rcases hd with h | h
  · exact sanitize_valid l h
  · exact Pairings.sanitize_validNumber l h

theorem pairing_binary_fixed (ext : Ext) {v : Dyn} {n : Nat} {img : Bytes}
    (hn : CastSpec.fixedSize (typeOf v) = some n) (himg : CastSpec.leImage v = some img) (hf : FixedVal v) :
    Pairing ⟨genTables, ext⟩ .binary (typeOf v) v v :=
  .of (wire_base64 _) (Pairings.binary_fixed ext hn himg hf)

theorem pairing_text_float (ext : Ext) (T : LineFloats.FT) (b r : Nat) (s : Bytes)
    (hfm : ext.fmtFloat (T.widen b) T.bits = some s) (hp : ext.parseFloat s T.bits = some (some r))
    (hr : T.narrow r = b) (hs : JsonWrite.isValidNumber s = true) :
    Pairing ⟨genTables, ext⟩ .string T.ty (T.dyn b) (T.dyn b) ∧
    Pairing ⟨genTables, ext⟩ .numeric T.ty (T.dyn b) (T.dyn b) :=
  have h := Pairings.text_float ext T b r s hfm hp hr
  ⟨.of (Wire.str_fixed (Pairings.sanitize_validNumber s hs)) h.1, .of (Wire.num s hs) h.2⟩

end Jl.RowRoundTrip
