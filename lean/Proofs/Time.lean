/-
  Proofs.Time — C14: RFC 3339 date-time text preserves the instant and the explicit offset, over
  Model.Time (the port of Go's package time).  The parser is cut at the end of the seconds field, so
  that what stands between the seconds and the zone (nothing, or a fraction) is treated once, in
  `parse_text`.
-/
import Proofs.Civil
import Proofs.Digits

namespace Jl.Time
open IntText

/-! ### `civilOf` inverts the seconds computation -/

theorem civilOf_of {t : GoTime} {days : Int} {rem : Nat} {y : Int} {m d : Nat}
    (h1 : (t.sec + t.off) / 86400 = days) (h2 : (t.sec + t.off - days * 86400).toNat = rem)
    (h3 : civilFromDays days = (y, m, d)) :
    civilOf t = ⟨y, m, d, rem / 3600, rem % 3600 / 60, rem % 60⟩ := by
  subst h1 h2
  unfold civilOf
  simp only [h3]

theorem civilOf_seconds {y : Int} {m d h mi s : Nat} (ns : Nat) (off : Int)
    (hv : ValidDate y m d) (hh : h < 24) (hmi : mi < 60) (hs : s < 60) :
    civilOf ⟨daysFromCivil y m d * 86400 + ((h * 3600 + mi * 60 + s : Nat) : Int) - off, ns, off⟩
      = ⟨y, m, d, h, mi, s⟩ := by
  rw [civilOf_of (days := daysFromCivil y m d) (rem := h * 3600 + mi * 60 + s) (by simp only; omega)
    (by simp only; omega) (civilFromDays_daysFromCivil hv)]
  simp only [Civil.mk.injEq, true_and]
  omega

theorem civilOf_seconds' {y : Int} {m d h mi s : Nat} (ns : Nat) (off : Int)
    (hv : ValidDate y m d) (hh : h < 24) (hmi : mi < 60) (hs : s < 60) :
    civilOf ⟨daysFromCivil y m d * 86400 + ((h : Int) * 3600 + (mi : Int) * 60 + (s : Int)) - off,
      ns, off⟩ = ⟨y, m, d, h, mi, s⟩ := by
  have e : ((h : Int) * 3600 + (mi : Int) * 60 + (s : Int)) = ((h * 3600 + mi * 60 + s : Nat) : Int) := by
    omega
  rw [e]; exact civilOf_seconds ns off hv hh hmi hs

theorem sec_range_of_year (t : GoTime) (hy0 : 0 ≤ year t) (hy1 : year t ≤ 9999)
    (hlo : -86400 < t.off) (hhi : t.off < 86400) :
    -(2 ^ 40 : Int) < t.sec ∧ t.sec < 2 ^ 40 := by
  -- the local day lies in a 400-year era (146097 days) between −1 and 24
  obtain ⟨era, yoe, doy, mp, d, hr, hz⟩ := decomp_of_day ((t.sec + t.off) / 86400)
  have hyear : year t = yearOf era yoe mp := by
    unfold year
    rw [civilOf_of rfl rfl (hz ▸ cfd_spec era hr)]
  have hyoe := hr.1
  have hlen := dayOfYoe_top hyoe
  have hdoy := hr.2.2.2.2.2
  unfold yearOf at hyear
  unfold dayNo at hz
  split at hyear <;> omega

/-- ±2^62 is the range in which the model follows time.Unix. -/
theorem sec_bounds_of_year (t : GoTime) (hy0 : 0 ≤ year t) (hy1 : year t ≤ 9999)
    (hlo : -86400 < t.off) (hhi : t.off < 86400) :
    -(2 ^ 62 : Int) < t.sec ∧ t.sec < 2 ^ 62 := by
  have := sec_range_of_year t hy0 hy1 hlo hhi
  omega

/-! ### Fixed-width numbers -/


theorem num2_pad {n : Nat} (h : n < 100) (rest : Bytes) :
    num2 (pad n 2 ++ rest) = some (n, rest) := by
  obtain ⟨a, b, e, ha, hb, hv⟩ := pad2_digits h
  rw [e]
  simp only [List.cons_append, List.nil_append, num2, ha, hb, hv, Bool.and_self, if_true]

theorem num12_pad {n : Nat} (h : n < 100) (rest : Bytes) :
    num12 (pad n 2 ++ rest) = some (n, rest) := by
  obtain ⟨a, b, e, ha, hb, hv⟩ := pad2_digits h
  rw [e]
  simp only [List.cons_append, List.nil_append, num12, ha, hb, hv, if_true]

theorem num4_appendInt {y : Int} (h0 : 0 ≤ y) (h1 : y ≤ 9999) (rest : Bytes) :
    num4 (appendInt y 4 ++ rest) = some (y.toNat, rest) := by
  obtain ⟨a, b, c, d, e, ha, hb, hc, hd, hv⟩ := pad4_digits (show y.toNat < 10000 by omega)
  unfold appendInt
  rw [if_neg (by omega), e]
  simp only [List.cons_append, List.nil_append, num4, ha, hb, hc, hd, hv, Bool.and_self, if_true]

/-! ### The zone element -/

theorem formatZone_eq (off : Int) :
    formatZone off =
      if off = 0 then [0x5A]
      else (if off.tdiv 60 < 0 then 0x2D else 0x2B) ::
        (pad ((off.tdiv 60).natAbs / 60) 2 ++ [0x3A] ++ pad ((off.tdiv 60).natAbs % 60) 2) := by
  unfold formatZone
  simp only [beq_iff_eq]
  split
  · rfl
  · split
    · rw [show (off.tdiv 60).natAbs = (-off.tdiv 60).toNat by omega]
    · rw [show (off.tdiv 60).natAbs = (off.tdiv 60).toNat by omega]

/-- Hours up to 24 and minutes up to 60 are what `time.Parse` tolerates. -/
theorem parseZone_signed {sign : UInt8} {hr mm : Nat} (hs : sign = 0x2B ∨ sign = 0x2D)
    (hhr : hr ≤ 24) (hmm : mm ≤ 60) (rest : Bytes) :
    parseZone (sign :: (pad hr 2 ++ [0x3A] ++ pad mm 2) ++ rest) =
      some (if sign = 0x2B then (((hr * 60 + mm) * 60 : Nat) : Int)
            else -(((hr * 60 + mm) * 60 : Nat) : Int), rest) := by
  obtain ⟨a, b, e1, ha, hb, hv1⟩ := pad2_digits (show hr < 100 by omega)
  obtain ⟨c, d, e2, hc, hd, hv2⟩ := pad2_digits (show mm < 100 by omega)
  have hle : (decide (hr > 24) || decide (mm > 60)) = false := by simp; omega
  rw [e1, e2]
  rcases hs with rfl | rfl <;> simp [parseZone, ha, hb, hc, hd, hv1, hv2, hle]

theorem parseZone_formatZone {off : Int} (h60 : off % 60 = 0) (hb : off.natAbs < 90000)
    (rest : Bytes) :
    parseZone (formatZone off ++ rest) = some (off, rest) := by
  have htd : off.tdiv 60 = off / 60 := Int.tdiv_eq_ediv_of_dvd (Int.dvd_of_emod_eq_zero h60)
  rw [formatZone_eq, htd]
  by_cases h0 : off = 0
  · subst h0; simp [parseZone]
  · rw [if_neg h0, parseZone_signed (by split <;> simp) (show (off / 60).natAbs / 60 ≤ 24 by omega)
      (show (off / 60).natAbs % 60 ≤ 60 by omega)]
    congr 2
    by_cases hneg : off / 60 < 0 <;> simp [hneg] <;> omega

/-! ### The parser, factored at the end of the seconds field -/

abbrev Fields := Int × Nat × Nat × Nat × Nat × Nat

def parseHead (s : Bytes) : Option (Fields × Bytes) := do
  let (y, m, d, s) ← parseDatePart s
  let s ← expect 0x54 s
  let (hh, s) ← num12 s
  let s ← expect 0x3A s
  let (mi, s) ← num2 s
  let s ← expect 0x3A s
  let (ss, s) ← num2 s
  some ((y, m, d, hh, mi, ss), s)

def parseTail (f : Fields) (s : Bytes) : Option GoTime :=
  match f with
  | (y, m, d, hh, mi, ss) =>
    (parseZone (parseFrac s).2).bind fun x =>
      if !x.2.isEmpty then none
      else if hh ≥ 24 || mi ≥ 60 || ss ≥ 60 then none
      else some ⟨daysFromCivil y m d * 86400 + ((hh * 3600 + mi * 60 + ss : Nat) : Int) - x.1,
        (parseFrac s).1, x.1⟩

theorem parseRFC3339_eq (s : Bytes) :
    parseRFC3339 s = (parseHead s).bind (fun p => parseTail p.1 p.2) := by
  unfold parseRFC3339 parseHead
  simp only [Option.bind_eq_bind, Option.bind_assoc, Option.bind_some, parseTail]

/-! ### parse ∘ format -/

def headText (c : Civil) : Bytes :=
  appendInt c.year 4 ++ [0x2D] ++ pad c.month 2 ++ [0x2D] ++ pad c.day 2 ++ [0x54]
    ++ pad c.hour 2 ++ [0x3A] ++ pad c.min 2 ++ [0x3A] ++ pad c.sec 2

theorem formatRFC3339_eq (t : GoTime) :
    formatRFC3339 t = headText (civilOf t) ++ formatZone t.off := rfl

theorem expect_cons (c : UInt8) (r : Bytes) : expect c (c :: r) = some r := by simp [expect]

theorem daysIn_le (m : Nat) (y : Int) : daysIn m y ≤ 31 := by
  unfold daysIn; split <;> try split
  all_goals omega

def ValidCivil (c : Civil) : Prop :=
  ValidDate c.year c.month c.day ∧ c.hour < 24 ∧ c.min < 60 ∧ c.sec < 60

/-- Texts are taken in the form `simp only [List.append_assoc, List.cons_append, List.nil_append]` gives them. -/
theorem parseDatePart_format {y : Int} {m d : Nat} (h0 : 0 ≤ y) (h1 : y ≤ 9999)
    (hv : ValidDate y m d) (rest : Bytes) :
    parseDatePart (appendInt y 4 ++ 0x2D :: (pad m 2 ++ 0x2D :: (pad d 2 ++ rest)))
      = some (y, m, d, rest) := by
  obtain ⟨hm1, hm12, hd1, hd⟩ := hv
  have hd31 := daysIn_le m y
  unfold parseDatePart
  simp only [num4_appendInt h0 h1, Option.bind_eq_bind, Option.bind_some, expect_cons,
    num2_pad (show m < 100 by omega), num2_pad (show d < 100 by omega)]
  have e : ((y.toNat : Nat) : Int) = y := by omega
  rw [e]
  have c1 : (decide (m < 1) || decide (m > 12)) = false := by simp; omega
  have c2 : (decide (d < 1) || decide (d > daysIn m y)) = false := by simp; omega
  simp only [c1, c2, Bool.false_eq_true, if_false]

theorem parseHead_headText {c : Civil} (h0 : 0 ≤ c.year) (h1 : c.year ≤ 9999)
    (hv : ValidCivil c) (rest : Bytes) :
    parseHead (headText c ++ rest) = some ((c.year, c.month, c.day, c.hour, c.min, c.sec), rest) := by
  obtain ⟨hd, hh, hmi, hs⟩ := hv
  unfold parseHead headText
  simp only [List.append_assoc, List.cons_append, List.nil_append, parseDatePart_format h0 h1 hd,
    Option.bind_eq_bind, Option.bind_some, expect_cons, num12_pad (show c.hour < 100 by omega),
    num2_pad (show c.min < 100 by omega), num2_pad (show c.sec < 100 by omega)]

theorem civilOf_spec (t : GoTime) :
    ValidCivil (civilOf t) ∧
      daysFromCivil (civilOf t).year (civilOf t).month (civilOf t).day * 86400
        + (((civilOf t).hour * 3600 + (civilOf t).min * 60 + (civilOf t).sec : Nat) : Int) - t.off
        = t.sec := by
  obtain ⟨hv, hd⟩ := daysFromCivil_civilFromDays ((t.sec + t.off) / 86400)
  rcases h3 : civilFromDays ((t.sec + t.off) / 86400) with ⟨y, m, d⟩
  rw [h3] at hv hd
  rw [civilOf_of rfl rfl h3]
  refine ⟨⟨hv, ?_, ?_, ?_⟩, ?_⟩ <;> simp only [hd] <;> omega

theorem civilOf_valid (t : GoTime) : ValidCivil (civilOf t) := (civilOf_spec t).1

theorem parseFrac_none {s : Bytes} (h : ∀ p r, s = p :: r → p ≠ 0x2E ∧ p ≠ 0x2C) :
    parseFrac s = (0, s) := by
  unfold parseFrac
  split
  · rename_i p d rest
    obtain ⟨h1, h2⟩ := h p (d :: rest) rfl
    simp [h1, h2]
  · rfl

theorem formatZone_head (off : Int) {c : UInt8} {r : Bytes} (h : formatZone off = c :: r) :
    c = 0x5A ∨ c = 0x2D ∨ c = 0x2B := by
  rw [formatZone_eq] at h
  split at h <;> cases h
  · exact .inl rfl
  · split
    · exact .inr (.inl rfl)
    · exact .inr (.inr rfl)

theorem parseFrac_formatZone (off : Int) : parseFrac (formatZone off) = (0, formatZone off) :=
  parseFrac_none fun p r hp => by rcases formatZone_head off hp with rfl | rfl | rfl <;> decide

/-- `mid` is what `parseFrac` consumes completely between the seconds and the zone: nothing, or a fraction.
    The offset bound is 25 h, since the parser tolerates an hour field of 24. -/
theorem parse_text (t : GoTime) (hy0 : 0 ≤ year t) (hy1 : year t ≤ 9999)
    (h60 : t.off % 60 = 0) (hb : t.off.natAbs < 90000) (mid : Bytes) (ns : Nat)
    (hmid : parseFrac (mid ++ formatZone t.off) = (ns, formatZone t.off)) :
    parseRFC3339 (headText (civilOf t) ++ (mid ++ formatZone t.off)) = some ⟨t.sec, ns, t.off⟩ := by
  obtain ⟨hd, hh, hmi, hss⟩ := civilOf_valid t
  have hz := parseZone_formatZone h60 hb []
  rw [List.append_nil] at hz
  have c : (decide ((civilOf t).hour ≥ 24) || decide ((civilOf t).min ≥ 60) ||
      decide ((civilOf t).sec ≥ 60)) = false := by simp; omega
  rw [parseRFC3339_eq, parseHead_headText hy0 hy1 ⟨hd, hh, hmi, hss⟩, Option.bind_some]
  simp only [parseTail, hmid, hz, Option.bind_some, c, (civilOf_spec t).2, List.isEmpty_nil, Bool.not_true,
    Bool.false_eq_true, if_false]

theorem parse_format (t : GoTime) (hy0 : 0 ≤ year t) (hy1 : year t ≤ 9999)
    (h60 : t.off % 60 = 0) (hb : t.off.natAbs < 90000) :
    parseRFC3339 (formatRFC3339 t) = some ⟨t.sec, 0, t.off⟩ :=
  parse_text t hy0 hy1 h60 hb [] 0 (parseFrac_formatZone t.off)

/-- **C14, parse ∘ format**: parsing the RFC 3339 text of a time gives back the same instant and the
    same offset, sub-second digits dropped (never rounded up into the seconds) — for a year (at the
    time's own offset) in 0..9999 and an offset of whole minutes below 24 h. -/
theorem C14_parse_format (t : GoTime) (hy0 : 0 ≤ year t) (hy1 : year t ≤ 9999)
    (h60 : t.off % 60 = 0) (hlo : -86400 < t.off) (hhi : t.off < 86400) :
    parseRFC3339 (formatRFC3339 t) = some ⟨t.sec, 0, t.off⟩ :=
  parse_format t hy0 hy1 h60 (by omega)

theorem civilOf_local {s t : GoTime} (h : s.sec + s.off = t.sec + t.off) : civilOf s = civilOf t := by
  unfold civilOf
  rw [h]


/-- The time the RFC 3339 text of `t` denotes: the same local clock reading, the offset
    truncated to whole minutes (what the `Z07:00` verb prints), nanoseconds dropped. -/
def truncOff (t : GoTime) : GoTime := ⟨t.sec + t.off - 60 * t.off.tdiv 60, 0, 60 * t.off.tdiv 60⟩

theorem civilOf_truncOff (t : GoTime) : civilOf (truncOff t) = civilOf t :=
  civilOf_local (by simp only [truncOff]; omega)

theorem year_truncOff (t : GoTime) : year (truncOff t) = year t :=
  congrArg Civil.year (civilOf_truncOff t)

theorem formatZone_truncOff {off : Int} (h : off = 0 ∨ off.tdiv 60 ≠ 0) :
    formatZone (60 * off.tdiv 60) = formatZone off := by
  rw [formatZone_eq, formatZone_eq]
  have e : (60 * off.tdiv 60).tdiv 60 = off.tdiv 60 := Int.mul_tdiv_cancel_left _ (by decide)
  rcases h with rfl | h
  · simp
  · have h0 : off ≠ 0 := by rintro rfl; simp at h
    have h1 : 60 * off.tdiv 60 ≠ 0 := by omega
    rw [if_neg h0, if_neg h1, e]

theorem formatRFC3339_truncOff (t : GoTime) (h : t.off = 0 ∨ t.off.tdiv 60 ≠ 0) :
    formatRFC3339 (truncOff t) = formatRFC3339 t := by
  rw [formatRFC3339_eq, formatRFC3339_eq, civilOf_truncOff]
  show _ ++ formatZone (60 * t.off.tdiv 60) = _
  rw [formatZone_truncOff h]

/-- `1500` minutes are the 25 h of `parse_format`.  The first conjunct excludes a non-zero offset below a
    minute: it prints `+00:00` where its truncation 0 prints `Z`, so `formatRFC3339_truncOff` fails there,
    although the conclusion can hold (the example with offset -30 below). -/
theorem parse_format_trunc (t : GoTime) (hy0 : 0 ≤ year t) (hy1 : year t ≤ 9999)
    (hoff : (t.off = 0 ∨ t.off.tdiv 60 ≠ 0) ∧ (t.off.tdiv 60).natAbs < 1500) :
    parseRFC3339 (formatRFC3339 t) = some (truncOff t) := by
  have h := parse_format (truncOff t) (by rw [year_truncOff]; exact hy0) (by rw [year_truncOff]; exact hy1)
    (by show (60 * t.off.tdiv 60) % 60 = 0; omega)
    (by show (60 * t.off.tdiv 60).natAbs < 90000
        have := hoff.2; omega)
  rw [formatRFC3339_truncOff t hoff.1] at h
  exact h

theorem parseDatePart_formatDate (t : GoTime) (hy0 : 0 ≤ year t) (hy1 : year t ≤ 9999) :
    parseDatePart (formatDate t) = some ((civilOf t).year, (civilOf t).month, (civilOf t).day, [])
      ∧ parseDateOk (formatDate t) = true := by
  have h := parseDatePart_format (y := (civilOf t).year) hy0 hy1 (civilOf_valid t).1 []
  rw [List.append_nil] at h
  unfold parseDateOk formatDate
  simp only [List.append_assoc, List.cons_append, List.nil_append, h, and_self]

/-! ### Sub-second digits never change the second; the parser read backwards -/

/-- Value in nanoseconds of a fraction's digit string: the first nine digits, truncated. -/
def fracNanos (ds : Bytes) : Nat :=
  (ds.take 9).foldl (fun acc c => acc * 10 + dval c) 0 * 10 ^ (9 - (ds.take 9).length)

theorem parseFrac_digits {p : UInt8} (hp : p = 0x2E ∨ p = 0x2C) {ds z : Bytes} (hne : ds ≠ [])
    (hdig : ∀ c ∈ ds, isDigit c = true) (hz : ∀ c r, z = c :: r → isDigit c = false) :
    parseFrac (p :: ds ++ z) = (fracNanos ds, z) := by
  obtain ⟨d, ds', rfl⟩ := List.exists_cons_of_ne_nil hne
  have hp' : (p == 0x2E || p == 0x2C) = true := by rcases hp with rfl | rfl <;> decide
  have hz' : z.takeWhile isDigit = [] ∧ z.dropWhile isDigit = z := by
    cases z with
    | nil => exact ⟨rfl, rfl⟩
    | cons c r => simp [hz c r rfl]
  have e1 := List.takeWhile_append_of_pos (l₂ := z) hdig
  have e2 := List.dropWhile_append_of_pos (l₂ := z) hdig
  rw [hz'.1, List.append_nil] at e1
  rw [hz'.2] at e2
  show parseFrac (p :: d :: (ds' ++ z)) = _
  unfold parseFrac
  simp only [hp', hdig d (List.mem_cons_self ..), Bool.and_self, if_true, ← List.cons_append, e1, e2,
    fracNanos]

theorem fracNanos_lt {ds : Bytes} (hdig : ∀ c ∈ ds, isDigit c = true) : fracNanos ds < 10 ^ 9 := by
  have h9 : (ds.take 9).length ≤ 9 := by rw [List.length_take]; omega
  have := decVal_lt (ds := ds.take 9) (allDig_of fun c hc => hdig c (List.mem_of_mem_take hc))
  show decVal (ds.take 9) * 10 ^ (9 - (ds.take 9).length) < 10 ^ 9
  calc _ < 10 ^ (ds.take 9).length * 10 ^ (9 - (ds.take 9).length) :=
        Nat.mul_lt_mul_of_pos_right this (Nat.pow_pos (by decide))
    _ = 10 ^ 9 := by rw [← Nat.pow_add]; congr 1; omega

theorem parseZone_some {z : Bytes} {off : Int} {r : Bytes} (h : parseZone z = some (off, r)) :
    z = 0x5A :: r ∧ off = 0 ∨
      ∃ sign h1 h2 m1 m2 hr mm, z = sign :: h1 :: h2 :: 0x3A :: m1 :: m2 :: r ∧ (sign = 0x2B ∨ sign = 0x2D) ∧
        (isDigit h1 = true ∧ isDigit h2 = true ∧ isDigit m1 = true ∧ isDigit m2 = true) ∧ hr ≤ 24 ∧ mm ≤ 60 ∧
        off.natAbs = (hr * 60 + mm) * 60 := by
  unfold parseZone at h
  split at h
  · cases h
    exact Or.inl ⟨rfl, rfl⟩
  · rename_i sign h1 h2 colon m1 m2 rest _
    simp only [Option.ite_none_left_eq_some, Bool.or_eq_true, decide_eq_true_eq, not_or, Nat.not_lt,
      bne_iff_ne, ne_eq, Decidable.not_not, Bool.not_eq_true', Bool.not_eq_false, Bool.and_eq_true] at h
    obtain ⟨rfl, ⟨⟨⟨d1, d2⟩, d3⟩, d4⟩, ⟨hhr, hmm⟩, h⟩ := h
    split at h
    · rename_i hs
      cases h
      exact Or.inr ⟨sign, _, _, _, _, _, _, rfl, Or.inl (eq_of_beq hs), ⟨d1, d2, d3, d4⟩, hhr, hmm,
        Int.natAbs_natCast _⟩
    · split at h
      · rename_i hs
        cases h
        exact Or.inr ⟨sign, _, _, _, _, _, _, rfl, Or.inr (eq_of_beq hs), ⟨d1, d2, d3, d4⟩, hhr, hmm,
          by rw [Int.natAbs_neg, Int.natAbs_natCast]⟩
      · cases h
  · cases h

theorem parseRFC3339_some {s : Bytes} {t : GoTime} (h : parseRFC3339 s = some t) :
    ∃ y m d hh mi ss rest off, parseHead s = some ((y, m, d, hh, mi, ss), rest) ∧
      parseZone (parseFrac rest).2 = some (off, []) ∧ hh < 24 ∧ mi < 60 ∧ ss < 60 ∧
      t = ⟨daysFromCivil y m d * 86400 + ((hh * 3600 + mi * 60 + ss : Nat) : Int) - off,
        (parseFrac rest).1, off⟩ := by
  rw [parseRFC3339_eq, Option.bind_eq_some_iff] at h
  obtain ⟨⟨⟨y, m, d, hh, mi, ss⟩, rest⟩, hh', h⟩ := h
  simp only [parseTail, Option.bind_eq_some_iff, Option.ite_none_left_eq_some, Option.some.injEq,
    Bool.not_eq_true', Bool.not_eq_false, List.isEmpty_iff, Bool.or_eq_true, decide_eq_true_eq, not_or,
    Nat.not_le] at h
  obtain ⟨⟨off, r⟩, hz, rfl, ⟨⟨h1, h2⟩, h3⟩, rfl⟩ := h
  exact ⟨y, m, d, hh, mi, ss, rest, off, hh', hz, h1, h2, h3, rfl⟩

theorem parseRFC3339_off {s : Bytes} {t : GoTime} (h : parseRFC3339 s = some t) :
    t.off % 60 = 0 ∧ t.off.natAbs ≤ 90000 := by
  obtain ⟨_, _, _, _, _, _, _, off, _, hz, _, _, _, rfl⟩ := parseRFC3339_some h
  show off % 60 = 0 ∧ off.natAbs ≤ 90000
  rcases parseZone_some hz with ⟨_, rfl⟩ | ⟨_, _, _, _, _, hr, mm, _, _, _, hhr, hmm, habs⟩
  · decide
  · omega

/-- **C14, fractions (formatted text)**: sub-second digits inserted after the seconds field of
    a formatted time are read as nanoseconds below one second; second and offset stay. -/
theorem C14_fraction_format (t : GoTime) (hy0 : 0 ≤ year t) (hy1 : year t ≤ 9999)
    (h60 : t.off % 60 = 0) (hlo : -86400 < t.off) (hhi : t.off < 86400)
    {p : UInt8} (hp : p = 0x2E ∨ p = 0x2C) {ds : Bytes} (hne : ds ≠ [])
    (hdig : ∀ c ∈ ds, isDigit c = true) :
    parseRFC3339 (headText (civilOf t) ++ (p :: ds ++ formatZone t.off))
      = some ⟨t.sec, fracNanos ds, t.off⟩ ∧ fracNanos ds < 10 ^ 9 := by
  have hz : ∀ c r, formatZone t.off = c :: r → isDigit c = false := fun c r e => by
    rcases formatZone_head t.off e with rfl | rfl | rfl <;> rfl
  exact ⟨parse_text t hy0 hy1 h60 (by omega) (p :: ds) (fracNanos ds) (parseFrac_digits hp hne hdig hz),
    fracNanos_lt hdig⟩

/-! ### Non-vacuity: concrete values -/

example : formatRFC3339 ⟨0, 0, 0⟩ = ofString "1970-01-01T00:00:00Z" := by decide +kernel
example : parseRFC3339 (ofString "1970-01-01T00:00:00Z") = some ⟨0, 0, 0⟩ := by decide +kernel
example : formatRFC3339 ⟨951786061, 5, 19800⟩ = ofString "2000-02-29T06:31:01+05:30" := by
  decide +kernel
example : parseRFC3339 (ofString "2000-02-29T06:31:01+05:30") = some ⟨951786061, 0, 19800⟩ := by
  decide +kernel
-- the same instant at another offset
example : formatRFC3339 ⟨951786061, 5, -28800⟩ = ofString "2000-02-28T17:01:01-08:00" := by
  decide +kernel
example : parseRFC3339 (ofString "2000-02-28T17:01:01-08:00") = some ⟨951786061, 0, -28800⟩ := by
  decide +kernel
-- fractions are truncated into nsec, never rounded into sec
example : parseRFC3339 (ofString "2000-02-29T06:31:01.9999999999+05:30")
    = some ⟨951786061, 999999999, 19800⟩ := by decide +kernel
example : parseRFC3339 (ofString "2000-02-29T06:31:01,5+05:30")
    = some ⟨951786061, 500000000, 19800⟩ := by decide +kernel
example : formatRFC3339 ⟨253402300799, 999999999, 0⟩ = ofString "9999-12-31T23:59:59Z" := by
  decide +kernel
example : parseRFC3339 (ofString "9999-12-31T23:59:59Z") = some ⟨253402300799, 0, 0⟩ := by
  decide +kernel
example : formatRFC3339 ⟨-62167219200, 0, 0⟩ = ofString "0000-01-01T00:00:00Z" := by
  decide +kernel
example : parseRFC3339 (ofString "0000-01-01T00:00:00Z") = some ⟨-62167219200, 0, 0⟩ := by
  decide +kernel
example : parseRFC3339 (ofString "2001-02-29T00:00:00Z") = none := by decide +kernel
-- the hypotheses of `parse_format` are needed: year 10000, year -1, an offset with seconds, one of 25 h
example : formatRFC3339 ⟨253402300800, 0, 0⟩ = ofString "10000-01-01T00:00:00Z" := by
  decide +kernel
example : parseRFC3339 (formatRFC3339 ⟨253402300800, 0, 0⟩) = none := by decide +kernel
example : formatRFC3339 ⟨-62167219201, 0, 0⟩ = ofString "-0001-12-31T23:59:59Z" := by
  decide +kernel
example : parseRFC3339 (formatRFC3339 ⟨-62167219201, 0, 0⟩) = none := by decide +kernel
example : formatRFC3339 ⟨0, 0, -30⟩ = ofString "1969-12-31T23:59:30+00:00" := by decide +kernel
example : parseRFC3339 (formatRFC3339 ⟨0, 0, -30⟩) = some ⟨-30, 0, 0⟩ := by decide +kernel
example : parseRFC3339 (formatRFC3339 ⟨0, 0, 90000⟩) = none := by decide +kernel
example : ValidDate 2000 2 29 ∧ ¬ ValidDate 1900 2 29 ∧ ¬ ValidDate 2001 2 29 := by decide
example : daysFromCivil 1970 1 1 = 0 ∧ daysFromCivil 2000 2 29 = 11016 ∧
    civilFromDays 11016 = (2000, 2, 29) ∧ civilFromDays (-719468) = (0, 3, 1) := by decide +kernel

end Jl.Time

