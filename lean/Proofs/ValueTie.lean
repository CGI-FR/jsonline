/-
  Proofs.ValueTie — the hand-written Model.Value IS the interpretation of what value.go,
  conversions_import.go and conversions_export.go say.

  extract/value.go regenerates Gen.ValueTable from the source on every run (symbolic execution of
  `value.Import`, `value.Export`, `NewValue`, `CloneValue`, format by format, the package's own
  functions inlined, the result classified into the shapes of Model.ValueSyntax).  Model.ValueGen
  interprets that table from the meaning of its constructors.

  A change of the source that changes behaviour (another caster for a format, a layout instead of
  cast.ToString, a format handled by another function, a dropped nil check, another sentinel, a
  Row accepted by another format …) changes the table or makes part of it `unknown`, and one of
  these theorems stops compiling; a rewrite that keeps behaviour gives the same table.

  ONE DISAGREEMENT between Model.Value and the source is stated at the end (`undeclared_format_*`).
  `importByFormatG` has, like `importByFormat`, no previous raw value: it is the table's
  switch on a cell whose raw value is nil, which is why `import_as_modelled` holds for `.bad` too.
-/
import Model.ValueGen
import Gen.ValueTable

namespace Jl.ValueTie
open Jl Jl.ValueGen

/-- Nothing in the regenerated table is `unknown`; the four irregular bodies (Import's nil / Row / Value
    preamble, Export's nil check, NewValue, CloneValue) were recognised as what Model.Value says. -/
theorem table_known :
    Gen.valueTable.known = true
    ∧ Gen.valueTable.importPreamble = .asModelled ∧ Gen.valueTable.exportPreamble = .asModelled
    ∧ Gen.valueTable.newValue = .asModelled ∧ Gen.valueTable.cloneValue = .asModelled := by
  decide

theorem format_beq (a b : Format) : (a == b) = decide (a = b) := rfl

/-- The three `%w` sentinels are the three error classes of Model.Value (`importFail`,
    `exportFail`, the `.bad` rows), and in errors.go they are roots: none wraps another. -/
theorem sentinels_as_modelled :
    Gen.valueTable.importSentinel = "ErrUnsupportedImportType"
    ∧ Gen.valueTable.exportSentinel = "ErrUnsupportedExportType"
    ∧ Gen.valueTable.importDefault = .fail "ErrUnsupportedFormat"
    ∧ Gen.valueTable.exportDefault = .fail "ErrUnsupportedFormat"
    ∧ sentinelClass Gen.valueTable.importSentinel = some .unsupportedImport
    ∧ sentinelClass Gen.valueTable.exportSentinel = some .unsupportedExport
    ∧ (∀ s ∈ ["ErrUnsupportedImportType", "ErrUnsupportedExportType", "ErrUnsupportedFormat"],
        Gen.valueTable.sentinels.lookup s = some none) := by
  decide +kernel

/-! ### Import: a row of any table, shape by shape, in the terms of Model.Value -/

theorem wrap_import (o : Outcome Dyn) : wrapWith .unsupportedImport o = Value.importFail o := by
  cases o with
  | err e => cases e <;> rfl
  | _ => rfl

theorem importFnG_byType (env : Value.Env) (dflt : String) (typ : Ty) (val : Dyn) :
    importFnG env .unsupportedImport (.byType dflt) typ val
      = some (Value.importFrom env dflt val typ) := by
  simp only [importFnG, Value.importFrom, wrap_import]
  cases typ <;> rfl

theorem importFnG_binary (env : Value.Env) (typ : Ty) (val : Dyn) :
    importFnG env .unsupportedImport (.binary "ToString") typ val
      = some (Value.importFromBinary env val typ) := by
  simp only [importFnG, Value.importFromBinary, wrap_import]
  rfl

theorem importSwitchG_row {tb : ValueTable} {f : Format} {fn : ImportFn} {c : ErrClass}
    {env : Value.Env} {typ : Ty} {val : Dyn} {o : Outcome Dyn}
    (hr : tb.importRows.lookup f = some fn) (hc : sentinelClass tb.importSentinel = some c)
    (ho : importFnG env c fn typ val = some o) (old : Dyn) :
    importSwitchG tb env old f typ val = assignRaw f typ o := by
  simp only [importSwitchG, hr, hc, ho]

theorem importSwitchG_default {tb : ValueTable} {f : Format} {s : String} {c : ErrClass}
    (hr : tb.importRows.lookup f = none) (hd : tb.importDefault = .fail s)
    (hc : sentinelClass s = some c) (env : Value.Env) (old : Dyn) (typ : Ty) (val : Dyn) :
    importSwitchG tb env old f typ val = .ok (.cell old f typ, some c) := by
  simp only [importSwitchG, hr, hd, hc]

theorem undeclared_format_class : sentinelClass "ErrUnsupportedFormat" = some .unsupportedFormat := by
  simp [sentinelClass]

/-- The switch of `value.Import` is `Value.importByFormat` for every declared format whatever the
    cell held, and for an undeclared one on a cell that held nil (see the end of the file).
    Each row is looked up in the regenerated table by evaluation; the shape found there decides
    which of the lemmas above applies, and the caster it names must be the model's (`.trans rfl`). -/
theorem importSwitch_as_modelled (env : Value.Env) (old : Dyn) (f : Format) (typ : Ty) (val : Dyn)
    (h : f = .bad → old = .nil) :
    importSwitchG Gen.valueTable env old f typ val = Value.importByFormat env f typ val := by
  have hc := sentinels_as_modelled.2.2.2.2.1
  cases f
  case binary => exact (importSwitchG_row rfl hc (importFnG_binary ..) _).trans rfl
  case auto | hidden => exact (importSwitchG_row (fn := .castTo) rfl hc rfl _).trans rfl
  case bad =>
    rw [h rfl]
    exact importSwitchG_default rfl sentinels_as_modelled.2.2.1 undeclared_format_class ..
  all_goals exact (importSwitchG_row rfl hc (importFnG_byType ..) _).trans rfl

/-- The switch of `value.Import` is `Value.importByFormat`. -/
theorem import_as_modelled (env : Value.Env) (f : Format) (typ : Ty) (val : Dyn) :
    importByFormatG Gen.valueTable env f typ val = Value.importByFormat env f typ val :=
  importSwitch_as_modelled env .nil f typ val fun _ => rfl

/-! ### Export -/

theorem wrap_export (o : Outcome Dyn) : wrapWith .unsupportedExport o = Value.exportFail o := by
  cases o with
  | err e => cases e <;> rfl
  | _ => rfl

theorem exportFnG_chain_one (env : Value.Env) (n : String) (raw : Dyn) :
    exportFnG env .unsupportedExport (.chain [n]) raw
      = some (Value.exportFail (Cast.castNamed env.T env.ext n raw)) := by
  simp only [exportFnG, chainG, wrap_export]
  generalize Value.exportFail (Cast.castNamed env.T env.ext n raw) = o
  cases o <;> rfl

theorem exportFnG_chain_two (env : Value.Env) (n m : String) (raw : Dyn) :
    exportFnG env .unsupportedExport (.chain [n, m]) raw
      = some (match Value.exportFail (Cast.castNamed env.T env.ext n raw) with
          | .ok t => Value.exportFail (Cast.castNamed env.T env.ext m t)
          | o => o) := by
  have h := exportFnG_chain_one env m
  simp only [exportFnG, Option.some.injEq] at h
  simp only [exportFnG, chainG.eq_2 (ns := [m]), wrap_export, h]
  rfl

theorem exportFnG_binary (env : Value.Env) (n : String) (raw : Dyn) :
    exportFnG env .unsupportedExport (.binary n) raw
      = some (match Value.exportFail (Cast.castNamed env.T env.ext n raw) with
          | .ok (.bytes b) => .ok (.str (Base64.encode b))
          | .ok _ => .panic "interface conversion: not []uint8"
          | o => o) := by
  simp only [exportFnG, wrap_export]
  rfl

/-- A format that has a row.  The right side keeps the nil check as `Value.exportVal` writes it,
    so that no case split on `raw` is left to the caller. -/
theorem exportCellG_row {tb : ValueTable} {f : Format} {fn : ExportFn} {c : ErrClass}
    {env : Value.Env} {raw : Dyn} {o : Outcome Dyn}
    (hp : tb.exportPreamble = .asModelled)
    (hr : tb.exportRows.lookup f = some fn) (hc : sentinelClass tb.exportSentinel = some c)
    (ho : exportFnG env c fn raw = some o) :
    exportCellG tb env raw f = match (generalizing := false) raw with | .nil => .ok .nil | _ => o := by
  simp only [exportCellG, hp, hr, hc, ho]
  rfl

theorem exportCellG_default {tb : ValueTable} {f : Format} {s : String} {c : ErrClass}
    (hp : tb.exportPreamble = .asModelled)
    (hr : tb.exportRows.lookup f = none) (hd : tb.exportDefault = .fail s)
    (hc : sentinelClass s = some c) (env : Value.Env) (raw : Dyn) :
    exportCellG tb env raw f = match raw with | .nil => .ok .nil | _ => .err c := by
  simp only [exportCellG, hp, hr, hd, hc]
  rfl

/-- `value.Export` is the `.cell` case of `Value.exportVal`. -/
theorem export_as_modelled (env : Value.Env) (raw : Dyn) (f : Format) (typ : Ty) :
    exportCellG Gen.valueTable env raw f = Value.exportVal env (.cell raw f typ) := by
  rw [Value.exportVal.eq_def]
  have hc := sentinels_as_modelled.2.2.2.2.2.1
  cases f
  case binary => exact (exportCellG_row rfl rfl hc (exportFnG_binary ..)).trans rfl
  case date | datetime => exact (exportCellG_row rfl rfl hc (exportFnG_chain_two ..)).trans rfl
  case auto | hidden => exact (exportCellG_row (fn := .raw) rfl rfl hc rfl).trans rfl
  case bad => exact (exportCellG_default rfl rfl sentinels_as_modelled.2.2.2.1 undeclared_format_class ..).trans rfl
  all_goals exact (exportCellG_row rfl rfl hc (exportFnG_chain_one ..)).trans rfl

/-- The `Format` constants, in declaration order, are numbered as Model.Basic's `Format` is
    ordered (`String` = 0 … `Hidden` = 8; `Format.bad` stands for every other number). -/
theorem formats_as_modelled :
    Gen.valueTable.formats = Format.declared.map (fun f => (f.goName, (f.ctorIdx : Int))) := by
  decide +kernel

/-- `value.Import` with its preamble (nil, Row, Value) is `Value.importCell` — for the nine declared
    formats, whatever the cell held before. -/
theorem importCell_as_modelled (env : Value.Env) (old : Dyn) (f : Format) (typ : Ty) (val : Dyn)
    (hf : f ≠ .bad) :
    importCellG Gen.valueTable env old f typ val = Value.importCell env f typ val := by
  have sw := fun v => importSwitch_as_modelled env old f typ v (fun h => absurd h hf)
  simp only [importCellG, Value.importCell, table_known.2.1, sw]
  rfl

/-- Model.Value is the interpretation of value.go (`sentinels_as_modelled` enters the proofs of the parts and is
    not repeated). -/
theorem value_as_modelled :
    (Gen.valueTable.known = true ∧ Gen.valueTable.importPreamble = .asModelled ∧
      Gen.valueTable.exportPreamble = .asModelled ∧ Gen.valueTable.newValue = .asModelled ∧
      Gen.valueTable.cloneValue = .asModelled) ∧
    (∀ (env : Value.Env) (f : Format) (typ : Ty) (val : Dyn),
      importByFormatG Gen.valueTable env f typ val = Value.importByFormat env f typ val) ∧
    (∀ (env : Value.Env) (old : Dyn) (f : Format) (typ : Ty) (val : Dyn), f ≠ .bad →
      importCellG Gen.valueTable env old f typ val = Value.importCell env f typ val) ∧
    (∀ (env : Value.Env) (raw : Dyn) (f : Format) (typ : Ty),
      exportCellG Gen.valueTable env raw f = Value.exportVal env (.cell raw f typ)) ∧
    Gen.valueTable.formats = Format.declared.map (fun f => (f.goName, (f.ctorIdx : Int))) :=
  ⟨table_known, import_as_modelled, importCell_as_modelled, export_as_modelled, formats_as_modelled⟩

/-! ### The one place where Model.Value and the source disagree

A `Format` outside the nine constants (`jsonline.Format(42)`): `value.Import` takes the `default`
clause, `err = fmt.Errorf("%w: %#v", ErrUnsupportedFormat, v.f)`, and `v.raw` is NOT assigned
(checked on the Go side: `NewValue("old", Format(42), nil).Import("new")` leaves `Raw() == "old"`).
The table says so (`importDefault`; the translator checks that nothing is written), the
interpreter with the previous raw value says so, and Model.Value says the raw value becomes nil. -/

/-- Stated for a string argument, as in the Go check: it reaches the switch (nil, a Row under Auto / Hidden and
    a Value are answered by the preamble before it). -/
theorem undeclared_format_source (env : Value.Env) (old : Dyn) (typ : Ty) (s : Bytes) :
    importCellG Gen.valueTable env old .bad typ (.str s)
      = .ok (.cell old .bad typ, some .unsupportedFormat) := by
  simp only [importCellG, table_known.2.1]
  exact importSwitchG_default rfl sentinels_as_modelled.2.2.1 undeclared_format_class ..

theorem undeclared_format_model (env : Value.Env) (typ : Ty) (s : Bytes) :
    Value.importCell env .bad typ (.str s)
      = .ok (.cell .nil .bad typ, some .unsupportedFormat) := rfl

end Jl.ValueTie
