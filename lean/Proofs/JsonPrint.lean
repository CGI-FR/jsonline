/-
  Proofs.JsonPrint — C01: every line the exporter writes is exactly one syntactically valid
  JSON object (for the model of the reader, `Json.accepts`) followed by one newline, and
  contains no raw newline; a row that cannot be rendered writes nothing.

  `ReadsAs t v` states, about the decoder, that the text `t` is one JSON value `v` (`JsonAcc.Reads` in
  the contexts the printer creates); it is proved for every scalar the printer can emit, for arrays and
  objects of such texts, and then for everything `RowPrint.marshal*` returns, by induction over the value.
-/
import Proofs.JsonAccept
import Proofs.Base64
import Proofs.Time
import Model.RowPrint
import Model.Template
import Proofs.Bind

namespace Jl.JsonPrint
open Json JsonWrite JsonQuote RowPrint IntText JsonLex JsonAcc

/-! ### What "the text `t` is one JSON value" means for the reader -/

/-- What follows a value inside a line: nothing, or `,` `]` `}`. -/
def Ends (rest : Bytes) : Prop :=
  ∀ c, rest.head? = some c → c = 0x2C ∨ c = 0x5D ∨ c = 0x7D

/-- `JsonAcc.ValHead` of the first byte: `skipSpace`, the separator step of `token` and `more` all leave
    it alone. -/
def Lead (t : Bytes) : Prop :=
  ∃ c tl, t = c :: tl ∧ isSpace c = false ∧ c ≠ 0x3A ∧ c ≠ 0x2C ∧ c ≠ 0x5D ∧ c ≠ 0x7D

/-- `t` is read as the value `v`: in every decoder state that allows a value, with any stack and
    any admissible continuation, one `Token` call followed by `handledelim` consumes exactly `t`,
    yields `v`, and leaves the decoder in the state "a value has just ended". -/
def ReadsAs (t : Bytes) (v : JV) : Prop :=
  Lead t ∧
  ∀ (st : TokState) (stack : List TokState) (rest : Bytes) (fuel : Nat),
    valueAllowed st = true → Ends rest → t.length + 1 ≤ fuel →
    ∃ tk d', tokenCore st stack (t ++ rest) = .tok tk d' ∧
      handleDelim fuel tk d' = some (v, ⟨rest, valueEnd st, stack⟩)

theorem ends_nil : Ends [] := fun _ h => by cases h
theorem numberEnds_of_ends {rest : Bytes} (h : Ends rest) : NumberEnds rest := by
  intro c hc
  rcases h c hc with rfl | rfl | rfl <;> decide

/-- The statement in terms of `Decoder.Token` itself. -/
theorem ReadsAs.token {t : Bytes} {v : JV} (h : ReadsAs t v) (st : TokState)
    (stack : List TokState) (rest : Bytes) (fuel : Nat)
    (hst : valueAllowed st = true) (hr : Ends rest) (hf : t.length + 1 ≤ fuel) :
    ∃ tk d', Json.token ⟨t ++ rest, st, stack⟩ = .tok tk d' ∧
      handleDelim fuel tk d' = some (v, ⟨rest, valueEnd st, stack⟩) := by
  obtain ⟨tk, d', h1, h2⟩ := h.2 st stack rest fuel hst hr hf
  obtain ⟨c, tl, rfl, hc⟩ := h.1
  exact ⟨tk, d', (step_of_sep (w := []) _ stack (.none st) ws_nil hc).2.trans h1, h2⟩

theorem ReadsAs.unique {t : Bytes} {v v' : JV} (h : ReadsAs t v) (h' : ReadsAs t v') : v = v' := by
  obtain ⟨tk, d, h1, h2⟩ := h.2 .topValue [] [] (t.length + 1) rfl ends_nil (Nat.le_refl _)
  obtain ⟨tk', d', h1', h2'⟩ := h'.2 .topValue [] [] (t.length + 1) rfl ends_nil (Nat.le_refl _)
  cases h1.symm.trans h1'
  cases h2.symm.trans h2'
  rfl

/-! ### `ReadsAs` is `JsonAcc.Reads` in the contexts the printer creates -/

theorem ReadsAs.reads {t : Bytes} {v : JV} (h : ReadsAs t v) {rest : Bytes} (hr : Ends rest) :
    Reads t v rest :=
  ⟨h.1, fun _ st stack hst => by
    obtain ⟨tk, d', h1, _⟩ := h.2 st stack rest _ hst hr (Nat.le_refl _)
    refine ⟨tk, d', h1, fun fuel hf => ?_⟩
    obtain ⟨tk', d'', h1', h2'⟩ := h.2 st stack rest fuel hst hr hf
    cases h1.symm.trans h1'
    exact h2'⟩

theorem readsAs_of_reads {t : Bytes} {v : JV} (h : ∀ rest, Ends rest → Reads t v rest) :
    ReadsAs t v :=
  ⟨(h [] ends_nil).1, fun st stack rest fuel hst hr hf =>
    let ⟨tk, d', h1, h2⟩ := (h rest hr).2 (numberEnds_of_ends hr) st stack hst
    ⟨tk, d', h1, h2 fuel hf⟩⟩

/-! ### Scalars -/

theorem readsAs_scalar {c : UInt8} {tl : Bytes} {tk : Tok} {v : JV} (hv : scalarOf tk = some v)
    (hc : ValHead c)
    (hscan : ∀ rest, Ends rest → scanScalar (c :: tl ++ rest) = some (tk, rest)) :
    ReadsAs (c :: tl) v :=
  readsAs_of_reads fun rest hr => reads_scalar hc hv fun _ => hscan rest hr

theorem readsAs_quote (s : Bytes) : ReadsAs (quote s) (.str (sanitize s)) :=
  readsAs_scalar (tk := .str (sanitize s)) rfl (by decide) fun rest _ => by
    have := scanScalar_quote s rest
    simpa [quote] using this

theorem readsAs_null : ReadsAs RowPrint.null .null :=
  readsAs_scalar (tk := .null) rfl (by decide) (fun rest _ => scanScalar_null rest)

theorem readsAs_true : ReadsAs RowPrint.tru (.bool true) :=
  readsAs_scalar (tk := .tru) rfl (by decide) (fun rest _ => scanScalar_true rest)

theorem readsAs_false : ReadsAs RowPrint.fls (.bool false) :=
  readsAs_scalar (tk := .fls) rfl (by decide) (fun rest _ => scanScalar_false rest)

theorem readsAs_number {l : Bytes} (hl : isValidNumber l = true) : ReadsAs l (.num l) :=
  readsAs_of_reads fun rest _ => reads_number ((isValidNumber_iff_jnumber l).1 hl) rest

/-! ### Arrays and objects: the grammar's productions without white space -/

/-- `,p₁,p₂…`: what follows the first part of a comma-joined list. -/
def commaTail : List Bytes → Bytes
  | [] => []
  | p :: ps => 0x2C :: (p ++ commaTail ps)

theorem joinComma_cons (p : Bytes) (ps : List Bytes) : joinComma (p :: ps) = p ++ commaTail ps := by
  induction ps generalizing p with
  | nil => simp [joinComma, commaTail]
  | cons q qs ih =>
    rw [joinComma, ih q, commaTail]
    exact fun h => List.cons_ne_nil _ _ h

inductive ReadsList : List Bytes → JVList → Prop
  | nil : ReadsList [] .nil
  | cons {p ps v vs} : ReadsAs p v → ReadsList ps vs → ReadsList (p :: ps) (.cons v vs)

theorem ends_commaTail (ps : List Bytes) {c : UInt8} (hc : c = 0x5D ∨ c = 0x7D) (rest : Bytes) :
    Ends (commaTail ps ++ c :: rest) := by
  cases ps with
  | nil => rcases hc with rfl | rfl <;> simp [Ends, commaTail]
  | cons => exact fun _ h => by cases h; exact .inl rfl

theorem ReadsList.readsXs {ps : List Bytes} {vs : JVList} (h : ReadsList ps vs) (rest : Bytes) :
    ReadsXs .arrayComma (commaTail ps) vs rest := by
  induction h with
  | nil => exact readsXs_close rest (.inr rfl) ws_nil
  | @cons p ps _ _ hp _ ih =>
    have he := ends_commaTail ps (.inl rfl) rest
    simpa [commaTail] using ReadsXs.elem (w1 := []) ⟨_, .arrayComma [] ws_nil, rfl, rfl⟩ ws_nil
      (hp.reads he) (numberEnds_of_ends he) ih rfl

theorem readsAs_array {ps : List Bytes} {vs : JVList} (h : ReadsList ps vs) :
    ReadsAs (0x5B :: (joinComma ps ++ [0x5D])) (.arr vs) :=
  readsAs_of_reads fun rest _ => by
    cases h with
    | nil => exact reads_array (readsXs_close rest (.inl rfl) ws_nil)
    | @cons p ps _ _ hp hps =>
      have he := ends_commaTail ps (.inl rfl) rest
      rw [joinComma_cons]
      exact reads_array (by
        simpa using ReadsXs.elem (w1 := []) ⟨_, .none _, rfl, rfl⟩ ws_nil (hp.reads he)
          (numberEnds_of_ends he) (hps.readsXs rest) rfl)

/-- Each part is `"key":value-text`, read as the key after `sanitize` and the value. -/
inductive ReadsMembers : List Bytes → JVMembers → Prop
  | nil : ReadsMembers [] .nil
  | cons {k p ps v vs} : ReadsAs p v → ReadsMembers ps vs →
      ReadsMembers ((quote k ++ 0x3A :: p) :: ps) (.cons (sanitize k) v vs)

theorem readsKey_quote (k rest : Bytes) : ReadsKey (quote k) (sanitize k) rest :=
  ⟨quoteBody k ++ [0x22], rfl, by rw [List.append_assoc]; exact strBody_quoteBody k rest⟩

theorem ReadsMembers.readsMs {ps : List Bytes} {vs : JVMembers} (h : ReadsMembers ps vs) (rest : Bytes) :
    ReadsMs .objectComma (commaTail ps) vs rest := by
  induction h with
  | nil => exact readsMs_close rest (.inr rfl) ws_nil
  | @cons k p ps _ _ hp _ ih =>
    have he := ends_commaTail ps (.inr rfl) rest
    simpa [commaTail] using ReadsMs.member (w1 := []) (w2 := []) (w3 := [])
      ⟨_, .objectComma [] ws_nil, .inr rfl⟩ ws_nil (readsKey_quote k _) ws_nil ws_nil (hp.reads he)
      (numberEnds_of_ends he) ih rfl

theorem ReadsMembers.readsMs_start {ps : List Bytes} {vs : JVMembers} (h : ReadsMembers ps vs)
    (rest : Bytes) : ReadsMs .objectStart (joinComma ps) vs rest := by
  cases h with
  | nil => exact readsMs_close rest (.inl rfl) ws_nil
  | @cons k p ps _ _ hp hps =>
    have he := ends_commaTail ps (.inr rfl) rest
    rw [joinComma_cons]
    simpa using ReadsMs.member (w1 := []) (w2 := []) (w3 := []) ⟨_, .none _, .inl rfl⟩ ws_nil
      (readsKey_quote k _) ws_nil ws_nil (hp.reads he) (numberEnds_of_ends he) (hps.readsMs rest) rfl

theorem readsAs_object {ps : List Bytes} {vs : JVMembers} (h : ReadsMembers ps vs) :
    ReadsAs (0x7B :: (joinComma ps ++ [0x7D])) (.obj vs) :=
  readsAs_of_reads fun rest _ => reads_object (h.readsMs_start rest)

theorem unmarshal_object {ps : List Bytes} {vs : JVMembers} (h : ReadsMembers ps vs) :
    unmarshal (0x7B :: (joinComma ps ++ [0x7D])) = (vs, true) :=
  unmarshal_of_parse (w1 := []) (w2 := []) ws_nil ws_nil rfl (h.readsMs_start [] .topValue [] _
    (by simp only [List.length_cons, List.length_append, List.length_nil]; omega))


/-! ### Texts without control bytes, and texts the escaper copies as they are -/

theorem printable_append {s t : Bytes} : Printable (s ++ t) ↔ Printable s ∧ Printable t :=
  List.forall_mem_append

theorem printable_cons_iff {c : UInt8} {t : Bytes} : Printable (c :: t) ↔ 0x20 ≤ c ∧ Printable t :=
  List.forall_mem_cons

theorem printable_nil : Printable [] := nofun

theorem printable_commaTail {ps : List Bytes} (h : ∀ p ∈ ps, Printable p) : Printable (commaTail ps) := by
  induction ps with
  | nil => exact printable_nil
  | cons p ps ih => simp_all [commaTail, printable_append, printable_cons_iff]

theorem printable_joinComma {ps : List Bytes} (h : ∀ p ∈ ps, Printable p) : Printable (joinComma ps) := by
  cases ps with
  | nil => exact printable_nil
  | cons p ps => simp_all [joinComma_cons, printable_append, printable_commaTail]

theorem printable_bracket {ps : List Bytes} (h : ∀ p ∈ ps, Printable p) :
    Printable (0x5B :: (joinComma ps ++ [0x5D])) := by
  simp [printable_append, printable_cons_iff, printable_nil, printable_joinComma h]

theorem printable_brace {ps : List Bytes} (h : ∀ p ∈ ps, Printable p) :
    Printable (0x7B :: (joinComma ps ++ [0x7D])) := by
  simp [printable_append, printable_cons_iff, printable_nil, printable_joinComma h]

theorem printable_member {k p : Bytes} (hp : Printable p) : Printable (quote k ++ 0x3A :: p) :=
  printable_append.2 ⟨quote_ge k, printable_cons (by decide) hp⟩

theorem allSafe_append {s t : Bytes} : AllSafe (s ++ t) ↔ AllSafe s ∧ AllSafe t :=
  List.forall_mem_append

theorem allSafe_cons {c : UInt8} {t : Bytes} : AllSafe (c :: t) ↔ htmlSafe c = true ∧ AllSafe t :=
  List.forall_mem_cons

theorem allSafe_nil : AllSafe [] := nofun

theorem isDig_safe {c : UInt8} (h : IsDig c) : htmlSafe c = true :=
  forall_isDig (P := fun c => htmlSafe c = true) (by decide) h

theorem allSafe_pad (n w : Nat) : AllSafe (Time.pad n w) := by
  intro b hb
  simp only [Time.pad, List.mem_append, List.mem_replicate] at hb
  rcases hb with ⟨_, rfl⟩ | hb
  · decide
  · exact isDig_safe (natDigits_all_isDig n b hb)

theorem allSafe_appendInt (x : Int) (w : Nat) : AllSafe (Time.appendInt x w) := by
  unfold Time.appendInt
  split <;> simp +decide [allSafe_cons, allSafe_pad]

theorem allSafe_headText (c : Time.Civil) : AllSafe (Time.headText c) := by
  simp only [Time.headText, allSafe_append, allSafe_cons, allSafe_nil, allSafe_pad, allSafe_appendInt,
    and_true, true_and]
  decide

theorem allSafe_formatZone (off : Int) : AllSafe (Time.formatZone off) := by
  rw [Time.formatZone_eq]
  split
  · exact allSafe_cons.2 ⟨by decide, allSafe_nil⟩
  · simp only [allSafe_append, allSafe_cons, allSafe_nil, allSafe_pad, and_true, true_and]
    split <;> decide

theorem allSafe_fracNano (ns : Nat) : AllSafe (fracNano ns) := by
  unfold fracNano
  split
  · exact allSafe_nil
  · refine allSafe_cons.2 ⟨by decide, fun b hb => ?_⟩
    have := (List.dropWhile_sublist _).subset (List.mem_reverse.1 hb)
    exact allSafe_pad ns 9 b (List.mem_reverse.1 this)

open Value

/-! ### Everything the printer returns is a value text, and which value it is -/

/-- The assumption on the standard-library parameter: json.Marshal's spelling of a float, when
    there is one, is a valid JSON number. -/
def FloatTextOK (ext : Ext) : Prop :=
  ∀ b sz s, ext.jsonFloat b sz = some (some s) → isValidNumber s = true

/-- `∃ v, Prints t v` (below) with the value forgotten; `marshalDyn_good` … `marshalVal_good` state the
    printer theorem in this form. -/
def Good (t : Bytes) : Prop := (∃ v, ReadsAs t v) ∧ Printable t
def GoodList (ps : List Bytes) : Prop := (∃ vs, ReadsList ps vs) ∧ ∀ p ∈ ps, Printable p
def GoodMembers (ps : List Bytes) : Prop := (∃ vs, ReadsMembers ps vs) ∧ ∀ p ∈ ps, Printable p

/-- The body of `time.Time.MarshalJSON`'s string. -/
def timeBody (t : GoTime) : Bytes :=
  Time.formatDate t ++ [0x54] ++ Time.pad (Time.civilOf t).hour 2 ++ [0x3A] ++
    Time.pad (Time.civilOf t).min 2 ++ [0x3A] ++ Time.pad (Time.civilOf t).sec 2 ++
    fracNano t.nsec ++ Time.formatZone t.off

/-- The number text `json.Number` is marshalled as. -/
def numText (l : Bytes) : Bytes := if l.isEmpty then [0x30] else l

/-- Tree of what `Export` returned: its own when it is one of the scalar kinds, else the raw
    value's. -/
def treeExported (e : Dyn) (rawTree : JV) : JV :=
  match e with
  | .nil => .null
  | .bool b => .bool b
  | .int _ v => .num (formatInt v)
  | .str s => .str (sanitize s)
  | .num l => .num (numText l)
  | _ => rawTree

mutual
  /-- The syntax tree the reader is expected to deliver for the text of `x` (meaningful when
      marshalling succeeds): strings after `sanitize`, numbers as their literal text, members in
      print order without the hidden ones. -/
  def treeDyn (env : Env) : Dyn → JV
    | .nil => .null
    | .bool b => .bool b
    | .int _ v => .num (formatInt v)
    | .f64 b =>
      match env.ext.jsonFloat b 64 with
      | some (some s) => .num s
      | _ => .null
    | .f32 b =>
      match env.ext.jsonFloat b 32 with
      | some (some s) => .num s
      | _ => .null
    | .str s => .str (sanitize s)
    | .bytes s => .str (Base64.encode s)
    | .num l => .num (numText l)
    | .time t => .str (timeBody t)
    | .barr s => .arr (JVList.ofList (s.map fun b => JV.num (formatInt b.toNat)))
    | .arr xs => .arr (treeList env xs)
    | .gomap kvs => .obj (treeMap env kvs)
    | .val v => treeVal env v
    | .other _ => .null
  def treeList (env : Env) : DynList → JVList
    | .nil => .nil
    | .cons x xs => .cons (treeDyn env x) (treeList env xs)
  def treeMap (env : Env) : DynMap → JVMembers
    | .nil => .nil
    | .cons k x m => .cons (sanitize k) (treeDyn env x) (treeMap env m)
  def treeVal (env : Env) : Val → JV
    | .cell raw f typ =>
      match exportVal env (.cell raw f typ) with
      | .ok e => treeExported e (treeDyn env raw)
      | _ => .null
    | .row ms => .obj (treeMembers env ms)
  def treeMembers (env : Env) : Members → JVMembers
    | .nil => .nil
    | .cons k v ms =>
      if Cells.format v == .hidden then treeMembers env ms
      else .cons (sanitize k) (treeVal env v) (treeMembers env ms)
end

theorem treeVal_cell {env : Env} {raw : Dyn} {f : Format} {typ : Ty} {e : Dyn}
    (he : exportVal env (.cell raw f typ) = .ok e) :
    treeVal env (.cell raw f typ) = treeExported e (treeDyn env raw) := by
  simp only [treeVal, he]

theorem treeExported_self (env : Env) (raw : Dyn) :
    treeExported raw (treeDyn env raw) = treeDyn env raw := by
  cases raw <;> rfl

theorem sanitize_of_ascii (s : Bytes) (h : ∀ b ∈ s, b < 0x80) : sanitize s = s := by
  induction s with
  | nil => exact sanitize_nil
  | cons b tl ih =>
    rw [sanitize_ascii _ (h b (by simp)), ih fun x hx => h x (by simp [hx])]

theorem sanitize_base64 (s : Bytes) : sanitize (Base64.encode s) = Base64.encode s :=
  sanitize_of_ascii _ (Base64.encode_ascii s)

theorem timeBody_eq (t : GoTime) :
    timeBody t = Time.headText (Time.civilOf t) ++ (fracNano t.nsec ++ Time.formatZone t.off) := by
  simp only [timeBody, Time.headText, Time.formatDate, List.append_assoc]

theorem allSafe_timeBody (t : GoTime) : AllSafe (timeBody t) := by
  rw [timeBody_eq]
  simp [allSafe_append, allSafe_headText, allSafe_fracNano, allSafe_formatZone]

theorem marshalTime_eq (t : GoTime) :
    marshalTime t = if Time.year t < 0 ∨ Time.year t > 9999 then none
      else if t.off.natAbs / 3600 ≥ 24 then none else some (quote (timeBody t)) := by
  rw [quote, quoteBody_safe _ (allSafe_timeBody t)]
  unfold marshalTime
  simp only [Bool.or_eq_true, decide_eq_true_eq]
  rfl

/-- Both questions about a printed text, for one induction over the printer (`marshalDyn_prints` …). -/
def Prints (t : Bytes) (v : JV) : Prop := ReadsAs t v ∧ Printable t

theorem prints_null : Prints RowPrint.null .null :=
  ⟨readsAs_null, (by decide : ∀ b ∈ RowPrint.null, (0x20 : UInt8) ≤ b)⟩

theorem prints_bool (b : Bool) : Prints (if b then tru else fls) (.bool b) := by
  cases b
  · exact ⟨readsAs_false, (by decide : ∀ b ∈ fls, (0x20 : UInt8) ≤ b)⟩
  · exact ⟨readsAs_true, (by decide : ∀ b ∈ tru, (0x20 : UInt8) ≤ b)⟩

theorem prints_number {l : Bytes} (h : isValidNumber l = true) : Prints l (.num l) :=
  ⟨readsAs_number h, validNumber_ge h⟩

theorem prints_quote (s : Bytes) : Prints (quote s) (.str (sanitize s)) :=
  ⟨readsAs_quote s, quote_ge s⟩

theorem prints_time {t : GoTime} {s : Bytes} (h : marshalTime t = some s) :
    Prints s (.str (timeBody t)) := by
  have := prints_quote (timeBody t)
  simp only [marshalTime_eq, Option.ite_none_left_eq_some, Option.some.injEq] at h
  rwa [sanitize_of_ascii _ fun b hb => htmlSafe_lt (allSafe_timeBody t b hb), h.2.2] at this

theorem prints_base64 (s : Bytes) : Prints (quote (Base64.encode s)) (.str (Base64.encode s)) := by
  have := prints_quote (Base64.encode s)
  rwa [sanitize_base64] at this

theorem prints_numLit {l t : Bytes}
    (h : (if l.isEmpty then Outcome.ok [0x30]
      else if isValidNumber l then Outcome.ok l else Outcome.err .marshal) = .ok t) :
    Prints t (.num (numText l)) := by
  unfold numText
  split at h
  · rename_i he; injection h with h; subst h; rw [if_pos he]; exact prints_number (by decide)
  · rename_i he
    split at h
    · injection h with h; subst h; rw [if_neg he]; exact prints_number (by assumption)
    · cases h

def PrintsList (ps : List Bytes) (vs : JVList) : Prop := ReadsList ps vs ∧ ∀ p ∈ ps, Printable p
def PrintsMembers (ps : List Bytes) (vs : JVMembers) : Prop :=
  ReadsMembers ps vs ∧ ∀ p ∈ ps, Printable p

theorem PrintsList.cons {p : Bytes} {ps : List Bytes} {v : JV} {vs : JVList} (hp : Prints p v)
    (hps : PrintsList ps vs) : PrintsList (p :: ps) (.cons v vs) :=
  ⟨.cons hp.1 hps.1, List.forall_mem_cons.2 ⟨hp.2, hps.2⟩⟩

theorem PrintsMembers.cons {p : Bytes} {ps : List Bytes} {v : JV} {vs : JVMembers} (k : Bytes)
    (hp : Prints p v) (hps : PrintsMembers ps vs) :
    PrintsMembers ((quote k ++ 0x3A :: p) :: ps) (.cons (sanitize k) v vs) :=
  ⟨.cons hp.1 hps.1, List.forall_mem_cons.2 ⟨printable_member hp.2, hps.2⟩⟩

theorem prints_array {ps : List Bytes} {vs : JVList} (h : PrintsList ps vs) :
    Prints (0x5B :: (joinComma ps ++ [0x5D])) (.arr vs) :=
  ⟨readsAs_array h.1, printable_bracket h.2⟩

theorem prints_object {ps : List Bytes} {vs : JVMembers} (h : PrintsMembers ps vs) :
    Prints (0x7B :: (joinComma ps ++ [0x7D])) (.obj vs) :=
  ⟨readsAs_object h.1, printable_brace h.2⟩

theorem printsList_barr (s : Bytes) :
    PrintsList (s.map fun b => formatInt b.toNat)
      (JVList.ofList (s.map fun b => JV.num (formatInt b.toNat))) := by
  induction s with
  | nil => exact ⟨.nil, fun _ h => by cases h⟩
  | cons b s ih => exact .cons (prints_number (isValidNumber_formatInt _)) ih

theorem marshalExported_prints {env : Env} {e raw : Dyn} {t : Bytes} {rawTree : JV}
    (hraw : ∀ t, marshalDyn env raw = .ok t → Prints t rawTree)
    (h : marshalExported env e raw = .ok t) : Prints t (treeExported e rawTree) := by
  rw [marshalExported.eq_def] at h
  cases e with
  | nil => cases h; exact prints_null
  | bool b => cases h; exact prints_bool b
  | int _ v => cases h; exact prints_number (isValidNumber_formatInt v)
  | str s => cases h; exact prints_quote s
  | num l => exact prints_numLit h
  | _ => exact hraw t h

mutual
  theorem marshalDyn_prints (env : Env) (hx : FloatTextOK env.ext) :
      ∀ (x : Dyn) (t : Bytes), marshalDyn env x = .ok t → Prints t (treeDyn env x)
    | .nil, t, h => by
      rw [marshalDyn.eq_def] at h; cases h; exact prints_null
    | .bool b, t, h => by
      rw [marshalDyn.eq_def] at h; cases h; exact prints_bool b
    | .int _ v, t, h => by
      rw [marshalDyn.eq_def] at h; cases h; exact prints_number (isValidNumber_formatInt v)
    | .f64 b, t, h | .f32 b, t, h => by
      rw [marshalDyn.eq_def] at h
      simp only at h
      split at h <;> cases h
      rename_i s hs
      simp only [treeDyn, hs]; exact prints_number (hx _ _ _ hs)
    | .str s, t, h => by
      rw [marshalDyn.eq_def] at h; cases h; exact prints_quote s
    | .bytes s, t, h => by
      rw [marshalDyn.eq_def] at h; cases h; exact prints_base64 s
    | .num l, t, h => by
      rw [marshalDyn.eq_def] at h; exact prints_numLit h
    | .time tm, t, h => by
      rw [marshalDyn.eq_def] at h
      simp only at h
      split at h <;> cases h
      exact prints_time ‹_›
    | .barr s, t, h => by
      rw [marshalDyn.eq_def] at h; cases h; exact prints_array (printsList_barr s)
    | .arr xs, t, h => by
      simp only [marshalDyn_arr_eq, Outcome.bind_eq_ok, Outcome.ok.injEq] at h
      obtain ⟨parts, hp, rfl⟩ := h
      exact prints_array (marshalList_prints env hx xs parts hp)
    | .gomap kvs, t, h => by
      simp only [marshalDyn_gomap_eq, Outcome.bind_eq_ok, Outcome.ok.injEq] at h
      obtain ⟨parts, hp, rfl⟩ := h
      exact prints_object (marshalMap_prints env hx kvs parts hp)
    | .val v, t, h => by
      rw [marshalDyn.eq_def] at h
      exact marshalVal_prints env hx v t h
    | .other _, t, h => by
      rw [marshalDyn.eq_def] at h; cases h
  theorem marshalList_prints (env : Env) (hx : FloatTextOK env.ext) :
      ∀ (xs : DynList) (parts : List Bytes), marshalList env xs = .ok parts →
        PrintsList parts (treeList env xs)
    | .nil, parts, h => by
      rw [marshalList.eq_def] at h; cases h
      exact ⟨.nil, fun _ h => by cases h⟩
    | .cons x xs, parts, h => by
      simp only [marshalList_cons_eq, Outcome.bind_eq_ok, Outcome.ok.injEq] at h
      obtain ⟨b, hb, rest, hr, rfl⟩ := h
      exact .cons (marshalDyn_prints env hx x b hb) (marshalList_prints env hx xs rest hr)
  theorem marshalMap_prints (env : Env) (hx : FloatTextOK env.ext) :
      ∀ (m : DynMap) (parts : List Bytes), marshalMap env m = .ok parts →
        PrintsMembers parts (treeMap env m)
    | .nil, parts, h => by
      rw [marshalMap.eq_def] at h; cases h
      exact ⟨.nil, fun _ h => by cases h⟩
    | .cons k x m, parts, h => by
      simp only [marshalMap_cons_eq, Outcome.bind_eq_ok, Outcome.ok.injEq] at h
      obtain ⟨b, hb, rest, hr, rfl⟩ := h
      exact .cons k (marshalDyn_prints env hx x b hb) (marshalMap_prints env hx m rest hr)
  theorem marshalVal_prints (env : Env) (hx : FloatTextOK env.ext) :
      ∀ (v : Val) (t : Bytes), marshalVal env v = .ok t → Prints t (treeVal env v)
    | .cell raw f typ, t, h => by
      rw [marshalVal_cell_eq, Outcome.bind_eq_ok] at h
      obtain ⟨e, he, h⟩ := h
      simp only [treeVal, he]
      exact marshalExported_prints (marshalDyn_prints env hx raw) h
    | .row ms, t, h => by
      simp only [marshalVal_row_eq, Outcome.bind_eq_ok, Outcome.ok.injEq] at h
      obtain ⟨parts, hp, rfl⟩ := h
      exact prints_object (marshalMembers_prints env hx ms parts hp)
  theorem marshalMembers_prints (env : Env) (hx : FloatTextOK env.ext) :
      ∀ (ms : Members) (parts : List Bytes), marshalMembers env ms = .ok parts →
        PrintsMembers parts (treeMembers env ms)
    | .nil, parts, h => by
      rw [marshalMembers.eq_def] at h; cases h
      exact ⟨.nil, fun _ h => by cases h⟩
    | .cons k v ms, parts, h => by
      rw [marshalMembers_cons_eq] at h
      split at h
      · rename_i hh
        simp only [treeMembers, hh, if_true]
        exact marshalMembers_prints env hx ms parts h
      · rename_i hh
        simp only [treeMembers, hh]
        simp only [Outcome.bind_eq_ok, Outcome.ok.injEq] at h
        obtain ⟨b, hb, rest, hr, rfl⟩ := h
        exact .cons k (marshalVal_prints env hx v b hb) (marshalMembers_prints env hx ms rest hr)
end

theorem marshalDyn_tree (env : Env) (hx : FloatTextOK env.ext) :
    ∀ (x : Dyn) (t : Bytes), marshalDyn env x = .ok t → ReadsAs t (treeDyn env x) :=
  fun x t h => (marshalDyn_prints env hx x t h).1

theorem marshalList_tree (env : Env) (hx : FloatTextOK env.ext) :
      ∀ (xs : DynList) (parts : List Bytes), marshalList env xs = .ok parts →
        ReadsList parts (treeList env xs) :=
  fun xs parts h => (marshalList_prints env hx xs parts h).1

theorem marshalMap_tree (env : Env) (hx : FloatTextOK env.ext) :
      ∀ (m : DynMap) (parts : List Bytes), marshalMap env m = .ok parts →
        ReadsMembers parts (treeMap env m) :=
  fun m parts h => (marshalMap_prints env hx m parts h).1

theorem marshalVal_tree (env : Env) (hx : FloatTextOK env.ext) :
    ∀ (v : Val) (t : Bytes), marshalVal env v = .ok t → ReadsAs t (treeVal env v) :=
  fun v t h => (marshalVal_prints env hx v t h).1

theorem marshalDyn_good (env : Env) (hx : FloatTextOK env.ext) :
      ∀ (x : Dyn) (t : Bytes), marshalDyn env x = .ok t → Good t :=
  fun x t h => (marshalDyn_prints env hx x t h).imp_left fun h => ⟨_, h⟩

theorem marshalList_good (env : Env) (hx : FloatTextOK env.ext) :
      ∀ (xs : DynList) (parts : List Bytes), marshalList env xs = .ok parts → GoodList parts :=
  fun xs parts h => (marshalList_prints env hx xs parts h).imp_left fun h => ⟨_, h⟩

theorem marshalMap_good (env : Env) (hx : FloatTextOK env.ext) :
      ∀ (m : DynMap) (parts : List Bytes), marshalMap env m = .ok parts → GoodMembers parts :=
  fun m parts h => (marshalMap_prints env hx m parts h).imp_left fun h => ⟨_, h⟩

theorem marshalVal_good (env : Env) (hx : FloatTextOK env.ext) :
      ∀ (v : Val) (t : Bytes), marshalVal env v = .ok t → Good t :=
  fun v t h => (marshalVal_prints env hx v t h).imp_left fun h => ⟨_, h⟩


/-! ### C01 -/

theorem marshalRow_shape {env : Env} {ms : Members} {bs : Bytes}
    (h : marshalRow env ms = .ok bs) :
    ∃ parts, marshalMembers env ms = .ok parts ∧ bs = 0x7B :: (joinComma parts ++ [0x7D]) := by
  simpa only [marshalRow_bind, Outcome.bind_eq_ok, Outcome.ok.injEq, eq_comm (a := bs)] using h

theorem not_mem_newline {bs : Bytes} (h : Printable bs) : (0x0A : UInt8) ∉ bs :=
  fun hm => absurd (h _ hm) (by decide)

/-- C01 for `row.MarshalJSON`: the text is accepted by the reader as one object and nothing else, and
    holds no newline byte. -/
theorem marshalRow_valid (env : Env) (h : FloatTextOK env.ext) (ms : Members) (bs : Bytes) :
    marshalRow env ms = .ok bs → Json.accepts bs = true ∧ (0x0A : UInt8) ∉ bs := by
  intro hb
  obtain ⟨parts, hp, rfl⟩ := marshalRow_shape hb
  obtain ⟨hvs, hpr⟩ := marshalMembers_prints env h ms parts hp
  exact ⟨by rw [accepts, unmarshal_object hvs], not_mem_newline (printable_brace hpr)⟩

/-- C01 for `exporter.Export`: a successful export writes one accepted object text without a
    newline byte, then exactly one newline. -/
theorem exportLine_valid (env : Env) (h : FloatTextOK env.ext) (t : Template.Tmpl) (v : Dyn)
    (w : Bytes) (hw : Template.exportLine env t v = .ok (w, none)) :
    ∃ bs, w = bs ++ [0x0A] ∧ Json.accepts bs = true ∧ (0x0A : UInt8) ∉ bs := by
  obtain ⟨row, bs, hb, rfl⟩ := (exportLine_write hw).1 rfl
  exact ⟨bs, rfl, marshalRow_valid env h _ bs hb⟩

theorem exportLine_error (env : Env) (t : Template.Tmpl) (v : Dyn) (w : Bytes) (e : ErrClass)
    (hw : Template.exportLine env t v = .ok (w, some e)) : w = [] :=
  (exportLine_write hw).2 nofun

theorem exportLine_one_newline (env : Env) (h : FloatTextOK env.ext) (t : Template.Tmpl) (v : Dyn)
    (w : Bytes) (hw : Template.exportLine env t v = .ok (w, none)) :
    w.count 0x0A = 1 ∧ w.getLast? = some 0x0A := by
  obtain ⟨bs, rfl, _, hn⟩ := exportLine_valid env h t v w hw
  refine ⟨?_, by simp⟩
  rw [List.count_append, List.count_eq_zero.2 hn]
  rfl

theorem jlLine_cases {env : Env} {ti to : Template.Tmpl} {line w : Bytes} {e : Option ErrClass}
    (h : Template.jlLine env ti to line = .ok (w, e)) :
    (w = [] ∧ e ≠ none) ∨ ∃ v, Template.exportLine env to v = .ok (w, e) := by
  rw [jlLine_eq, Outcome.bind_eq_ok] at h
  obtain ⟨⟨row, e'⟩, _, h⟩ := h
  cases e' with
  | some e' => cases h; exact .inl ⟨rfl, nofun⟩
  | none => exact .inr ⟨_, h⟩

theorem jlLine_valid (env : Env) (h : FloatTextOK env.ext) (ti to : Template.Tmpl) (line w : Bytes)
    (hw : Template.jlLine env ti to line = .ok (w, none)) :
    ∃ bs, w = bs ++ [0x0A] ∧ Json.accepts bs = true ∧ (0x0A : UInt8) ∉ bs := by
  rcases jlLine_cases hw with ⟨_, hne⟩ | ⟨v, hv⟩
  · exact absurd rfl hne
  · exact exportLine_valid env h to v w hv

theorem jlLine_error (env : Env) (ti to : Template.Tmpl) (line w : Bytes) (e : ErrClass)
    (hw : Template.jlLine env ti to line = .ok (w, some e)) : w = [] :=
  (jlLine_cases hw).elim (·.1) fun ⟨v, hv⟩ => exportLine_error env to v w e hv

/-! ### The `marshal*` block, one `eq_def` step per constructor

Concrete computations, here and in other files, go through these restatements (results given as
hypotheses); the induction `marshal*_prints` above takes a result apart instead, with the `_eq` forms
of Proofs.Bind. -/

theorem marshalDyn_nil (env : Env) : marshalDyn env .nil = .ok RowPrint.null := by
  rw [marshalDyn.eq_def]
theorem marshalDyn_str (env : Env) (s : Bytes) : marshalDyn env (.str s) = .ok (quote s) := by
  rw [marshalDyn.eq_def]
theorem marshalDyn_int (env : Env) (ty : IntTy) (v : Int) :
    marshalDyn env (.int ty v) = .ok (formatInt v) := by
  rw [marshalDyn.eq_def]
theorem marshalDyn_bool (env : Env) (b : Bool) :
    marshalDyn env (.bool b) = .ok (if b then tru else fls) := by
  rw [marshalDyn.eq_def]
theorem marshalDyn_num (env : Env) {l : Bytes} (h : JsonWrite.isValidNumber l = true) :
    marshalDyn env (.num l) = .ok l := by
  obtain ⟨c, tl, rfl, _⟩ := validNumber_head h
  rw [marshalDyn.eq_def]
  simp [h]
theorem marshalDyn_val (env : Env) (v : Val) : marshalDyn env (.val v) = marshalVal env v := by
  rw [marshalDyn.eq_def]
theorem marshalDyn_arr (env : Env) (xs : DynList) {parts : List Bytes}
    (h : marshalList env xs = .ok parts) :
    marshalDyn env (.arr xs) = .ok (0x5B :: (joinComma parts ++ [0x5D])) := by
  rw [marshalDyn.eq_def]; simp only [h]
theorem marshalList_nil (env : Env) : marshalList env .nil = .ok [] := by
  rw [marshalList.eq_def]
theorem marshalList_cons (env : Env) (x : Dyn) (xs : DynList) {b : Bytes} {rest : List Bytes}
    (h1 : marshalDyn env x = .ok b) (h2 : marshalList env xs = .ok rest) :
    marshalList env (.cons x xs) = .ok (b :: rest) := by
  rw [marshalList.eq_def]; simp only [h1, h2]
theorem marshalMembers_nil (env : Env) : marshalMembers env .nil = .ok [] := by
  rw [marshalMembers.eq_def]
theorem marshalMembers_hidden (env : Env) (k : Bytes) (v : Val) (ms : Members)
    (h : Cells.format v = .hidden) : marshalMembers env (.cons k v ms) = marshalMembers env ms := by
  rw [marshalMembers.eq_def]; simp only [h, beq_self_eq_true, if_true]
theorem marshalMembers_cons (env : Env) (k : Bytes) (v : Val) (ms : Members) {b : Bytes}
    {rest : List Bytes} (h : Cells.format v ≠ .hidden)
    (h1 : marshalVal env v = .ok b) (h2 : marshalMembers env ms = .ok rest) :
    marshalMembers env (.cons k v ms) = .ok ((quote k ++ 0x3A :: b) :: rest) := by
  rw [marshalMembers.eq_def]; simp only [beq_iff_eq, h, if_false, h1, h2]

theorem marshalVal_auto (env : Env) (raw : Dyn) (typ : Ty) :
    marshalVal env (.cell raw .auto typ) = marshalDyn env raw := by
  rw [marshalVal_cell_ok (exportVal_auto env raw typ), marshalExported_self]

theorem marshalRow_eq (env : Env) (ms : Members) {parts : List Bytes}
    (h : marshalMembers env ms = .ok parts) :
    marshalRow env ms = .ok (0x7B :: (joinComma parts ++ [0x7D])) := by
  rw [marshalRow_bind, h, Outcome.bind_ok]

/-! ### Non-vacuity: a concrete row through the printer and the theorems -/

/-- A row whose first key holds a control byte, a quote and an ill-formed byte and whose value
    holds a newline; a hidden cell; an array with a negative number and a null. -/
def demoRow : Members :=
  .cons [0x01, 0x22, 0xFF] (.cell (.str [0x0A]) .auto .none)
    (.cons [0x68] (.cell (.int .int 7) .hidden .none)
      (.cons [0x6B] (.cell (.arr (.cons (.int .i8 (-5)) (.cons .nil .nil))) .auto .none) .nil))

/-- `{"\u0001\"\ufffd":"\n","k":[-5,null]}` -/
def demoText : Bytes :=
  0x7B :: (joinComma [quote [0x01, 0x22, 0xFF] ++ 0x3A :: quote [0x0A],
    quote [0x6B] ++ 0x3A :: (0x5B :: (joinComma [formatInt (-5), RowPrint.null] ++ [0x5D]))] ++ [0x7D])

theorem demo_marshal (env : Env) : marshalRow env demoRow = .ok demoText := by
  refine marshalRow_eq env _ ?_
  refine marshalMembers_cons env _ _ _ (by decide) ?_ ?_
  · rw [marshalVal_auto, marshalDyn_str]
  · rw [marshalMembers_hidden env _ _ _ rfl]
    refine marshalMembers_cons env _ _ _ (by decide) ?_ (marshalMembers_nil env)
    rw [marshalVal_auto]
    exact marshalDyn_arr env _ (marshalList_cons env _ _ (marshalDyn_int env _ _)
      (marshalList_cons env _ _ (marshalDyn_nil env) (marshalList_nil env)))

example : demoText =
    [0x7B, 0x22, 0x5C, 0x75, 0x30, 0x30, 0x30, 0x31, 0x5C, 0x22, 0x5C, 0x75, 0x66, 0x66, 0x66, 0x64,
     0x22, 0x3A, 0x22, 0x5C, 0x6E, 0x22, 0x2C, 0x22, 0x6B, 0x22, 0x3A, 0x5B, 0x2D, 0x35, 0x2C,
     0x6E, 0x75, 0x6C, 0x6C, 0x5D, 0x7D] := by
  simp [demoText, joinComma, quote, quoteBody, htmlSafe, escapeAscii, u00, hexLower, Utf8.seqLen,
    formatInt, natDigits, digitChar, RowPrint.null]

example (env : Env) (h : FloatTextOK env.ext) :
    Json.accepts demoText = true ∧ (0x0A : UInt8) ∉ demoText :=
  marshalRow_valid env h demoRow demoText (demo_marshal env)

example : Json.unmarshal demoText =
    (.cons [0x01, 0x22, 0xEF, 0xBF, 0xBD] (.str [0x0A])
      (.cons [0x6B] (.arr (.cons (.num [0x2D, 0x35]) (.cons .null .nil))) .nil), true) := by
  have h : ReadsMembers
      [quote [0x01, 0x22, 0xFF] ++ 0x3A :: quote [0x0A],
       quote [0x6B] ++ 0x3A :: (0x5B :: (joinComma [formatInt (-5), RowPrint.null] ++ [0x5D]))] _ :=
    .cons (readsAs_quote _) (.cons (readsAs_array (.cons (readsAs_number (isValidNumber_formatInt _))
      (.cons readsAs_null .nil))) .nil)
  rw [demoText, unmarshal_object h]
  simp [sanitize, Utf8.seqLen, Utf8.replacement, formatInt, natDigits, digitChar]

/-- The float assumption is satisfiable by an environment that does spell floats. -/
example : FloatTextOK { Ext.empty with jsonFloat := fun _ _ => some (some [0x31, 0x2E, 0x35]) } := by
  intro b sz s h
  injection h with h; injection h with h; subst h; decide

/-- A spelling such as `1 2` or `NaN` is excluded by it. -/
example : isValidNumber [0x31, 0x20, 0x32] = false ∧ isValidNumber [0x4E, 0x61, 0x4E] = false := by
  decide


/-! ### The tree that is read back is the tree that was printed (towards C02) -/

/-- What `row.UnmarshalJSON` delivers for a printed row. -/
theorem unmarshal_marshalRow (env : Env) (h : FloatTextOK env.ext) (ms : Members) (bs : Bytes)
    (hb : marshalRow env ms = .ok bs) : Json.unmarshal bs = (treeMembers env ms, true) := by
  obtain ⟨parts, hp, rfl⟩ := marshalRow_shape hb
  exact unmarshal_object (marshalMembers_prints env h ms parts hp).1


/-- The expected tree of the demo row, computed: the hidden cell is absent, the ill-formed key
    byte has become U+FFFD, the newline in the value is back as a raw byte of the string. -/
example (env : Env) : treeMembers env demoRow =
    .cons [0x01, 0x22, 0xEF, 0xBF, 0xBD] (.str [0x0A])
      (.cons [0x6B] (.arr (.cons (.num [0x2D, 0x35]) (.cons .null .nil))) .nil) := by
  simp [demoRow, treeMembers, treeVal, treeDyn, treeList, treeExported, exportVal, Cells.format,
    sanitize, Utf8.seqLen, Utf8.replacement, formatInt, natDigits, digitChar]

example (env : Env) (h : FloatTextOK env.ext) :
    Json.unmarshal demoText = (treeMembers env demoRow, true) :=
  unmarshal_marshalRow env h demoRow demoText (demo_marshal env)


end Jl.JsonPrint

