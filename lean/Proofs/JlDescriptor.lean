/-
  Proofs.JlDescriptor — cmd/jl's column descriptors (property C19).

  `parseDescriptor` (cmd/jl/definition.go) applies `^([^\(]+)(?:\(([^\)]+)\))?$` with `FindStringSubmatch`
  and looks the two groups up in `formatRegistry` and `typeRegistry`; the model (Model.Jl) writes the
  expression as a function on bytes (`splitDescriptor`).  Here the expression is a relation (`Matches`), the
  function is shown to be that relation, and its byte-wise reading to agree with Go's rune-wise one (§6).
-/
import Model.Jl
import Gen.Registry
import Model.Basic
import Proofs.JsonQuote

namespace Jl.JlDescriptor
open Jl Jl.Value Jl.Template Jl.JlCmd

/-- '(' -/
abbrev LP : UInt8 := 0x28
/-- ')' -/
abbrev RP : UInt8 := 0x29

/-! ## 1. The regular expression as a relation; the string determines the groups -/

/-- `Matches s name arg?`: `s` matches `^([^\(]+)(?:\(([^\)]+)\))?$` with group 1 = `name`
    and group 2 = `arg?` (`none`: the optional group did not take part). -/
inductive Matches : Bytes → Bytes → Option Bytes → Prop
  | plain (name : Bytes) : name ≠ [] → LP ∉ name → Matches name name none
  | typed (name arg : Bytes) : name ≠ [] → LP ∉ name → arg ≠ [] → RP ∉ arg →
      Matches (name ++ LP :: (arg ++ [RP])) name (some arg)

/-! Both splitting functions of the model cut at the first `c` with `takeWhile` / `dropWhile`: the only way to
write a string as `p ++ r` with `p` free of `c` and `r` empty or starting with `c`. -/

theorem span_of_cut {c : UInt8} {p r : Bytes} (hp : c ∉ p) (hr : r = [] ∨ ∃ r', r = c :: r') :
    (p ++ r).takeWhile (· != c) = p ∧ (p ++ r).dropWhile (· != c) = r := by
  have hpos : ∀ a ∈ p, (a != c) = true := fun a ha => bne_iff_ne.2 fun e => hp (e ▸ ha)
  rw [List.takeWhile_append_of_pos hpos, List.dropWhile_append_of_pos hpos]
  rcases hr with rfl | ⟨r', rfl⟩ <;> simp

theorem exists_cut {α : Type} [DecidableEq α] (c : α) (s : List α) :
    ∃ p r, s = p ++ r ∧ c ∉ p ∧ (r = [] ∨ ∃ r', r = c :: r') := by
  induction s with
  | nil => exact ⟨[], [], rfl, List.not_mem_nil, .inl rfl⟩
  | cons x s ih =>
    by_cases hx : x = c
    · exact ⟨[], x :: s, rfl, List.not_mem_nil, .inr ⟨s, by rw [hx]⟩⟩
    · obtain ⟨p, r, rfl, hp, hr⟩ := ih
      exact ⟨x :: p, r, rfl, by simp [hp, Ne.symm hx], hr⟩

theorem span_of_not_mem {c : UInt8} {s : Bytes} (h : c ∉ s) :
    s.takeWhile (· != c) = s ∧ s.dropWhile (· != c) = [] := by
  simpa using span_of_cut (r := []) h (.inl rfl)

theorem span_sep {c : UInt8} {l : Bytes} (r : Bytes) (h : c ∉ l) :
    (l ++ c :: r).takeWhile (· != c) = l ∧ (l ++ c :: r).dropWhile (· != c) = c :: r :=
  span_of_cut h (.inr ⟨r, rfl⟩)

/-- A match is the cut at the first '(': the string determines both groups (`C19.descriptor_match_unique`). -/
theorem Matches.span {s n : Bytes} {a : Option Bytes} (h : Matches s n a) :
    s.takeWhile (· != LP) = n ∧
      s.dropWhile (· != LP) = match a with | none => [] | some arg => LP :: (arg ++ [RP]) := by
  cases h with
  | plain _ _ hn => exact span_of_not_mem hn
  | typed _ arg _ hn _ _ => exact span_sep _ hn

/-! ## 2. The model's function is the relation -/

/-- `FindStringSubmatch` reports a group that did not take part as "" — so does the model. -/
def group2 : Option Bytes → Bytes
  | none => []
  | some a => a

/-- Reading the model's second component back: "" is "the group did not take part" (sound
    because group 2, when it takes part, is never empty). -/
def argOf (g : Bytes) : Option Bytes := if g = [] then none else some g

theorem split_of_matches {s n : Bytes} {a : Option Bytes} (h : Matches s n a) :
    splitDescriptor s = some (n, group2 a) := by
  unfold splitDescriptor
  rw [h.span.1, h.span.2]
  cases h <;> simp [group2, *]

theorem matches_of_split {s n g : Bytes} (h : splitDescriptor s = some (n, g)) :
    Matches s n (argOf g) := by
  obtain ⟨p, r, rfl, hp, hr⟩ := exists_cut 0x28 s
  obtain ⟨ht, hd⟩ := span_of_cut hp hr
  simp only [splitDescriptor, ht, hd] at h
  have hpe : p ≠ [] := by
    rintro rfl
    simp at h
  rcases hr with rfl | ⟨r, rfl⟩
  · simp [hpe] at h
    obtain ⟨rfl, rfl⟩ := h
    simpa [argOf] using Matches.plain p hpe hp
  · -- what follows '(' must be a body and a final ')'
    rcases List.eq_nil_or_concat r with rfl | ⟨body, last, rfl⟩
    · simp [hpe] at h
    · simp only [List.isEmpty_iff, hpe, if_false, List.isEmpty_cons, Bool.false_eq_true,
        List.drop_succ_cons, List.drop_zero] at h
      split at h
      · rename_i revBody heq
        obtain ⟨rfl, rfl⟩ : last = 41 ∧ body.reverse = revBody := by simpa using heq
        simp only [List.reverse_reverse, Bool.or_eq_true, List.isEmpty_iff, List.contains_eq_mem,
          decide_eq_true_eq, Option.ite_none_left_eq_some, not_or, Option.some.injEq,
          Prod.mk.injEq] at h
        obtain ⟨⟨hbe, hb⟩, rfl, rfl⟩ := h
        simpa [argOf, hbe] using Matches.typed p body hpe hp hbe hb
      · cases h

/-- `arg ≠ some []`: reporting an absent group 2 as "" loses nothing. -/
theorem parseDescriptor_iff (s name : Bytes) (arg : Option Bytes) :
    Matches s name arg ↔ (splitDescriptor s = some (name, group2 arg) ∧ arg ≠ some []) := by
  constructor
  · intro h
    refine ⟨split_of_matches h, ?_⟩
    cases h <;> simp [*]
  · rintro ⟨h, hne⟩
    have hm := matches_of_split h
    cases arg with
    | none => simpa [group2, argOf] using hm
    | some a =>
      have ha : a ≠ [] := by simpa using hne
      simpa [group2, argOf, ha] using hm

theorem splitDescriptor_none_iff (s : Bytes) :
    splitDescriptor s = none ↔ ¬ ∃ n a, Matches s n a := by
  constructor
  · rintro h ⟨n, a, hm⟩
    rw [split_of_matches hm] at h
    cases h
  · intro h
    cases hs : splitDescriptor s with
    | none => rfl
    | some p =>
      obtain ⟨n, g⟩ := p
      exact absurd ⟨n, _, matches_of_split hs⟩ h

theorem Matches.name_ok {s n : Bytes} {a : Option Bytes} (h : Matches s n a) : n ≠ [] ∧ LP ∉ n := by
  cases h <;> exact ⟨by assumption, by assumption⟩

theorem Matches.arg_ok {s n a : Bytes} (h : Matches s n (some a)) : a ≠ [] ∧ RP ∉ a := by
  cases h; exact ⟨by assumption, by assumption⟩

/-! ### The shapes that do not match -/

theorem nomatch_empty : splitDescriptor [] = none := by decide +kernel

theorem nomatch_leading_paren (r : Bytes) : splitDescriptor (LP :: r) = none := by
  simp [splitDescriptor]

/-- An unclosed parenthesis, or text after the closing one. -/
theorem nomatch_not_closed (s : Bytes) (ho : LP ∈ s) (hc : s.getLast? ≠ some RP) :
    splitDescriptor s = none := by
  rw [splitDescriptor_none_iff]
  rintro ⟨n, a, hm⟩
  cases hm with
  | plain _ _ hn => exact hn ho
  | typed _ arg _ _ _ _ => exact hc (by simp [List.getLast?_append, List.getLast?_cons])

/-- Empty parentheses, nested ones `f((t))`, a second group `f(t)(u)`, any text after the first ')' that
    itself ends with ')'. -/
theorem nomatch_bad_arg (n a : Bytes) (hn : LP ∉ n) (ha : a = [] ∨ RP ∈ a) :
    splitDescriptor (n ++ LP :: (a ++ [RP])) = none := by
  rw [splitDescriptor_none_iff]
  rintro ⟨n', a', hm⟩
  have hr := hm.span.2
  rw [(span_sep (c := 0x28) _ hn).2] at hr
  cases a' with
  | none => simp at hr
  | some arg =>
    have he : a = arg := by simpa using hr
    subst he
    rcases ha with h | h
    · exact hm.arg_ok.1 h
    · exact hm.arg_ok.2 h

theorem nomatch_empty_parens (n : Bytes) (hn : LP ∉ n) : splitDescriptor (n ++ [LP, RP]) = none := by
  simpa using nomatch_bad_arg n [] hn (Or.inl rfl)

example : splitDescriptor [] = none := by decide +kernel
example : splitDescriptor [0x28, 0x69, 0x6E, 0x74, 0x29] = none := by decide +kernel
example : splitDescriptor [0x73, 0x74, 0x72, 0x69, 0x6E, 0x67, 0x28, 0x69, 0x6E, 0x74, 0x29, 0x78] = none := by decide +kernel
example : splitDescriptor [0x73, 0x74, 0x72, 0x69, 0x6E, 0x67, 0x28, 0x28, 0x69, 0x6E, 0x74, 0x29, 0x29] = none := by decide +kernel
example : splitDescriptor [0x73, 0x74, 0x72, 0x69, 0x6E, 0x67, 0x28, 0x69, 0x6E, 0x74] = none := by decide +kernel
example : splitDescriptor [0x73, 0x74, 0x72, 0x69, 0x6E, 0x67, 0x28, 0x69, 0x6E, 0x74, 0x29, 0x28, 0x69, 0x6E, 0x74, 0x29] = none := by decide +kernel
example : splitDescriptor [0x73, 0x74, 0x72, 0x69, 0x6E, 0x67, 0x28, 0x29] = none := by decide +kernel
example : splitDescriptor [0x73, 0x74, 0x72, 0x69, 0x6E, 0x67, 0x28, 0x69, 0x6E, 0x74, 0x29, 0x29] = none := by decide +kernel
/-- Matches that may surprise: ')' is allowed in group 1, '(' in group 2, and so are spaces, ':' and line
    feeds (negated classes match '\n'; `$` is the end of the text). -/
example : splitDescriptor [0x73, 0x74, 0x72, 0x69, 0x6E, 0x67, 0x29] = some ([0x73, 0x74, 0x72, 0x69, 0x6E, 0x67, 0x29], []) := by decide +kernel
example : splitDescriptor [0x73, 0x74, 0x72, 0x69, 0x6E, 0x67, 0x28, 0x69, 0x6E, 0x28, 0x74, 0x29] = some ([0x73, 0x74, 0x72, 0x69, 0x6E, 0x67], [0x69, 0x6E, 0x28, 0x74]) := by decide +kernel
example : splitDescriptor [0x73, 0x74, 0x72, 0x69, 0x6E, 0x67, 0x20, 0x28, 0x69, 0x6E, 0x74, 0x29] = some ([0x73, 0x74, 0x72, 0x69, 0x6E, 0x67, 0x20], [0x69, 0x6E, 0x74]) := by decide +kernel
example : splitDescriptor [0x73, 0x74, 0x72, 0x69, 0x6E, 0x67, 0x0A] = some ([0x73, 0x74, 0x72, 0x69, 0x6E, 0x67, 0x0A], []) := by decide +kernel
example : splitDescriptor [0x73, 0x74, 0x72, 0x69, 0x6E, 0x67, 0x28, 0x69, 0x6E, 0x74, 0x29] = some ([0x73, 0x74, 0x72, 0x69, 0x6E, 0x67], [0x69, 0x6E, 0x74]) := by decide +kernel

/-! ## 3. Totality and fallbacks over the regenerated registries -/

theorem lookupB_some_mem {α : Type} (tbl : List (Bytes × α)) (k : Bytes) (v : α)
    (h : lookupB tbl k = some v) : (k, v) ∈ tbl := by
  unfold lookupB at h
  simp only [Option.map_eq_some_iff] at h
  obtain ⟨e, he, rfl⟩ := h
  have hk := List.find?_some he
  have hm := List.mem_of_find?_eq_some he
  have : e.1 = k := by simpa using hk
  subst this
  exact hm

theorem lookupB_none {α : Type} (tbl : List (Bytes × α)) (k : Bytes)
    (h : ∀ e ∈ tbl, e.1 ≠ k) : lookupB tbl k = none := by
  unfold lookupB
  simp only [Option.map_eq_none_iff, List.find?_eq_none]
  intro e he
  simpa using h e he

theorem mem_of_getD_ne {α : Type} {tbl : List (Bytes × α)} {k : Bytes} {d v : α}
    (h : (lookupB tbl k).getD d = v) (hv : v ≠ d) : (k, v) ∈ tbl := by
  cases hl : lookupB tbl k with
  | none => rw [hl] at h; exact absurd h.symm hv
  | some x => rw [hl] at h; exact lookupB_some_mem tbl k v (h ▸ hl)

def formatOf (n : Bytes) : Format := (lookupB Gen.formatRegistry n).getD .auto
def typeOf : Option Bytes → Ty
  | none => .none
  | some t => (lookupB Gen.typeRegistry t).getD .none

theorem lookup_type_empty : lookupB Gen.typeRegistry [] = none := by decide +kernel

/-- `parseDescriptor` has no error result, neither in Go nor in the model: no match silently means
    (auto, no raw type). -/
theorem parseDescriptor_of_nomatch {s : Bytes} (h : ¬ ∃ n a, Matches s n a) :
    parseDescriptor s = (.auto, .none) := by
  simp [parseDescriptor, (splitDescriptor_none_iff s).2 h]

theorem parseDescriptor_of_matches {s n : Bytes} {a : Option Bytes} (h : Matches s n a) :
    parseDescriptor s = (formatOf n, typeOf a) := by
  cases a with
  | none => simp [parseDescriptor, split_of_matches h, formatOf, typeOf, group2, lookup_type_empty]
  | some t => simp [parseDescriptor, split_of_matches h, formatOf, typeOf, group2]

theorem parseDescriptor_total (s : Bytes) :
    (¬ (∃ n a, Matches s n a) ∧ parseDescriptor s = (.auto, .none)) ∨
    (∃ n a, Matches s n a ∧ parseDescriptor s = (formatOf n, typeOf a)) := by
  by_cases h : ∃ n a, Matches s n a
  · obtain ⟨n, a, hm⟩ := h
    exact Or.inr ⟨n, a, hm, parseDescriptor_of_matches hm⟩
  · exact Or.inl ⟨h, parseDescriptor_of_nomatch h⟩

theorem unknown_format_auto {s n : Bytes} {a : Option Bytes} (h : Matches s n a)
    (hu : ∀ e ∈ Gen.formatRegistry, e.1 ≠ n) : (parseDescriptor s).1 = .auto := by
  simp [parseDescriptor_of_matches h, formatOf, lookupB_none _ _ hu]

theorem unknown_type_none {s n t : Bytes} (h : Matches s n (some t))
    (hu : ∀ e ∈ Gen.typeRegistry, e.1 ≠ t) : (parseDescriptor s).2 = .none := by
  simp [parseDescriptor_of_matches h, typeOf, lookupB_none _ _ hu]

theorem absent_type_none {s n : Bytes} (h : Matches s n none) : (parseDescriptor s).2 = .none := by
  simp [parseDescriptor_of_matches h, typeOf]

/-- The two fallbacks are independent: an unknown format keeps a known type and conversely. -/
example : parseDescriptor [0x6D, 0x6F, 0x6E, 0x65, 0x79, 0x28, 0x69, 0x6E, 0x74, 0x29] = (.auto, .int .int) := by decide +kernel
example : parseDescriptor [0x73, 0x74, 0x72, 0x69, 0x6E, 0x67, 0x28, 0x6D, 0x6F, 0x6E, 0x65, 0x79, 0x29] = (.string, .none) := by decide +kernel
example : parseDescriptor [0x6D, 0x6F, 0x6E, 0x65, 0x79] = (.auto, .none) := by decide +kernel

/-- The regenerated tables, decided by the kernel on every regeneration; `*_lookup_self`: no duplicate key
    shadows another entry. -/
theorem format_names_ok : ∀ e ∈ Gen.formatRegistry, e.1 ≠ [] ∧ LP ∉ e.1 := by decide +kernel
theorem type_names_ok : ∀ e ∈ Gen.typeRegistry, e.1 ≠ [] ∧ RP ∉ e.1 := by decide +kernel
theorem format_lookup_self : ∀ e ∈ Gen.formatRegistry, lookupB Gen.formatRegistry e.1 = some e.2 := by
  decide +kernel
theorem type_lookup_self : ∀ e ∈ Gen.typeRegistry, lookupB Gen.typeRegistry e.1 = some e.2 := by
  decide +kernel
theorem type_values_not_none : ∀ e ∈ Gen.typeRegistry, e.2 ≠ Ty.none := by decide +kernel

theorem known_format (e : Bytes × Format) (he : e ∈ Gen.formatRegistry) :
    parseDescriptor e.1 = (e.2, .none) := by
  have hok := format_names_ok e he
  rw [parseDescriptor_of_matches (Matches.plain e.1 hok.1 hok.2)]
  simp [formatOf, typeOf, format_lookup_self e he]

theorem known_format_type (e : Bytes × Format) (he : e ∈ Gen.formatRegistry)
    (t : Bytes × Ty) (ht : t ∈ Gen.typeRegistry) :
    parseDescriptor (e.1 ++ LP :: (t.1 ++ [RP])) = (e.2, t.2) := by
  have hok := format_names_ok e he
  have tok := type_names_ok t ht
  rw [parseDescriptor_of_matches (Matches.typed e.1 t.1 hok.1 hok.2 tok.1 tok.2)]
  simp [formatOf, typeOf, format_lookup_self e he, type_lookup_self t ht]

theorem format_from_registry {s : Bytes} {f : Format} (h : (parseDescriptor s).1 = f) (hf : f ≠ .auto) :
    ∃ n a, Matches s n a ∧ (n, f) ∈ Gen.formatRegistry := by
  rcases parseDescriptor_total s with ⟨_, he⟩ | ⟨n, a, hm, he⟩ <;> rw [he] at h
  · exact absurd h.symm hf
  · exact ⟨n, a, hm, mem_of_getD_ne h hf⟩

theorem type_from_registry {s : Bytes} {ty : Ty} (h : (parseDescriptor s).2 = ty) (ht : ty ≠ .none) :
    ∃ n t, Matches s n (some t) ∧ (t, ty) ∈ Gen.typeRegistry := by
  rcases parseDescriptor_total s with ⟨_, he⟩ | ⟨n, a, hm, he⟩ <;> rw [he] at h
  · exact absurd h.symm ht
  · cases a with
    | none => exact absurd h.symm ht
    | some t => exact ⟨n, t, hm, mem_of_getD_ne h ht⟩

/-! ## 4. Case and white space are significant -/

/-- `String`, `string␠`, `␠string` are not names of the format registry; `Int`, `␠int` are not
    names of the type registry; in `string (int)` group 1 is `string␠`. -/
example : parseDescriptor [0x73, 0x74, 0x72, 0x69, 0x6E, 0x67] = (.string, .none) := by decide +kernel
example : parseDescriptor [0x53, 0x74, 0x72, 0x69, 0x6E, 0x67] = (.auto, .none) := by decide +kernel
example : parseDescriptor [0x73, 0x74, 0x72, 0x69, 0x6E, 0x67, 0x20] = (.auto, .none) := by decide +kernel
example : parseDescriptor [0x20, 0x73, 0x74, 0x72, 0x69, 0x6E, 0x67] = (.auto, .none) := by decide +kernel
example : parseDescriptor [0x73, 0x74, 0x72, 0x69, 0x6E, 0x67, 0x0A] = (.auto, .none) := by decide +kernel
example : parseDescriptor [0x73, 0x74, 0x72, 0x69, 0x6E, 0x67, 0x28, 0x69, 0x6E, 0x74, 0x29] = (.string, .int .int) := by decide +kernel
example : parseDescriptor [0x73, 0x74, 0x72, 0x69, 0x6E, 0x67, 0x20, 0x28, 0x69, 0x6E, 0x74, 0x29] = (.auto, .int .int) := by decide +kernel
example : parseDescriptor [0x73, 0x74, 0x72, 0x69, 0x6E, 0x67, 0x28, 0x49, 0x6E, 0x74, 0x29] = (.string, .none) := by decide +kernel
example : parseDescriptor [0x73, 0x74, 0x72, 0x69, 0x6E, 0x67, 0x28, 0x20, 0x69, 0x6E, 0x74, 0x29] = (.string, .none) := by decide +kernel
example : parseDescriptor [0x53, 0x54, 0x52, 0x49, 0x4E, 0x47, 0x28, 0x49, 0x4E, 0x54, 0x29] = (.auto, .none) := by decide +kernel

/-- What a "forgiving" loader would do. -/
def asciiLower (s : Bytes) : Bytes := s.map fun b => if 0x41 ≤ b ∧ b ≤ 0x5A then b + 0x20 else b
def trimSpaces (s : Bytes) : Bytes :=
  ((s.dropWhile (· == 0x20)).reverse.dropWhile (· == 0x20)).reverse

theorem lowercasing_changes_meaning : ∃ s, parseDescriptor (asciiLower s) ≠ parseDescriptor s :=
  ⟨[0x53, 0x74, 0x72, 0x69, 0x6E, 0x67], by decide +kernel⟩

theorem trimming_changes_meaning : ∃ s, parseDescriptor (trimSpaces s) ≠ parseDescriptor s :=
  ⟨[0x20, 0x73, 0x74, 0x72, 0x69, 0x6E, 0x67, 0x20], by decide +kernel⟩

theorem format_names_lower_nospace :
    ∀ e ∈ Gen.formatRegistry, ∀ b ∈ e.1, b ≠ 0x20 ∧ ¬ (0x41 ≤ b ∧ b ≤ 0x5A) := by decide +kernel

theorem format_with_space_or_upper_is_auto {s n : Bytes} {a : Option Bytes} (h : Matches s n a)
    (b : UInt8) (hb : b ∈ n) (hbad : b = 0x20 ∨ (0x41 ≤ b ∧ b ≤ 0x5A)) :
    (parseDescriptor s).1 = .auto := by
  apply unknown_format_auto h
  intro e he hen
  subst hen
  have := format_names_lower_nospace e he b hb
  rcases hbad with h1 | h2
  · exact this.1 h1
  · exact this.2 h2

/-! ## 5. `in:out` -/

/-- The first ':' splits (`strings.SplitN(s, ":", 2)`): what follows may contain more. -/
theorem splitColon_first (a b : Bytes) (h : (0x3A : UInt8) ∉ a) :
    splitColon (a ++ 0x3A :: b) = (a, some b) := by
  simp [splitColon, span_sep (c := 0x3A) b h]

theorem splitColon_none (s : Bytes) (h : (0x3A : UInt8) ∉ s) : splitColon s = (s, none) := by
  simp [splitColon, span_of_not_mem (c := 0x3A) h]

theorem splitColon_spec {s a : Bytes} {ob : Option Bytes} (h : splitColon s = (a, ob)) :
    match (generalizing := false) ob with
    | none => s = a ∧ (0x3A : UInt8) ∉ s
    | some b => s = a ++ 0x3A :: b ∧ (0x3A : UInt8) ∉ a := by
  obtain ⟨p, r, rfl, hp, rfl | ⟨r, rfl⟩⟩ := exists_cut 0x3A s
  · rw [List.append_nil] at h ⊢
    cases (splitColon_none p hp).symm.trans h
    exact ⟨rfl, hp⟩
  · cases (splitColon_first p r hp).symm.trans h
    exact ⟨rfl, hp⟩

theorem splitColon_eq_some_iff (s a b : Bytes) :
    splitColon s = (a, some b) ↔ (s = a ++ 0x3A :: b ∧ (0x3A : UInt8) ∉ a) :=
  ⟨splitColon_spec, fun ⟨e, h⟩ => e ▸ splitColon_first a b h⟩

theorem splitColon_eq_none_iff (s a : Bytes) :
    splitColon s = (a, none) ↔ (s = a ∧ (0x3A : UInt8) ∉ s) :=
  ⟨splitColon_spec, fun ⟨e, h⟩ => e ▸ splitColon_none s h⟩
/-- `a:b:c` is (a, b:c). -/
example : splitColon [0x61, 0x3A, 0x62, 0x3A, 0x63] = ([0x61], some [0x62, 0x3A, 0x63]) := by decide +kernel
example : splitColon [0x61] = ([0x61], none) := by decide +kernel
example : splitColon [0x61, 0x3A] = ([0x61], some []) := by decide +kernel
example : splitColon [0x3A, 0x61] = ([], some [0x61]) := by decide +kernel
example : splitColon [] = ([], none) := by decide +kernel

/-- The meanings (input, output) of an inline leaf `text` as `createTemplateFromRow` computes them:
    `parts[0]` for the input; `parts[1]` for the output if there is one, else the input's again. -/
def inlinePair (text : Bytes) : (Format × Ty) × (Format × Ty) :=
  let ab := splitColon text
  (parseDescriptor ab.1, match ab.2 with
    | some b => parseDescriptor b
    | none => parseDescriptor ab.1)

theorem inlineCol_leaf (env : Env) (sub : List ColDef → Outcome (Tmpl × Tmpl))
    (ti to : Tmpl) (name i o : Bytes) :
    inlineCol env sub (.ok (ti, to)) (.leaf name i o) =
      .ok (withCol ti name (inlinePair (inlineText i o)).1.1 (inlinePair (inlineText i o)).1.2,
           withCol to name (inlinePair (inlineText i o)).2.1 (inlinePair (inlineText i o)).2.2) := by
  simp only [inlineCol, inlinePair]
  cases (splitColon (inlineText i o)).2 <;> rfl

theorem inlinePair_no_colon (t : Bytes) (h : (0x3A : UInt8) ∉ t) :
    inlinePair t = (parseDescriptor t, parseDescriptor t) := by
  simp [inlinePair, splitColon_none t h]

theorem inlinePair_colon (a b : Bytes) (h : (0x3A : UInt8) ∉ a) :
    inlinePair (a ++ 0x3A :: b) = (parseDescriptor a, parseDescriptor b) := by
  simp [inlinePair, splitColon_first a b h]

/-- Hence `"col":"d"` and `"col":"d:d"` declare the same column. -/
theorem inline_short_form (d : Bytes) (h : (0x3A : UInt8) ∉ d) :
    inlinePair d = inlinePair (inlineText d d) := by
  rw [inlinePair_no_colon d h]
  exact (inlinePair_colon d d h).symm

/-- The model's `ColDef` always writes an inline leaf `in:out` (`inlineText`), so the one-part branch of
    `inlineCol` is never taken through `ColDef`: the short form is covered by `inline_short_form` only. -/
theorem inlineText_two_parts (i o : Bytes) : (splitColon (inlineText i o)).2 ≠ none := by
  intro e
  exact ((splitColon_eq_none_iff _ _).mp (Prod.ext rfl e)).2 (by simp [inlineText])

/-- Outside C19's common domain (a ':' inside the YAML input descriptor) the inline text cuts
    elsewhere: `input: "a:b"`, `output: "o"` written inline is (a, b:o). -/
theorem inlineText_colon_in_input (a b o : Bytes) (h : (0x3A : UInt8) ∉ a) :
    splitColon (inlineText (a ++ 0x3A :: b) o) = (a, some (b ++ 0x3A :: o)) := by
  have : inlineText (a ++ 0x3A :: b) o = a ++ 0x3A :: (b ++ 0x3A :: o) := by simp [inlineText]
  rw [this]
  exact splitColon_first a _ h

/-- The two routes then disagree: YAML `input: "string:numeric"`, `output: "boolean"` is
    (auto, boolean); the inline text `string:numeric:boolean` is (string, auto). -/
example : (parseDescriptor [0x73, 0x74, 0x72, 0x69, 0x6E, 0x67, 0x3A, 0x6E, 0x75, 0x6D, 0x65, 0x72, 0x69, 0x63], parseDescriptor [0x62, 0x6F, 0x6F, 0x6C, 0x65, 0x61, 0x6E]) = ((.auto, .none), (.boolean, .none)) := by
  decide +kernel
example : inlinePair (inlineText [0x73, 0x74, 0x72, 0x69, 0x6E, 0x67, 0x3A, 0x6E, 0x75, 0x6D, 0x65, 0x72, 0x69, 0x63] [0x62, 0x6F, 0x6F, 0x6C, 0x65, 0x61, 0x6E]) = ((.string, .none), (.auto, .none)) := by
  decide +kernel

/-! ## 6. Bytes and runes

Go's regexp engine reads a string rune by rune (`utf8.DecodeRuneInString`): a well-formed sequence of 1–4 bytes
is one rune, a byte that does not start one is ONE rune U+FFFD of width 1, and `[^\(]` matches every rune but
'(', U+FFFD included.  `Matches` is byte-wise.  The two readings coincide because the only literals and class
exclusions are '(' and ')': a byte < 0x80 is always a rune on its own (continuation bytes are 0x80..0xBF, and a
truncated sequence before it is cut into width-1 runes), so the byte-wise match cuts on rune boundaries.  This
is proved for every segmentation into non-empty chunks in which a byte < 0x80 is a chunk on its own (`Seg`);
Go's decoder, modelled with `Utf8.seqLen`, produces one (`runes_seg`, `runes_flatten`).  Trusted: that the
engine, which is not modelled, implements the rune-wise relation `MatchesR`. -/

def Seg (cs : List Bytes) : Prop := ∀ c ∈ cs, c ≠ [] ∧ ∀ b ∈ c, b < 0x80 → c = [b]

/-- The expression read rune by rune: `[^\(]` matches any chunk but `[0x28]`, `\(` the chunk `[0x28]`; the
    same for ')'. -/
inductive MatchesR : List Bytes → List Bytes → Option (List Bytes) → Prop
  | plain (n : List Bytes) : n ≠ [] → [LP] ∉ n → MatchesR n n none
  | typed (n a : List Bytes) : n ≠ [] → [LP] ∉ n → a ≠ [] → [RP] ∉ a →
      MatchesR (n ++ [LP] :: (a ++ [[RP]])) n (some a)

theorem Seg.append {a b : List Bytes} (h : Seg (a ++ b)) : Seg a ∧ Seg b :=
  ⟨fun c hc => h c (by simp [hc]), fun c hc => h c (by simp [hc])⟩

theorem Seg.tail {c : Bytes} {cs : List Bytes} (h : Seg (c :: cs)) : Seg cs :=
  fun d hd => h d (by simp [hd])

theorem Seg.flatten_eq_nil {cs : List Bytes} (h : Seg cs) (he : cs.flatten = []) : cs = [] := by
  cases cs with
  | nil => rfl
  | cons c cs =>
    have := (h c (by simp)).1
    simp at he
    exact absurd he.1 this

theorem Seg.mem_flatten {cs : List Bytes} (h : Seg cs) {x : UInt8} (hx : x < 0x80) :
    x ∈ cs.flatten ↔ [x] ∈ cs := by
  constructor
  · intro hm
    obtain ⟨c, hc, hxc⟩ := List.mem_flatten.1 hm
    have := (h c hc).2 x hxc hx
    exact this ▸ hc
  · intro hm
    exact List.mem_flatten.2 ⟨[x], hm, by simp⟩

/-- Cut the chunks at the first chunk `[x]`: the bytes of the two parts are a cut of the bytes at the first
    `x`, and that cut is unique (`span_of_cut`). -/
theorem Seg.split_at {x : UInt8} (hx : x < 0x80) (cs : List Bytes) (p q : Bytes) (hseg : Seg cs)
    (he : cs.flatten = p ++ x :: q) (hp : x ∉ p) :
    ∃ cp cq, cs = cp ++ [x] :: cq ∧ cp.flatten = p ∧ cq.flatten = q := by
  obtain ⟨cp, r, rfl, hcp, hr⟩ := exists_cut [x] cs
  have hcp' : x ∉ cp.flatten := fun m => hcp ((hseg.append.1.mem_flatten hx).1 m)
  have hmem : x ∈ p ++ x :: q := by simp
  rcases hr with rfl | ⟨cq, rfl⟩
  · rw [← he, List.append_nil] at hmem
    exact absurd hmem hcp'
  · have h1 := span_of_cut hcp' (.inr ⟨cq.flatten, rfl⟩)
    have h2 := span_of_cut hp (.inr ⟨q, rfl⟩)
    rw [List.flatten_append, List.flatten_cons, List.singleton_append] at he
    rw [he] at h1
    exact ⟨cp, cq, rfl, h1.1.symm.trans h2.1, List.cons.inj (h1.2.symm.trans h2.2) |>.2⟩

theorem byte_match_of_rune_match {cs n : List Bytes} {a : Option (List Bytes)} (hseg : Seg cs)
    (h : MatchesR cs n a) : Matches cs.flatten n.flatten (a.map List.flatten) := by
  have hLP : (LP : UInt8) < 0x80 := by decide +kernel
  have hRP : (RP : UInt8) < 0x80 := by decide +kernel
  cases h with
  | plain _ hne hn =>
    have hne' : cs.flatten ≠ [] := fun e => hne (hseg.flatten_eq_nil e)
    exact Matches.plain _ hne' (fun m => hn ((hseg.mem_flatten hLP).1 m))
  | typed _ a hne hn hae ha =>
    have hs1 := hseg.append.1
    have hs2 := (hseg.append.2.tail).append.1
    have := Matches.typed n.flatten a.flatten (fun e => hne (hs1.flatten_eq_nil e))
      (fun m => hn ((hs1.mem_flatten hLP).1 m)) (fun e => hae (hs2.flatten_eq_nil e))
      (fun m => ha ((hs2.mem_flatten hRP).1 m))
    simpa using this

theorem rune_match_of_byte_match {cs : List Bytes} {name : Bytes} {arg : Option Bytes} (hseg : Seg cs)
    (h : Matches cs.flatten name arg) :
    ∃ n a, MatchesR cs n a ∧ n.flatten = name ∧ a.map List.flatten = arg := by
  have hLP : (LP : UInt8) < 0x80 := by decide +kernel
  have hRP : (RP : UInt8) < 0x80 := by decide +kernel
  generalize hs : cs.flatten = s at h
  cases h with
  | plain _ hne hn =>
    subst hs
    refine ⟨cs, none, MatchesR.plain cs ?_ ?_, rfl, rfl⟩
    · intro e; subst e; exact hne rfl
    · exact fun m => hn ((hseg.mem_flatten hLP).2 m)
  | typed _ arg hne hn hae ha =>
    obtain ⟨cn, r, rfl, h1, h2⟩ := Seg.split_at hLP cs name _ hseg hs hn
    have hsr := hseg.append.2.tail
    obtain ⟨ca, cq, rfl, h3, h4⟩ := Seg.split_at hRP r arg [] hsr h2 ha
    have hcq : cq = [] := (hsr.append.2.tail).flatten_eq_nil h4
    subst hcq
    refine ⟨cn, some ca, MatchesR.typed cn ca ?_ ?_ ?_ ?_, h1, by simp [h3]⟩
    · intro e; subst e; exact hne (by simpa using h1.symm)
    · exact fun m => hn (h1 ▸ (hseg.append.1.mem_flatten hLP).2 m)
    · intro e; subst e; exact hae (by simpa using h3.symm)
    · exact fun m => ha (h3 ▸ (hsr.append.1.mem_flatten hRP).2 m)

theorem rune_match_iff_byte_match {cs : List Bytes} (hseg : Seg cs) (name : Bytes) (arg : Option Bytes) :
    (∃ n a, MatchesR cs n a ∧ n.flatten = name ∧ a.map List.flatten = arg) ↔
      Matches cs.flatten name arg := by
  constructor
  · rintro ⟨n, a, h, rfl, rfl⟩
    exact byte_match_of_rune_match hseg h
  · exact rune_match_of_byte_match hseg

/-- `utf8.DecodeRuneInString` iterated, as the regexp engine steps through a string. -/
def runes : Bytes → List Bytes
  | [] => []
  | c :: rest =>
    if c < 0x80 then [c] :: runes rest
    else match Utf8.seqLen (c :: rest) with
      | some 2 => (c :: rest.take 1) :: runes (rest.drop 1)
      | some 3 => (c :: rest.take 2) :: runes (rest.drop 2)
      | some 4 => (c :: rest.take 3) :: runes (rest.drop 3)
      | _ => [c] :: runes rest
termination_by bs => bs.length
decreasing_by all_goals simp <;> omega

theorem runes_flatten (s : Bytes) : (runes s).flatten = s := by
  fun_induction runes s <;>
    simp only [List.flatten_cons, List.flatten_nil, List.cons_append, List.nil_append,
      List.take_append_drop, *]

theorem isCont_ge {b : UInt8} (h : Utf8.isCont b = true) : 0x80 ≤ b := by
  simp [Utf8.isCont] at h; exact h.1

theorem Seg.cons {c : Bytes} {cs : List Bytes} (hc : c ≠ [] ∧ ∀ b ∈ c, b < 0x80 → c = [b])
    (h : Seg cs) : Seg (c :: cs) := by
  intro d hd
  rcases List.mem_cons.1 hd with rfl | hd
  · exact hc
  · exact h d hd

theorem single_chunk (c : UInt8) : [c] ≠ [] ∧ ∀ b ∈ [c], b < 0x80 → [c] = [b] := by simp

theorem high_chunk (c : UInt8) (t : Bytes) (hc : ¬ c < 0x80) (ht : ∀ b ∈ t, 0x80 ≤ b) :
    c :: t ≠ [] ∧ ∀ b ∈ c :: t, b < 0x80 → c :: t = [b] := by
  refine ⟨by simp, ?_⟩
  intro b hb hlt
  exfalso
  rcases List.mem_cons.1 hb with rfl | hb
  · exact hc hlt
  · have := ht b hb
    simp only [UInt8.lt_iff_toNat_lt, UInt8.le_iff_toNat_le] at hlt this
    have e : (0x80 : UInt8).toNat = 128 := by decide +kernel
    omega

theorem runes_seg (s : Bytes) : Seg (runes s) := by
  fun_induction runes s
  · intro c hc; simp at hc
  all_goals first
    | exact Seg.cons (single_chunk _) ‹_›
    | exact Seg.cons (high_chunk _ _ ‹_› (JsonLex.seqLen_some ‹_›).2.2) ‹_›

theorem go_rune_match_iff_byte_match (s name : Bytes) (arg : Option Bytes) :
    (∃ n a, MatchesR (runes s) n a ∧ n.flatten = name ∧ a.map List.flatten = arg) ↔
      Matches s name arg := by
  have := rune_match_iff_byte_match (runes_seg s) name arg
  rwa [runes_flatten] at this

/-- Ill-formed UTF-8 around the delimiters (the same results were observed with Go's
    regexp on these strings): `"\xe2(\xe2\x82)"` has groups `"\xe2"` and `"\xe2\x82"`;
    `"\xe2(\xa1"` does not match. -/
example : splitDescriptor [0xE2, 0x28, 0xE2, 0x82, 0x29] = some ([0xE2], [0xE2, 0x82]) := by decide +kernel
example : splitDescriptor [0xE2, 0x28, 0xA1] = none := by decide +kernel

end Jl.JlDescriptor
