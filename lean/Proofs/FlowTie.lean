/-
  Proofs.FlowTie — the hand-written Model.Template and Model.Stream assume what template.go,
  exporter.go, importer.go and streamer.go say.

  extract/flow.go regenerates Gen.FlowTable from the source on every run (symbolic execution of every
  function of the four files, loops included, the functions of the four files inlined into each other,
  the result classified into the shapes of Model.FlowSyntax).  Model.FlowSpec states, by hand and with
  the model definition that relies on each, the facts the model assumes.  `*_as_modelled` theorems say, fact by
  fact, that the regenerated table is the assumed one (the obligation that fails names the function that
  changed); `*_is_*` theorems read a fact through an interpreter written from the meaning of its constructors
  (`builderG`, `branchG`, `exportG`, …, Proofs/FlowTieDefs) and say that it computes the model function that
  embodies it.

  All in namespace `Jl.FlowTie`, split so that a change of one function stops only the properties that rest on
  it: template.go here and in FlowTieBuilders, the table as a whole in FlowTieAll, exporter.go in FlowTieExport,
  importer.go in FlowTieImport, streamer.go in FlowTieStream.

  A change of the source that changes behaviour (WithNumeric declaring String, WithRow keeping the
  sub-template's prototype, a branch of CreateRow working on `t.empty`, a row returned with an error, a
  second Write, a Write before the error check, another buffer limit, a Split function, an Export after a
  tolerated error, no Err() hand-over, a processor error swallowed …) changes the table or makes part of
  it `unknown`, and these theorems stop compiling; a rewrite that keeps behaviour gives the same table.
-/
import Proofs.FlowTieDefs

namespace Jl.FlowTie
open Jl Jl.Flow Jl.Value Jl.Template

theorem newTemplate_as_modelled : Gen.flowTable.newTemplate = FlowSpec.expectedFlow.newTemplate := by decide +kernel

theorem builders_as_modelled : Gen.flowTable.builders = FlowSpec.expectedBuilders := by decide +kernel

theorem createRowEmpty_as_modelled : Gen.flowTable.createRowEmpty = .cloneOfProto := by decide +kernel

theorem createRow_as_modelled : Gen.flowTable.createRow = FlowSpec.expectedCreateRow := by decide +kernel

theorem getExporter_as_modelled : Gen.flowTable.getExporter = .self := by decide +kernel

theorem getImporter_as_modelled : Gen.flowTable.getImporter = .self := by decide +kernel

/-- `With<Format>(name)`, for each of the nine formats, is `withCol t name f .none`. -/
theorem plain_builder_is_withCol (env : Env) (f : Format) (hf : f ≠ .bad) (t : Tmpl) (name : Bytes)
    (fp : Format) (tp : Ty) (sub : Tmpl) :
    runBuilder env ("With" ++ f.goName) t name fp tp sub = some (.ok (withCol t name f .none)) := by
  have all : ∀ f ∈ Format.declared,
      Gen.flowTable.builders.lookup ("With" ++ f.goName) = some (FlowSpec.plain f) := by
    decide +kernel
  have hm : f ∈ Format.declared := by cases f <;> first | exact absurd rfl hf | decide +kernel
  simp only [runBuilder, all f hm]
  rfl

/-- `WithRow(name, rowt)` is `withRow env t name sub`: a clone of `rowt`'s prototype, made at the call. -/
theorem withRow_is_withRow (env : Env) (t : Tmpl) (name : Bytes) (fp : Format) (tp : Ty) (sub : Tmpl) :
    runBuilder env "WithRow" t name fp tp sub = some (withRow env t name sub) := by
  have hl : Gen.flowTable.builders.lookup "WithRow" = some .subRow := by decide +kernel
  simp only [runBuilder, hl, createRowEmpty_as_modelled]
  rfl

/-- The type switch of `CreateRow` is `Template.createRow` (which pairs the row at hand with the error
    class where the source returns `nil`: see Model.FlowSpec). -/
theorem createRow_is_createRow (env : Env) (t : Tmpl) (v : Dyn) :
    createRowG Gen.flowTable.createRow env t v = some (createRow env t v) := by
  unfold createRowG createRow
  cases cloneRow env t with
  | err e => rfl
  | panic s => rfl
  | ok row =>
    cases v with
    | val w => cases w <;> rfl
    | _ => rfl

end Jl.FlowTie
