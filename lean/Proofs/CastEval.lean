/-
  Proofs.CastEval — the interpreter of Model.Cast over an arbitrary table `T`: what a call, a `cast.To`, a failure, a
  body recognised verbatim and a guard evaluate to in terms of what the table holds, so that a fact about the regenerated
  tables is one lookup, evaluated once, put into one of these.  At the end what several cast modules share and no table
  enters: the ranges and the wrapping of the integer types, and the enumerations of `IntTy` and `Ty`.
-/
import Model.Cast

namespace Jl
open Cast

/-! ### Calls, dispatch, failure -/

theorem callNamed_caster {T : CastTables} {name : String} {c : Caster}
    (hc : T.casters.find? (fun c => c.name == name) = some c) (ext : Ext) (fuel : Nat) (v : Dyn) :
    callNamed T ext (fuel + 1) name v = evalBranch T ext fuel c.name (findClause c (typeOf v)) v := by
  rw [callNamed, hc]

/- The fuel literals of the cast modules.  `castNamed` is `callNamed` at 24 (Model/Cast.lean); `callNamed`,
   `evalBranch` and `special` each hand on one unit less.  So a caster's clause runs at 23, its tail call
   or `special` at 22, the calls of a `special` at 21; `castTo` starts at `evalBranch … 24`, so there the
   caster is called at 23 and its clause runs at 22.  For the regenerated table any fuel from 12 on gives
   the same value (`CastFuel.call_eq_cast`). -/
theorem castNamed_caster {T : CastTables} {name : String} {c : Caster}
    (hc : T.casters.find? (fun c => c.name == name) = some c) (ext : Ext) (v : Dyn) :
    castNamed T ext name v = evalBranch T ext 23 c.name (findClause c (typeOf v)) v :=
  callNamed_caster hc ext 23 v

theorem callNamed_binFn {T : CastTables} {name : String} {p : String × BinFn}
    (hc : T.casters.find? (fun c => c.name == name) = none)
    (hf : T.binFns.find? (fun p => p.1 == name) = some p) (ext : Ext) (fuel : Nat) (v : Dyn) :
    callNamed T ext (fuel + 1) name v = binGet T p.2 v := by
  rw [callNamed, hc, hf]

def clauseOf (T : CastTables) (name : String) (ty : Ty) : Option Branch :=
  (T.casters.find? (fun c => c.name == name)).map (findClause · ty)

theorem callNamed_clause {T : CastTables} {name : String} {v : Dyn} {br : Branch}
    (h : clauseOf T name (typeOf v) = some br) (ext : Ext) (fuel : Nat) :
    callNamed T ext (fuel + 1) name v = evalBranch T ext fuel name br v := by
  obtain ⟨c, hc, rfl⟩ := Option.map_eq_some_iff.mp h
  have hn : c.name = name := by simpa using List.find?_some hc
  rw [callNamed_caster hc, hn]

theorem castNamed_clause {T : CastTables} {name : String} {v : Dyn} {br : Branch}
    (h : clauseOf T name (typeOf v) = some br) (ext : Ext) :
    castNamed T ext name v = evalBranch T ext 23 name br v :=
  callNamed_clause h ext 23

def dispatchOf (T : CastTables) (ty : Ty) : Branch :=
  match T.dispatchTo.find? (fun p => p.1 == ty) with
  | some (_, br) => br
  | none => T.dispatchToDefault

theorem castTo_dispatch (T : CastTables) (ext : Ext) (ty : Ty) (v : Dyn) :
    castTo T ext ty v = evalBranch T ext 24 "To" (dispatchOf T ty) v := by
  unfold castTo dispatchOf
  cases T.dispatchTo.find? (fun p => p.1 == ty) <;> rfl

theorem castTo_tail {T : CastTables} {ty : Ty} {callee : String}
    (h : dispatchOf T ty = .tail callee .val) (ext : Ext) (v : Dyn) :
    castTo T ext ty v = callNamed T ext 23 callee v := by
  rw [castTo_dispatch, h]
  rfl

theorem castTo_clause {T : CastTables} {ty : Ty} {callee : String} {v : Dyn} {br : Branch}
    (hd : dispatchOf T ty = .tail callee .val) (hc : clauseOf T callee (typeOf v) = some br)
    (ext : Ext) : castTo T ext ty v = evalBranch T ext 22 callee br v := by
  rw [castTo_tail hd, callNamed_clause hc]

theorem evalBranch_tail (T : CastTables) (ext : Ext) (k : Nat) (self callee : String) (v : Dyn) :
    evalBranch T ext (k + 1) self (.tail callee .val) v = callNamed T ext k callee v := rfl

theorem evalBranch_special (T : CastTables) (ext : Ext) (k : Nat) (self id : String) (v : Dyn) :
    evalBranch T ext (k + 1) self (.special id) v = special T ext k id v := rfl

theorem failWith_of_wraps {T : CastTables} {s : String} (h : wrapsRoot T.sentinels 4 s = true) :
    failWith T s = .err .cast := by
  rw [failWith, if_pos h]

theorem failWith_ne_ok (T : CastTables) (s : String) (r : Dyn) : failWith T s ≠ .ok r := by
  unfold failWith
  split <;> nofun

theorem failWith_cases (T : CastTables) (s : String) : failWith T s = .err .cast ∨ failWith T s = .err .other := by
  unfold failWith
  split
  · exact .inl rfl
  · exact .inr rfl

def failsCast (T : CastTables) : Branch → Bool
  | .fail s => wrapsRoot T.sentinels 4 s
  | _ => false

theorem evalBranch_failsCast {T : CastTables} {br : Branch} (h : failsCast T br = true) (ext : Ext)
    (fuel : Nat) (self : String) (v : Dyn) : evalBranch T ext (fuel + 1) self br v = .err .cast := by
  unfold failsCast at h
  split at h
  · exact failWith_of_wraps h
  · cases h

/-! ### The bodies recognised verbatim

  Each is unfolded once, over the function `call` that stands for the casters it calls (`callNamed T ext k` in the
  interpreter). -/

/-- `x, err := first(val); if err != nil { fail }; return callee(x)` (a failure of the
    standard-library parameter is not a Go error and is passed on). -/
def via (T : CastTables) (call : String → Dyn → Outcome Dyn) (first callee sent : String) (val : Dyn) :
    Outcome Dyn :=
  match call first val with
  | .ok i => call callee i
  | .err .ext => .err .ext
  | .err _ => failWith T sent
  | .panic s => .panic s

theorem via_ok {T : CastTables} {call : String → Dyn → Outcome Dyn} {first callee sent : String} {val r : Dyn}
    (h : via T call first callee sent val = .ok r) : ∃ i, call first val = .ok i ∧ call callee i = .ok r := by
  unfold via at h
  cases hc : call first val with
  | ok i => exact ⟨i, rfl, by rwa [hc] at h⟩
  | err e => rw [hc] at h; cases e <;> first | cases h | exact absurd h (failWith_ne_ok _ _ _)
  | panic s => rw [hc] at h; cases h

theorem via_of_ok {T : CastTables} {call : String → Dyn → Outcome Dyn} {first callee sent : String} {val i : Dyn}
    (h : call first val = .ok i) : via T call first callee sent val = call callee i := by
  simp only [via, h]

/-- `f, err := ToFloat64(val); if err != nil { fail }; return f != 0` -/
def nonzero (T : CastTables) (call : String → Dyn → Outcome Dyn) (val : Dyn) : Outcome Dyn :=
  match call "ToFloat64" val with
  | .ok (.f64 b) => .ok (.bool (!Float.isZero Float.f64 b))
  | .ok _ => .err .ext
  | .err .ext => .err .ext
  | .err _ => failWith T "ErrUnableToCastToBool"
  | .panic s => .panic s

theorem nonzero_of_ok {T : CastTables} {call : String → Dyn → Outcome Dyn} {val : Dyn} {b : Nat}
    (h : call "ToFloat64" val = .ok (.f64 b)) : nonzero T call val = .ok (.bool (!Float.isZero Float.f64 b)) := by
  simp only [nonzero, h]

/-- `t, err := first(..); if err == nil { return t }; return alt` -/
def orElse (first alt : Outcome Dyn) : Outcome Dyn :=
  match first with
  | .ok t => .ok t
  | .err .ext => .err .ext
  | .err _ => alt
  | .panic p => .panic p

theorem orElse_ok (t : Dyn) (alt : Outcome Dyn) : orElse (.ok t) alt = .ok t := rfl

theorem orElse_failWith (T : CastTables) (s : String) (alt : Outcome Dyn) : orElse (failWith T s) alt = alt := by
  rcases failWith_cases T s with h | h <;> rw [h] <;> rfl

theorem orElse_inv {o alt : Outcome Dyn} {r : Dyn} (h : orElse o alt = .ok r) : o = .ok r ∨ alt = .ok r := by
  cases o with
  | ok t => exact .inl h
  | panic p => cases h
  | err e => cases e <;> first | exact .inr h | cases h

theorem special_binary_default (T : CastTables) (ext : Ext) (k : Nat) (v : Dyn) :
    special T ext (k + 1) "binary.default" v =
      match v with
      | .barr s => .ok (.bytes s)
      | _ => failWith T "ErrUnableToCastToBinary" := by rfl

theorem special_bool_string (T : CastTables) (ext : Ext) (k : Nat) (v : Dyn) :
    special T ext (k + 1) "bool.string" v =
      match v with
      | .str s =>
        match IntText.parseBool s with
        | some b => .ok (.bool b)
        | none => nonzero T (callNamed T ext k) v
      | _ => .err .ext := by rfl

theorem special_bool_number (T : CastTables) (ext : Ext) (k : Nat) (v : Dyn) :
    special T ext (k + 1) "bool.number" v = nonzero T (callNamed T ext k) v := by rfl

theorem special_date_string (T : CastTables) (ext : Ext) (k : Nat) (v : Dyn) :
    special T ext (k + 1) "date.string" v =
      match v with
      | .str s =>
        if Time.parseDateOk s then .ok v
        else via T (callNamed T ext k) "ToInt64" "ToDate" "ErrUnableToCastToDate" v
      | _ => .err .ext := by rfl

theorem special_date_bytes (T : CastTables) (ext : Ext) (k : Nat) (v : Dyn) :
    special T ext (k + 1) "date.bytes" v =
      match v with
      | .bytes s =>
        orElse (callNamed T ext k "ToDate" (.str s))
          (via T (callNamed T ext k) "ToInt64" "ToDate" "ErrUnableToCastToDate" v)
      | _ => .err .ext := by rfl

theorem special_date_default (T : CastTables) (ext : Ext) (k : Nat) (v : Dyn) :
    special T ext (k + 1) "date.default" v =
      via T (callNamed T ext k) "ToString" "ToDate" "ErrUnableToCastToTime" v := by rfl

/-- The model abstains when `cast.TimeStringFormat` is not the RFC 3339 layout. -/
theorem special_time_string (T : CastTables) (ext : Ext) (k : Nat) (v : Dyn) :
    special T ext (k + 1) "time.string" v =
      match v with
      | .str s =>
        if T.timeStringFormat != "2006-01-02T15:04:05Z07:00" then .err .ext else
        match Time.parseRFC3339 s with
        | some t => .ok (.time t)
        | none => via T (callNamed T ext k) "ToInt64" "ToTime" "ErrUnableToCastToTime" v
      | _ => .err .ext := by rfl

theorem special_time_bytes (T : CastTables) (ext : Ext) (k : Nat) (v : Dyn) :
    special T ext (k + 1) "time.bytes" v =
      match v with
      | .bytes s =>
        orElse (callNamed T ext k "ToTime" (.str s))
          (via T (callNamed T ext k) "ToInt64" "ToTime" "ErrUnableToCastToTime" v)
      | _ => .err .ext := by rfl

theorem special_time_default (T : CastTables) (ext : Ext) (k : Nat) (v : Dyn) :
    special T ext (k + 1) "time.default" v =
      via T (callNamed T ext k) "ToInt64" "ToTime" "ErrUnableToCastToTime" v := by rfl

theorem special_timestamp_string (T : CastTables) (ext : Ext) (k : Nat) (s : Bytes) :
    special T ext (k + 1) "timestamp.string" (.str s) =
      if T.timeStringFormat != "2006-01-02T15:04:05Z07:00" then .err .ext else
      match Time.parseRFC3339 s with
      | some t => .ok (.int .i64 t.sec)
      | none => failWith T "ErrUnableToCastToTime" := by rfl

/-! ### Guards -/

@[simp] def G.eval (atom : Cmp → E → Int → Bool) : G → Bool
  | .cmp op l c => atom op l c
  | .or a b => a.eval atom || b.eval atom
  | .and a b => a.eval atom && b.eval atom
  | .not a => !a.eval atom

@[simp] def G.allE (ok : E → Bool) : G → Bool
  | .cmp _ l _ => ok l
  | .or a b => a.allE ok && b.allE ok
  | .and a b => a.allE ok && b.allE ok
  | .not a => a.allE ok

theorem evalG_eval (T : CastTables) (ext : Ext) (val : Dyn) {atom : Cmp → E → Int → Bool}
    {ok : E → Bool}
    (h : ∀ op l c, ok l = true → evalG T ext val (.cmp op l c) = some (atom op l c))
    {g : G} (hg : g.allE ok = true) : evalG T ext val g = some (g.eval atom) := by
  induction g with
  | cmp op l c => exact h op l c hg
  | or a b iha ihb =>
    simp only [G.allE, Bool.and_eq_true] at hg
    simp only [evalG, iha hg.1, ihb hg.2, G.eval]
    cases a.eval atom <;> rfl
  | and a b iha ihb =>
    simp only [G.allE, Bool.and_eq_true] at hg
    simp only [evalG, iha hg.1, ihb hg.2, G.eval]
    cases a.eval atom <;> rfl
  | not a ih => simp only [evalG, ih hg, G.eval, Option.map_some]

/-! ### The integer types: ranges, wrapping, enumeration -/

theorem inRange_signed_iff (t : IntTy) (h : t.signed = true) (v : Int) :
    t.inRange v ↔ (-(2 ^ (t.bits - 1) : Int) ≤ v ∧ v < 2 ^ (t.bits - 1)) := by
  simp only [IntTy.inRange, IntTy.min, IntTy.max, h, if_true]; omega

theorem inRange_unsigned_iff (t : IntTy) (h : t.signed = false) (v : Int) :
    t.inRange v ↔ (0 ≤ v ∧ v < 2 ^ t.bits) := by
  simp only [IntTy.inRange, IntTy.min, IntTy.max, h]; simp; omega

theorem wrap_of_inRange (t : IntTy) (v : Int) (h : t.inRange v) : t.wrap v = v := by
  have hp : (2 : Int) ^ t.bits = 2 * 2 ^ (t.bits - 1) := by cases t <;> decide
  simp only [IntTy.wrap]
  cases hs : t.signed with
  | false =>
    have := (inRange_unsigned_iff t hs v).mp h
    rw [Int.emod_eq_of_lt this.1 this.2]; rfl
  | true =>
    have := (inRange_signed_iff t hs v).mp h
    by_cases hv : 0 ≤ v
    · rw [Int.emod_eq_of_lt hv (by omega)]
      simp only [Bool.true_and, decide_eq_true_eq]
      rw [if_neg (by omega)]
    · have hm : v % 2 ^ t.bits = v + 2 ^ t.bits := by
        rw [← Int.add_emod_right, Int.emod_eq_of_lt (by omega) (by omega)]
      rw [hm]
      simp only [Bool.true_and, decide_eq_true_eq]
      rw [if_pos (by omega)]; omega

theorem bits_pos (t : IntTy) : t.bits ≠ 0 := by cases t <;> simp [IntTy.bits]

theorem IntTy.mem_all (t : IntTy) : t ∈ IntTy.all := by cases t <;> decide

theorem IntTy.forall_of_all {p : IntTy → Prop} [DecidablePred p]
    (h : (IntTy.all.all fun t => decide (p t)) = true) (t : IntTy) : p t :=
  of_decide_eq_true (List.all_eq_true.mp h t t.mem_all)

/-! ### The dynamic-type tags, enumerated -/

-- In the namespace of Proofs.CastTyped, whose checkers and statements name it; it stands here because
-- Proofs.CastInt and Proofs.CastBin, which do not import that module, enumerate the types too.
namespace CastTyped

def allTys : List Ty :=
  [.none, .int .int, .int .i64, .int .i32, .int .i16, .int .i8, .int .uint, .int .u64, .int .u32,
   .int .u16, .int .u8, .f64, .f32, .bool, .str, .bytes, .time, .num, .other]

theorem mem_allTys (t : Ty) : t ∈ allTys := by
  cases t with
  | int i => cases i <;> decide
  | _ => decide

theorem forall_ty {p : Ty → Prop} [DecidablePred p] (h : (allTys.all fun t => decide (p t)) = true) (t : Ty) :
    p t :=
  of_decide_eq_true (List.all_eq_true.mp h t (mem_allTys t))

end CastTyped

end Jl
