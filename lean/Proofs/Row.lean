/-
  Proofs.Row — the (key list, map) row of the code refines the insertion-ordered map: under the coherence
  invariant `Inv`, `abs` has the row's key list and its map as look-up, so every mutator of row.go is its
  `OMap` counterpart (`step_refines`, `run_refines`).  `namespace OMap` holds the facts about `keys`,
  `lookup` and `upsert` that the other files cite.
-/
import Model.Row

namespace Jl
variable {C V E : Type}

/-- Coherence of the two structures the code maintains. -/
def LRow.Inv (r : LRow C) : Prop :=
  r.l.Nodup ∧ ∀ k, k ∈ r.l ↔ (r.m k).isSome = true

def LRow.abs (r : LRow C) : OMap C :=
  r.l.filterMap fun k => (r.m k).map fun c => (k, c)

namespace OMap

theorem keys_cons (k : Bytes) (c : C) (o : OMap C) : keys ((k, c) :: o) = k :: keys o := rfl

theorem lookup_cons (k0 : Bytes) (c0 : C) (o : OMap C) (k : Bytes) :
    lookup ((k0, c0) :: o) k = if k0 = k then some c0 else lookup o k := by
  rw [lookup]

theorem lookup_cons_self (k : Bytes) (c : C) (o : OMap C) : lookup ((k, c) :: o) k = some c := by
  rw [lookup_cons, if_pos rfl]

theorem lookup_cons_ne {k0 k : Bytes} (c0 : C) (o : OMap C) (h : ¬ k0 = k) :
    lookup ((k0, c0) :: o) k = lookup o k := by
  rw [lookup_cons, if_neg h]

theorem upsert_cons (k0 : Bytes) (c0 : C) (o : OMap C) (k : Bytes) (c : C) :
    upsert ((k0, c0) :: o) k c = if k0 = k then (k0, c) :: o else (k0, c0) :: upsert o k c := by
  rw [upsert]

theorem mem_of_lookup {o : OMap C} {k : Bytes} {c : C} (h : lookup o k = some c) : (k, c) ∈ o := by
  fun_induction lookup o k with
  | case1 => cases h
  | case2 c0 t => cases h; exact List.mem_cons_self
  | case3 k0 c0 t hk ih => exact List.mem_cons_of_mem _ (ih h)

theorem mem_keys_of_lookup {o : OMap C} {k : Bytes} {c : C} (h : lookup o k = some c) :
    k ∈ keys o :=
  List.mem_map_of_mem (f := Prod.fst) (mem_of_lookup h)

theorem lookup_of_mem {o : OMap C} {k : Bytes} {c : C} (hnd : (keys o).Nodup) (h : (k, c) ∈ o) :
    lookup o k = some c := by
  induction o with
  | nil => cases h
  | cons a t ih =>
    obtain ⟨k0, c0⟩ := a
    rw [keys_cons, List.nodup_cons] at hnd
    rcases List.mem_cons.mp h with h | h
    · cases h; exact lookup_cons_self ..
    · have hk : k ∈ keys t := List.mem_map_of_mem (f := Prod.fst) h
      rw [lookup_cons_ne _ _ fun (e : k0 = k) => hnd.1 (e ▸ hk)]
      exact ih hnd.2 h

theorem lookup_isSome_of_mem (o : OMap C) (k : Bytes) (h : k ∈ keys o) : ∃ c, lookup o k = some c := by
  fun_induction lookup o k with
  | case1 => cases h
  | case2 c0 t => exact ⟨c0, rfl⟩
  | case3 k0 c0 t hk ih => exact ih ((List.mem_cons.mp h).resolve_left fun e => hk e.symm)

theorem lookup_none_of_not_mem (o : OMap C) (k : Bytes) (h : k ∉ keys o) : lookup o k = none := by
  cases hl : lookup o k with
  | none => rfl
  | some c => exact absurd (mem_keys_of_lookup hl) h

theorem lookup_eq_none_iff (o : OMap C) (k : Bytes) : lookup o k = none ↔ k ∉ keys o := by
  constructor
  · intro h hm
    obtain ⟨c, hc⟩ := lookup_isSome_of_mem o k hm
    rw [h] at hc; cases hc
  · exact lookup_none_of_not_mem o k

theorem upsert_of_not_mem (o : OMap C) (k : Bytes) (c : C) (h : k ∉ keys o) :
    upsert o k c = o ++ [(k, c)] := by
  fun_induction upsert o k c with
  | case1 => rfl
  | case2 c0 t => exact absurd List.mem_cons_self h
  | case3 k0 c0 t hk ih => rw [ih fun hm => h (List.mem_cons_of_mem _ hm)]; rfl

theorem keys_upsert_of_mem (o : OMap C) (k : Bytes) (c : C) (h : k ∈ keys o) :
    keys (upsert o k c) = keys o := by
  fun_induction upsert o k c with
  | case1 => cases h
  | case2 => rfl
  | case3 k0 c0 t hk ih =>
    rw [keys_cons, keys_cons, ih ((List.mem_cons.mp h).resolve_left fun e => hk e.symm)]

theorem keys_upsert (o : OMap C) (k : Bytes) (c : C) :
    keys (upsert o k c) = if k ∈ keys o then keys o else keys o ++ [k] := by
  split
  · rename_i h; exact keys_upsert_of_mem o k c h
  · rename_i h; rw [upsert_of_not_mem o k c h]; exact List.map_append

theorem lookup_upsert (o : OMap C) (k k' : Bytes) (c : C) :
    lookup (upsert o k c) k' = if k' = k then some c else lookup o k' := by
  fun_induction upsert o k c with
  | case1 => rw [lookup_cons]; simp only [eq_comm]
  | case2 c0 t =>
    rw [lookup_cons, lookup_cons]
    by_cases h : k = k'
    · rw [if_pos h, if_pos h.symm]
    · rw [if_neg h, if_neg fun e => h e.symm, if_neg h]
  | case3 k0 c0 t hk ih =>
    rw [lookup_cons, lookup_cons, ih]
    split
    · rw [if_neg fun e => hk (‹k0 = k'›.trans e)]
    · rfl

theorem lookup_upsert_self (o : OMap C) (k : Bytes) (c : C) : lookup (upsert o k c) k = some c := by
  rw [lookup_upsert, if_pos rfl]

theorem lookup_upsert_ne (o : OMap C) {k k' : Bytes} (c : C) (h : ¬ k' = k) :
    lookup (upsert o k c) k' = lookup o k' := by
  rw [lookup_upsert, if_neg h]

theorem nodup_upsert (o : OMap C) (k : Bytes) (c : C) (h : (keys o).Nodup) :
    (keys (upsert o k c)).Nodup := by
  rw [keys_upsert]
  split
  · exact h
  · rename_i hk
    rw [List.nodup_append]
    refine ⟨h, List.nodup_cons.mpr ⟨List.not_mem_nil, List.nodup_nil⟩, fun a ha b hb e => hk ?_⟩
    rw [← List.mem_singleton.mp hb, ← e]; exact ha

theorem mem_upsert {o : OMap C} {k : Bytes} {c : C} {kv : Bytes × C} (h : kv ∈ upsert o k c) :
    kv ∈ o ∨ kv = (k, c) := by
  fun_induction upsert o k c with
  | case1 => exact .inr (List.mem_singleton.mp h)
  | case2 c0 t =>
    rcases List.mem_cons.mp h with h | h
    · exact .inr h
    · exact .inl (List.mem_cons_of_mem _ h)
  | case3 k0 c0 t hk ih =>
    rcases List.mem_cons.mp h with h | h
    · exact .inl (h ▸ List.mem_cons_self)
    · exact (ih h).imp_left (List.mem_cons_of_mem _)

theorem keys_append (a b : OMap C) : keys (a ++ b) = keys a ++ keys b := List.map_append

theorem lookup_append (a b : OMap C) (k : Bytes) :
    lookup (a ++ b) k = (lookup a k).or (lookup b k) := by
  fun_induction lookup a k with
  | case1 => rfl
  | case2 c0 t => rw [List.cons_append, lookup_cons_self]; rfl
  | case3 k0 c0 t hk ih => rw [List.cons_append, lookup_cons_ne _ _ hk, ih]

theorem upsert_append_mem (a b : OMap C) (k : Bytes) (c : C) (h : k ∈ keys a) :
    upsert (a ++ b) k c = upsert a k c ++ b := by
  fun_induction upsert a k c with
  | case1 => cases h
  | case2 c0 t => rw [List.cons_append, upsert_cons, if_pos rfl]; rfl
  | case3 k0 c0 t hk ih =>
    rw [List.cons_append, upsert_cons, if_neg hk, ih ((List.mem_cons.mp h).resolve_left fun e => hk e.symm)]; rfl

theorem upsert_append_not_mem (a b : OMap C) (k : Bytes) (c : C) (h : k ∉ keys a) :
    upsert (a ++ b) k c = a ++ upsert b k c := by
  induction a with
  | nil => rfl
  | cons x a ih =>
    obtain ⟨k0, c0⟩ := x
    rw [keys_cons, List.mem_cons, not_or] at h
    rw [List.cons_append, upsert_cons, if_neg fun e => h.1 e.symm, ih h.2]; rfl

theorem upsert_upsert (o : OMap C) (k : Bytes) (a b : C) :
    upsert (upsert o k a) k b = upsert o k b := by
  fun_induction upsert o k a with
  | case1 => rw [upsert_cons, if_pos rfl]; rfl
  | case2 c0 t => rw [upsert_cons, if_pos rfl, upsert_cons, if_pos rfl]
  | case3 k0 c0 t hk ih => rw [upsert_cons, if_neg hk, ih, upsert_cons, if_neg hk]

theorem upsert_same (o : OMap C) (k : Bytes) (c : C) (h : lookup o k = some c) : upsert o k c = o := by
  fun_induction lookup o k with
  | case1 => cases h
  | case2 c0 t => cases h; rw [upsert_cons, if_pos rfl]
  | case3 k0 c0 t hk ih => rw [upsert_cons, if_neg hk, ih h]

theorem ext {o₁ o₂ : OMap C} (hnd : (keys o₁).Nodup) (hk : keys o₁ = keys o₂)
    (hl : ∀ k, lookup o₁ k = lookup o₂ k) : o₁ = o₂ := by
  induction o₁ generalizing o₂ with
  | nil => cases o₂ with
    | nil => rfl
    | cons _ _ => cases hk
  | cons a t ih =>
    obtain ⟨k, c⟩ := a
    cases o₂ with
    | nil => cases hk
    | cons b t' =>
      obtain ⟨k', c'⟩ := b
      rw [keys_cons, keys_cons, List.cons.injEq] at hk
      obtain ⟨rfl, hk⟩ := hk
      rw [keys_cons, List.nodup_cons] at hnd
      have hc := hl k
      rw [lookup_cons_self, lookup_cons_self, Option.some.injEq] at hc
      rw [hc, ih hnd.2 hk fun k'' => ?_]
      by_cases e : k = k''
      · rw [← e, lookup_none_of_not_mem t k hnd.1, lookup_none_of_not_mem t' k (hk ▸ hnd.1)]
      · simpa only [lookup_cons_ne _ _ e] using hl k''

end OMap

namespace LRow

def entry (m : Bytes → Option C) (k : Bytes) : Option (Bytes × C) := (m k).map fun c => (k, c)

theorem abs_eq (r : LRow C) : r.abs = r.l.filterMap (entry r.m) := rfl

theorem entry_of_some {m : Bytes → Option C} {k : Bytes} {c : C} (h : m k = some c) :
    entry m k = some (k, c) := by rw [entry, h]; rfl

private theorem filterMap_entry_cons {m : Bytes → Option C} {a : Bytes} {c : C} (t : List Bytes)
    (h : m a = some c) : (a :: t).filterMap (entry m) = (a, c) :: t.filterMap (entry m) := by
  rw [List.filterMap_cons, entry_of_some h]

private theorem keys_filterMap (m : Bytes → Option C) (l : List Bytes)
    (hl : ∀ k ∈ l, (m k).isSome = true) : OMap.keys (l.filterMap (entry m)) = l := by
  induction l with
  | nil => rfl
  | cons a t ih =>
    obtain ⟨c, hc⟩ := Option.isSome_iff_exists.mp (hl a List.mem_cons_self)
    rw [filterMap_entry_cons t hc, OMap.keys_cons, ih fun k hk => hl k (List.mem_cons_of_mem _ hk)]

theorem abs_keys (r : LRow C) (h : r.Inv) : OMap.keys r.abs = r.l :=
  keys_filterMap r.m r.l fun k hk => (h.2 k).mp hk

/-- `IterValues` on a row whose listed keys all have a cell: the entries of `abs`, in its order. -/
theorem iter_of_isSome (r : LRow C) (h : ∀ k ∈ r.l, (r.m k).isSome = true) :
    r.iter = r.abs.map fun kc => (kc.1, some kc.2) := by
  rw [abs_eq, iter]
  generalize r.l = l at h
  induction l with
  | nil => rfl
  | cons a t ih =>
    obtain ⟨c, hc⟩ := Option.isSome_iff_exists.mp (h a List.mem_cons_self)
    rw [filterMap_entry_cons t hc, List.map_cons, List.map_cons, hc,
      ih fun k hk => h k (List.mem_cons_of_mem _ hk)]

theorem abs_lookup (r : LRow C) (h : r.Inv) (k : Bytes) : OMap.lookup r.abs k = r.m k := by
  cases hm : r.m k with
  | none =>
    exact OMap.lookup_none_of_not_mem _ _ (by rw [abs_keys r h, h.2 k, hm]; exact Bool.false_ne_true)
  | some c =>
    exact OMap.lookup_of_mem (by rw [abs_keys r h]; exact h.1)
      (List.mem_filterMap.mpr ⟨k, (h.2 k).mpr (by rw [hm]; rfl), entry_of_some hm⟩)

theorem inv_setValue (r : LRow C) (h : r.Inv) (k : Bytes) (c : C) : (r.setValue k c).Inv := by
  obtain ⟨hnd, hm⟩ := h
  unfold setValue ensure Inv
  by_cases hk : (r.m k).isSome = true
  · simp only [hk, if_true]
    refine ⟨hnd, fun k' => ?_⟩
    by_cases e : k' = k
    · subst e; simp [mset]; exact (hm k').mpr hk
    · simp [mset, e]; exact hm k'
  · have hnot : k ∉ r.l := fun hmem => hk ((hm k).mp hmem)
    simp only [hk]
    refine ⟨?_, fun k' => ?_⟩
    · simp only [Bool.false_eq_true, if_false]
      rw [List.nodup_append]
      refine ⟨hnd, by simp, ?_⟩
      intro a ha b hb
      simp at hb; subst hb
      intro e; subst e; exact hnot ha
    · by_cases e : k' = k
      · subst e; simp [mset]
      · simp [mset, e]; exact hm k'

/-- `setValue` is `upsert`: its key list is `OMap.keys_upsert`, its map `OMap.lookup_upsert`. -/
theorem abs_setValue (r : LRow C) (h : r.Inv) (k : Bytes) (c : C) :
    (r.setValue k c).abs = OMap.upsert r.abs k c := by
  have h' := inv_setValue r h k c
  refine OMap.ext (by rw [abs_keys _ h']; exact h'.1) ?_ fun k' => ?_
  · rw [abs_keys _ h', OMap.keys_upsert, abs_keys r h]
    simp only [h.2 k]
    rfl
  · rw [abs_lookup _ h', OMap.lookup_upsert, abs_lookup r h]
    rfl

theorem inv_empty : (LRow.empty : LRow C).Inv := by
  simp [LRow.empty, Inv]

theorem abs_empty : (LRow.empty : LRow C).abs = [] := rfl

theorem keyAt_abs (r : LRow C) (h : r.Inv) (i : Int) : OMap.keyAt r.abs i = r.keyAt i := by
  unfold OMap.keyAt keyAt; rw [abs_keys r h]

private theorem mk_eq_setValue (r : LRow C) (k : Bytes) (c : C) :
    (⟨r.ensure k, mset r.m k c⟩ : LRow C) = r.setValue k c := rfl

/-- `parseobject` pushes the key itself after its own look-up: `setValue` all the same. -/
private theorem mk_eq_setValue_none (r : LRow C) (k : Bytes) (c : C) (hk : r.m k = none) :
    (⟨r.l ++ [k], mset r.m k c⟩ : LRow C) = r.setValue k c := by
  rw [setValue, ensure, hk]; rfl

private theorem mk_eq_setValue_some (r : LRow C) (k : Bytes) (c c0 : C) (hk : r.m k = some c0) :
    (⟨r.l, mset r.m k c⟩ : LRow C) = r.setValue k c := by
  rw [setValue, ensure, hk]; rfl

/-- A result (row, error) of the code matches one of the specification. -/
def Ref (p : LRow C × Option E) (q : OMap C × Option E) : Prop :=
  p.1.abs = q.1 ∧ p.2 = q.2 ∧ p.1.Inv

theorem ref_setValue (r : LRow C) (h : r.Inv) (k : Bytes) (c : C) (e : Option E) :
    Ref (r.setValue k c, e) (OMap.upsert r.abs k c, e) :=
  ⟨abs_setValue r h k c, rfl, inv_setValue r h k c⟩

/-- The two `match`es are the bodies of the loops of Model.Row, so that the three inductions below close by
    `exact`; with `generalizing` they would take `h`, which mentions `p` and `q`, into their motives and be
    other terms. -/
private theorem ref_continue {p : LRow C × Option E} {q : OMap C × Option E} (h : Ref p q)
    (kL : LRow C → LRow C × Option E) (kO : OMap C → OMap C × Option E)
    (hk : ∀ r' : LRow C, r'.Inv → Ref (kL r') (kO r'.abs)) :
    Ref (match (generalizing := false) p with
        | (r', some e) => (r', some e)
        | (r', none) => kL r')
      (match (generalizing := false) q with
        | (o', some e) => (o', some e)
        | (o', none) => kO o') := by
  obtain ⟨r', e⟩ := p
  obtain ⟨o', e'⟩ := q
  obtain ⟨h1, h2, h3⟩ := h
  simp only at h1 h2 h3
  subst h1 h2
  cases e with
  | some e => exact ⟨rfl, rfl, h3⟩
  | none => exact hk r' h3

theorem set_refines (ops : CellOps C V E) (r : LRow C) (h : r.Inv) (k : Bytes) (x : V) :
    (r.set ops k x).abs = OMap.set ops r.abs k x ∧ (r.set ops k x).Inv := by
  unfold set OMap.set
  rw [abs_lookup r h]
  cases r.m k <;> exact ⟨abs_setValue r h _ _, inv_setValue r h _ _⟩

theorem importAtKey_refines (ops : CellOps C V E) (r : LRow C) (h : r.Inv) (k : Bytes) (x : V) :
    Ref (r.importAtKey ops k x) (OMap.importAtKey ops r.abs k x) := by
  unfold importAtKey OMap.importAtKey
  rw [abs_lookup r h]
  cases r.m k <;> exact ref_setValue r h k _ _

theorem parseMember_refines (ops : CellOps C V E) (r : LRow C) (h : r.Inv) (k : Bytes) (x : V) :
    Ref (r.parseMember ops k x) (OMap.parseMember ops r.abs k x) := by
  unfold parseMember OMap.parseMember
  rw [abs_lookup r h]
  cases hk : r.m k with
  | none => simp only [mk_eq_setValue_none r k _ hk]; exact ref_setValue r h k _ _
  | some c => simp only [mk_eq_setValue_some r k _ c hk]; exact ref_setValue r h k _ _

theorem importSliceFrom_refines (ops : CellOps C V E) (xs : List V) :
    ∀ (r : LRow C) (i : Nat), r.Inv →
    Ref (r.importSliceFrom ops i xs) (OMap.importSliceFrom ops r.abs i xs) := by
  induction xs with
  | nil => intro r i h; exact ⟨rfl, rfl, h⟩
  | cons x xs ih =>
    intro r i h
    rw [OMap.importSliceFrom, keyAt_abs r h]
    exact ref_continue (importAtKey_refines ops r h _ x) (importSliceFrom ops · (i + 1) xs)
      (OMap.importSliceFrom ops · (i + 1) xs) fun r' h' => ih r' (i + 1) h'

theorem importMap_refines (ops : CellOps C V E) (kvs : List (Bytes × V)) :
    ∀ (r : LRow C), r.Inv →
    Ref (r.importMap ops kvs) (OMap.importMap ops r.abs kvs) := by
  induction kvs with
  | nil => intro r h; exact ⟨rfl, rfl, h⟩
  | cons kv kvs ih =>
    intro r h
    exact ref_continue (importAtKey_refines ops r h kv.1 kv.2) (importMap ops · kvs)
      (OMap.importMap ops · kvs) ih

theorem parseMembers_refines (ops : CellOps C V E) (ms : List (Bytes × V)) :
    ∀ (r : LRow C), r.Inv →
    Ref (r.parseMembers ops ms) (OMap.parseMembers ops r.abs ms) := by
  induction ms with
  | nil => intro r h; exact ⟨rfl, rfl, h⟩
  | cons kv ms ih =>
    intro r h
    exact ref_continue (parseMember_refines ops r h kv.1 kv.2) (parseMembers ops · ms)
      (OMap.parseMembers ops · ms) ih

theorem step_refines (ops : CellOps C V E) (r : LRow C) (h : r.Inv) (op : RowOp C V) :
    (r.step ops op).1.abs = (OMap.step ops r.abs op).1 ∧
    (r.step ops op).2 = (OMap.step ops r.abs op).2 ∧
    (r.step ops op).1.Inv := by
  have hk : ∀ i, OMap.keyAt r.abs i = r.keyAt i := keyAt_abs r h
  cases op with
  | set k x => exact ⟨(set_refines ops r h k x).1, rfl, (set_refines ops r h k x).2⟩
  | setAt i x =>
    show Ref (r.set ops _ x, none) (OMap.set ops r.abs (OMap.keyAt r.abs i) x, none)
    rw [hk]
    exact ⟨(set_refines ops r h _ x).1, rfl, (set_refines ops r h _ x).2⟩
  | setValue k c => exact ref_setValue r h k c none
  | setValueAt i c =>
    show Ref (r.setValue _ c, none) (OMap.upsert r.abs (OMap.keyAt r.abs i) c, none)
    rw [hk]
    exact ref_setValue r h _ c none
  | importAtKey k x => exact importAtKey_refines ops r h k x
  | importAtIndex i x =>
    show Ref (r.importAtKey ops _ x) (OMap.importAtKey ops r.abs (OMap.keyAt r.abs i) x)
    rw [hk]
    exact importAtKey_refines ops r h _ x
  | importSlice xs => exact importSliceFrom_refines ops xs r 0 h
  | importMap kvs => exact importMap_refines ops kvs r h
  | unmarshal ms => exact parseMembers_refines ops ms r h

theorem run_refines (ops : CellOps C V E) (hist : List (RowOp C V)) :
    ∀ (r : LRow C), r.Inv →
    (r.run ops hist).abs = OMap.run ops r.abs hist ∧ (r.run ops hist).Inv := by
  induction hist with
  | nil => intro r h; exact ⟨rfl, h⟩
  | cons op rest ih =>
    intro r h
    obtain ⟨h1, _, h3⟩ := step_refines ops r h op
    rw [run, OMap.run, ← h1]
    exact ih _ h3

end LRow

theorem Members.ofList_toList : (ms : Members) → Members.ofList ms.toList = ms
  | .nil => rfl
  | .cons k v ms => congrArg (Members.cons k v) (Members.ofList_toList ms)

end Jl
