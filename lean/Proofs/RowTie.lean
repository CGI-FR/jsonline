/-
  Proofs.RowTie — the hand-written model of rows rests on what row.go says.

  extract/rowfacts.go regenerates Gen.RowFacts from the source on every run (symbolic execution of every
  function of row.go, the result classified into the shapes of Model.RowFactsSyntax).
  Model.RowFactsSpec.expected is what Model.Row, Model.Cells, Model.Value, Model.Path, Model.RowPrint,
  Model.Getters and Model.MapTo assume, written by hand.  So that the constructors do not stay names, the facts
  are run by INTERPRETERS written from the meaning of the constructors alone (`keyedRun`, `delegateRun`,
  `importRun`, `marshalRowG`, …); the `…_as_modelled` theorems say that on the regenerated facts they compute
  what the model's functions compute.

  All in namespace `Jl.RowTie`, split so that a change of one function of row.go stops only the properties that
  rest on it: here the keyed mutators, their positional variants, `Import`, `ImportAtPath`; the facts as a whole
  and the iterators in RowTieAll, `MarshalJSON` in RowTieMarshal, the getters and MapTo in RowTieGetters, the
  parameters of Model.Path and of the text reader in RowTieText.

  A change of row.go that changes behaviour changes a fact or makes it `unknown`, and one of these
  theorems stops compiling; a rewrite that keeps behaviour gives the same facts.
-/
import Model.RowFactsSpec
import Model.RowPrint
import Model.MapTo
import Gen.RowFacts

namespace Jl.RowTie
open Jl

/-! ### The keyed mutators -/

/-- What the shapes of `Present` / `Absent` need from the cells; `A` is the type of the argument. -/
structure KeyedOps (C A E : Type) where
  /-- `castThenNewValue`: the new cell made from the stored one and the argument -/
  castThenNew : C → A → C
  /-- `importInPlace`: the stored cell after `Import(arg)`, and its error -/
  importInPlace : C → A → C × Option E
  /-- `storeArgument`: the argument as a cell (it is one when the parameter's type is Value) -/
  asCell : A → Option C
  /-- `valueElseAuto`: the argument itself when it is a Value, else an Auto cell holding it -/
  valueElseAuto : A → C
  /-- `auto`: an Auto cell holding the argument -/
  auto : A → C

/-- A keyed mutator on the row as the code keeps it (list + map), read off the fact alone.
    `none`: the fact holds an `unknown` (or asks for a cell the argument is not). -/
def keyedRun {C A E : Type} (k : Keyed) (o : KeyedOps C A E) (r : LRow C) (key : Bytes) (a : A) :
    Option (LRow C × Option E) :=
  match k.push with
  | .unknown _ => none
  | .backWhenAbsent =>
    match r.m key with
    | some c =>
      -- no push
      match k.present with
      | .castThenNewValue => some (⟨r.l, LRow.mset r.m key (o.castThenNew c a)⟩, none)
      | .importInPlace _ =>
        match o.importInPlace c a with
        | (c', e) => some (⟨r.l, LRow.mset r.m key c'⟩, e)
      | .storeArgument => (o.asCell a).map fun c' => (⟨r.l, LRow.mset r.m key c'⟩, none)
      | .unknown _ => none
    | none =>
      -- PushBack(key), then the store
      match k.absent with
      | .valueElseAuto => some (⟨r.l ++ [key], LRow.mset r.m key (o.valueElseAuto a)⟩, none)
      | .auto => some (⟨r.l ++ [key], LRow.mset r.m key (o.auto a)⟩, none)
      | .storeArgument => (o.asCell a).map fun c' => (⟨r.l ++ [key], LRow.mset r.m key c'⟩, none)
      | .unknown _ => none

/-- The cell operations of Model.Row seen as what the shapes need (an `interface{}` argument is no cell). -/
def ofCellOps {C V E : Type} (ops : CellOps C V E) : KeyedOps C V E :=
  { castThenNew := ops.setExisting, importInPlace := ops.importInto, asCell := fun _ => none,
    valueElseAuto := ops.newCell, auto := ops.autoCell }

/-- `SetValue`'s argument is a cell. -/
def cellArg {C E : Type} : KeyedOps C C E :=
  { castThenNew := fun _ c => c, importInPlace := fun c _ => (c, none), asCell := some,
    valueElseAuto := id, auto := id }

theorem set_as_modelled {C V E : Type} (ops : CellOps C V E) (r : LRow C) (k : Bytes) (x : V) :
    keyedRun Gen.rowFacts.set (ofCellOps ops) r k x = some (r.set ops k x, none) := by
  simp only [keyedRun, Gen.rowFacts, LRow.set, LRow.ensure, ofCellOps]
  cases r.m k <;> simp

theorem setValue_as_modelled {C E : Type} (r : LRow C) (k : Bytes) (c : C) :
    keyedRun Gen.rowFacts.setValue (cellArg (E := E)) r k c = some (r.setValue k c, none) := by
  simp only [keyedRun, Gen.rowFacts, LRow.setValue, LRow.ensure, cellArg]
  cases r.m k <;> simp

theorem importAtKey_as_modelled {C V E : Type} (ops : CellOps C V E) (r : LRow C) (k : Bytes) (x : V) :
    keyedRun Gen.rowFacts.importAtKey (ofCellOps ops) r k x = some (r.importAtKey ops k x) := by
  simp only [keyedRun, Gen.rowFacts, LRow.importAtKey, LRow.ensure, ofCellOps]
  cases r.m k <;> simp

/-- The store of one member in `parseobject`. -/
def parseStore : ParseObjectFact → Option Keyed
  | .whileMore _ k _ => some k
  | .unknown _ => none

theorem parseMember_as_modelled {C V E : Type} (ops : CellOps C V E) (r : LRow C) (k : Bytes) (x : V) :
    (parseStore Gen.rowFacts.parseObject).bind (fun s => keyedRun s (ofCellOps ops) r k x)
      = some (r.parseMember ops k x) := by
  simp only [parseStore, Gen.rowFacts, Option.bind, keyedRun, LRow.parseMember, ofCellOps]
  cases r.m k <;> simp

/-- `valueElseAuto` and `auto`, on real cells, from their meaning: a Value argument (`.val v`) is `v`,
    anything else the raw value of a cell in format Auto (the format a row reports for itself) without raw type. -/
def valueElseAutoG (x : Dyn) : Val :=
  match x with
  | .val v => v
  | _ => .cell x .auto .none

def autoG (x : Dyn) : Val := .cell x .auto .none

theorem cells_as_modelled (x : Dyn) : valueElseAutoG x = Cells.newCell x ∧ autoG x = Cells.autoCell x := by
  constructor
  · cases x <;> rfl
  · rfl

/-! ### The positional variants -/

/-- `walkThen target`: the key at the position (`LRow.keyAt`: the walk from the front, `[]` when the index is
    negative or past the end), handed to the method the table has under that name. -/
def delegateRun {C α : Type} (d : Delegate) (methods : String → Option (Bytes → α)) (r : LRow C) (i : Int) : Option α :=
  match d with
  | .walkThen t => (methods t).map fun f => f (r.keyAt i)
  | .unknown _ => none

/-- The keyed mutators of the model under their Go names. -/
def mutators {C V E : Type} (ops : CellOps C V E) (r : LRow C) (x : V) : String → Option (Bytes → LRow C × Option E)
  | "Set" => some fun k => (r.set ops k x, none)
  | "ImportAtKey" => some fun k => r.importAtKey ops k x
  | _ => none

theorem setAt_as_modelled {C V E : Type} (ops : CellOps C V E) (r : LRow C) (i : Int) (x : V) :
    (Gen.rowFacts.positional.lookup "SetAtIndex").bind (fun d => delegateRun d (mutators ops r x) r i)
      = some (r.step ops (.setAt i x)) := by
  have h : Gen.rowFacts.positional.lookup "SetAtIndex" = some (.walkThen "Set") := by decide +kernel
  simp only [h, Option.bind_some, delegateRun, mutators, Option.map_some]
  rfl

theorem importAtIndex_as_modelled {C V E : Type} (ops : CellOps C V E) (r : LRow C) (i : Int) (x : V) :
    (Gen.rowFacts.positional.lookup "ImportAtIndex").bind (fun d => delegateRun d (mutators ops r x) r i)
      = some (r.step ops (.importAtIndex i x)) := by
  have h : Gen.rowFacts.positional.lookup "ImportAtIndex" = some (.walkThen "ImportAtKey") := by
    decide +kernel
  simp only [h, Option.bind_some, delegateRun, mutators, Option.map_some]
  rfl

theorem setValueAt_as_modelled {C V E : Type} (ops : CellOps C V E) (r : LRow C) (i : Int) (c : C) :
    (Gen.rowFacts.positional.lookup "SetValueAtIndex").bind
        (fun d => delegateRun d (fun n => if n = "SetValue" then some fun k => ((r.setValue k c, none) : LRow C × Option E) else none) r i)
      = some (r.step ops (.setValueAt i c)) := by
  have h : Gen.rowFacts.positional.lookup "SetValueAtIndex" = some (.walkThen "SetValue") := by
    decide +kernel
  simp only [h, Option.bind_some, delegateRun, if_true, Option.map_some]
  rfl

theorem getValueAt_as_modelled {C : Type} (r : LRow C) (i : Int) :
    (Gen.rowFacts.positional.lookup "GetValueAtIndex").bind
        (fun d => delegateRun d (fun n => if n = "GetValue" then some r.getValue else none) r i)
      = some (r.getValueAt i) := by
  have h : Gen.rowFacts.positional.lookup "GetValueAtIndex" = some (.walkThen "GetValue") := by
    decide +kernel
  simp only [h, Option.bind_some, delegateRun, if_true, Option.map_some]
  rfl

/-! ### Import -/

/-- `stopAtFirstError`: the entries in order, each through `step`; the first error ends the loop and is the result. -/
def eachG {C κ V E : Type} (step : LRow C → κ → V → LRow C × Option E) : LRow C → List (κ × V) → LRow C × Option E
  | r, [] => (r, none)
  | r, (k, x) :: rest =>
    match step r k x with
    | (r', some e) => (r', some e)
    | (r', none) => eachG step r' rest

/-- `for i, x := range xs`: the positions from `i`. -/
def indexed {V : Type} : Nat → List V → List (Nat × V)
  | _, [] => []
  | i, x :: xs => (i, x) :: indexed (i + 1) xs

/-- The argument of `Import`, by dynamic type. -/
inductive ImportArg (V : Type)
  | slice (xs : List V)
  | map (kvs : List (Bytes × V))
  | other

/-- `row.Import(v)` read off the facts: the kind's loop over the method it names — `ImportAtKey`, or a positional
    variant that walks to the key and delegates to it —; no case: the sentinel's error, the row untouched. -/
def importRun {C V E : Type} (f : RowFacts) (ops : CellOps C V E) (classOf : String → Option E) (r : LRow C) :
    ImportArg V → Option (LRow C × Option E)
  | .slice xs =>
    match f.importKinds.kinds.lookup "[]interface{}" with
    | some (.stopAtFirstError m) =>
      match f.positional.lookup m with
      | some (.walkThen "ImportAtKey") =>
        some (eachG (fun r (i : Nat) x => r.importAtKey ops (r.keyAt i) x) r (indexed 0 xs))
      | _ => none
    | _ => none
  | .map kvs =>
    match f.importKinds.kinds.lookup "map[string]interface{}" with
    | some (.stopAtFirstError "ImportAtKey") => some (eachG (fun r k x => r.importAtKey ops k x) r kvs)
    | _ => none
  | .other =>
    match f.importKinds.other with
    | .fail s => (classOf s).map fun e => (r, some e)
    | .unknown _ => none

theorem each_slice {C V E : Type} (ops : CellOps C V E) (xs : List V) : ∀ (r : LRow C) (i : Nat),
    eachG (fun r (i : Nat) x => r.importAtKey ops (r.keyAt i) x) r (indexed i xs) = r.importSliceFrom ops i xs := by
  induction xs with
  | nil => intro r i; rfl
  | cons x xs ih =>
    intro r i
    simp only [indexed, eachG, LRow.importSliceFrom]
    cases h : LRow.importAtKey ops r (r.keyAt ↑i) x with
    | mk r' e => cases e <;> simp [ih]

theorem each_map {C V E : Type} (ops : CellOps C V E) (kvs : List (Bytes × V)) : ∀ (r : LRow C),
    eachG (fun r k x => r.importAtKey ops k x) r kvs = r.importMap ops kvs := by
  induction kvs with
  | nil => intro r; rfl
  | cons kv kvs ih =>
    intro r
    cases kv with
    | mk k x =>
      simp only [eachG, LRow.importMap]
      cases h : LRow.importAtKey ops r k x with
      | mk r' e => cases e <;> simp [ih]

theorem importSlice_as_modelled {C V E : Type} (ops : CellOps C V E) (cls : String → Option E) (r : LRow C) (xs : List V) :
    importRun Gen.rowFacts ops cls r (.slice xs) = some (r.importSliceFrom ops 0 xs) := by
  simp [importRun, Gen.rowFacts, List.lookup, each_slice]

theorem importMap_as_modelled {C V E : Type} (ops : CellOps C V E) (cls : String → Option E) (r : LRow C)
    (kvs : List (Bytes × V)) :
    importRun Gen.rowFacts ops cls r (.map kvs) = some (r.importMap ops kvs) := by
  simp [importRun, Gen.rowFacts, List.lookup, each_map]

/-- The error class (`errors.Is`) of the sentinels row.go names. -/
def sentinelClass : String → Option ErrClass
  | "ErrUnsupportedImportType" => some .unsupportedImport
  | "ErrPathNotFound" => some .pathNotFound
  | _ => none

/-- Anything but a slice or a map — a Row, a Value, nil included —: `ErrUnsupportedImportType`, nothing written
    (`Value.importInto` on a `.row`: `| _ => .ok (c, some .unsupportedImport)`). -/
theorem importOther_as_modelled {C V : Type} (ops : CellOps C V ErrClass) (r : LRow C) :
    importRun Gen.rowFacts ops sentinelClass r (.other : ImportArg V) = some (r, some .unsupportedImport) := by
  simp [importRun, Gen.rowFacts, sentinelClass]

/-- `ImportAtPath`: the lookup is `GetValueAtPath`, a missing path is `.pathNotFound` (`Path.importAtKeys`). -/
theorem importAtPath_as_modelled :
    -- `w`: whether the error of `Import` is wrapped in `%w` (either way its class is the same)
    ∃ w, Gen.rowFacts.importAtPath = .lookupThenImport "GetValueAtPath" w "ErrPathNotFound"
      ∧ sentinelClass "ErrPathNotFound" = some .pathNotFound :=
  ⟨true, by decide +kernel, by simp [sentinelClass]⟩


end Jl.RowTie
