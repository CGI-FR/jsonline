/-
  Proofs.RowRoundTrip — C13 at ROW / LINE level for ONE column: a typed column survives write-then-read.
  The route (`Route`, Proofs.RowCells) is the N-column route of Proofs.RowRoundTripN on a template of one column
  and a map of one entry: `route_of_cellRoute` instantiates `route_N`; `route_of_cell` (in the words of the
  printed tree), `route_of_wire` (from a `Pairing`) and `gen_route` (regenerated tables) are its forms.

  Namespaces: `Jl.RowRoundTrip`; at the end `Jl.RowRoundTripN`, for the N-column theorem at the table of covered
  pairings (`lossless_N`) and its `Demo`, because they need Proofs.RowRoundTripN and Proofs.CellTable, and this is
  the lowest module that imports both.
-/
import Proofs.Pairings
import Proofs.JsonPrint
import Proofs.Order
import Proofs.LineKeys
import Proofs.RowCells
import Proofs.CellTable
import Proofs.RowRoundTripN
import Proofs.DecEq

namespace Jl.RowRoundTrip
open Jl Jl.Value Jl.Template Jl.RowPrint Jl.JsonPrint Jl.JsonQuote Cast
open Jl.CasterFacts


/-! ### Step lemmas for a one-column row -/

theorem withCol_one (key : Bytes) (f : Format) (ty : Ty) :
    withCol [] key f ty = [(key, .cell .nil f ty)] := rfl

theorem createRow_one (env : Env) (key : Bytes) (f : Format) (ty : Ty) (v : Dyn)
    (h0 : newValue env .nil f ty = .ok (.cell .nil f ty))
    (ha : newValue env v f ty = .ok (.cell v f ty)) :
    createRow env (withCol [] key f ty) (.gomap (.cons key v .nil)) =
      .ok ([(key, .cell v f ty)], none) := by
  refine Order.createRow_gomap_of_steps (LineLevel.cloneRow_col env key h0) ?_
  simp only [DynMap.toList, fillPairs, fill, Order.lookup_eq, OMap.lookup_cons_self, Cells.format,
    Cells.rawType, ha, Order.upsert_eq, OMap.upsert_cons, if_true]


theorem marshalRow_one (env : Env) (key : Bytes) (f : Format) (ty : Ty) (v e : Dyn) (b : Bytes)
    (hf : f ≠ .hidden) (hb : exportVal env (.cell v f ty) = .ok e)
    (hm : marshalExported env e v = .ok b) :
    marshalRow env (Members.ofList [(key, .cell v f ty)]) = .ok (LineTime.objText key b) := by
  rw [LineLevel.marshalRow_col env key _ (by simpa [Cells.format] using hf), LineLevel.marshalVal_of_export hb hm]

/-! ### One column is the N-column route on the template `[(key, prototype)]` -/

theorem route_of_cellRoute {env : Env} {key : Bytes} (hk : sanitize key = key) {f : Format} {ty : Ty}
    (hf : f ≠ .hidden) {v v' : Dyn}
    (h0 : newValue env .nil f ty = .ok (.cell .nil f ty))
    (ha : newValue env v f ty = .ok (.cell v f ty))
    (hc : RowRoundTripN.CellRoute env f ty v v') : Route env key f ty v v' := by
  have one : ∀ {k f' ty'}, (k, Val.cell .nil f' ty') ∈ withCol [] key f ty →
      k = key ∧ f' = f ∧ ty' = ty := fun h => by simpa [withCol_one] using h
  have hmem : (key, Val.cell .nil f ty) ∈ withCol [] key f ty := List.mem_singleton.mpr rfl
  have hnd : (OMap.keys (withCol [] key f ty)).Nodup := by simp [withCol_one, OMap.keys]
  have hval : RowRoundTripN.valOf (.cons key v .nil) key = v := by
    simp [RowRoundTripN.valOf, RowRoundTripN.valOfFrom, RowRoundTripN.upd, DynMap.toList]
  obtain ⟨bytes, dsE, _, hr, _⟩ := RowRoundTripN.route_N env (withCol [] key f ty) (.cons key v .nil)
    (fun _ => v') hnd (fun kc h => ⟨f, ty, by rw [List.mem_singleton.mp h]⟩)
    (fun k h => by
      obtain ⟨c, hm, _⟩ := RowRoundTripN.of_mem_visibleKeys h
      cases List.mem_singleton.mp hm; exact hk)
    (fun k f' ty' h => by obtain ⟨rfl, rfl, rfl⟩ := one h; exact h0)
    (fun k x f' ty' hx h => by
      obtain ⟨rfl, rfl, rfl⟩ := one h
      obtain ⟨_, rfl⟩ : k = k ∧ x = v := by simpa [DynMap.toList] using hx
      exact ha)
    (fun k f' ty' h _ => by obtain ⟨rfl, rfl, rfl⟩ := one h; rw [hval]; exact hc)
    (RowRoundTripN.extrasOK_of_declared env _ _ (by simp [DynMap.toList, withCol_one, OMap.keys]))
  exact hr.toRoute (by
    rw [RowRoundTripN.lookup_declared _ _ _ key f ty hnd hmem,
      RowRoundTripN.readBack_visible _ _ key _ hmem hf]; rfl)

/-- In the words of the printed tree (`JsonPrint.treeVal`).  `hk`: the reader delivers the key unchanged (e.g.
    ASCII); `h0`: the template's prototype cell; `ha`: `v` is already of the raw type.  `FloatTextOK`
    (json.Marshal's spelling of a float is a JSON number) is what `JsonPrint.unmarshal_marshalRow` asks of the
    standard-library parameter; `route_of_wire` does without it and derives `hm`. -/
theorem route_of_cell (env : Env) (hx : FloatTextOK env.ext) (key : Bytes) (hk : sanitize key = key)
    (f : Format) (ty : Ty) (hf : f ≠ .hidden) (v v' e e' : Dyn) (j : JV) (bytes : Bytes)
    (h0 : newValue env .nil f ty = .ok (.cell .nil f ty))
    (ha : newValue env v f ty = .ok (.cell v f ty))
    (_hb : exportVal env (.cell v f ty) = .ok e)
    (hm : marshalRow env (Members.ofList [(key, .cell v f ty)]) = .ok bytes)
    (hc : treeVal env (.cell v f ty) = j) (hj : ofJV env j = .ok e')
    (hd : importCell env f ty e' = .ok (.cell v' f ty, none)) :
    Route env key f ty v v' := by
  obtain ⟨parts, hparts, _⟩ := marshalRow_shape hm
  obtain ⟨b, hb⟩ := LineLevel.marshalMembers_mem env _ parts hparts key _ List.mem_cons_self hf
  exact route_of_cellRoute hk hf h0 ha ⟨e', RowRoundTripN.cellOut_of_tree env hx _ b e' hb (hc ▸ hj), hd⟩

theorem route_of_wire (env : Env) (key : Bytes) (hk : sanitize key = key)
    (f : Format) (ty : Ty) (hf : f ≠ .hidden) (v v' : Dyn)
    (h0 : newValue env .nil f ty = .ok (.cell .nil f ty))
    (ha : newValue env v f ty = .ok (.cell v f ty))
    (hp : Pairing env f ty v v') :
    Route env key f ty v v' :=
  route_of_cellRoute hk hf h0 ha (.of_pairing hp)

/-- The hypothesis on the key is needed: a key of ill-formed UTF-8 (the writer replaces the bad bytes by U+FFFD)
    is read back as a different key, which lands in a new Auto cell, and the typed column stays nil. -/
theorem route_key_not_fixed (env : Env) (key : Bytes) (hk : sanitize key ≠ key)
    (f : Format) (ty : Ty) (hf : f ≠ .hidden) (v e e' : Dyn)
    (h0 : newValue env .nil f ty = .ok (.cell .nil f ty))
    (ha : newValue env v f ty = .ok (.cell v f ty))
    (hb : exportVal env (.cell v f ty) = .ok e)
    (hw : Wire e e') :
    Route env key f ty v .nil := by
  obtain ⟨b, j, hm, hr, hj⟩ := hw.marshal env v
  have hne : ¬ key = sanitize key := fun h => hk h.symm
  have hread : unmarshalInto env [(key, .cell .nil f ty)] (LineTime.objText key b) =
      .ok ([(key, .cell .nil f ty), (sanitize key, Cells.autoCell e')], none) := by
    refine Order.unmarshalInto_of_steps (l := [(sanitize key, e')]) (LineLevel.unmarshal_objText hr)
      (by simp only [ofJVMembers, hj]) ?_
    simp only [parseMembers, parseMember, Order.lookup_eq, OMap.lookup,
      Order.upsert_eq, if_neg hne, OMap.upsert]
  exact ⟨_, _, _, _, createRow_one env key f ty v h0 ha, marshalRow_one env key f ty v e b hf hb hm,
    LineLevel.cloneRow_col env key h0, hread,
    by rw [Order.lookup_eq, OMap.lookup_cons_self]; rfl⟩

theorem Route.unique {env : Env} {key : Bytes} {f : Format} {ty : Ty} {v v1 v2 : Dyn}
    (h1 : Route env key f ty v v1) (h2 : Route env key f ty v v2) : v1 = v2 := by
  obtain ⟨_, _, r0, _, a1, a2, a3, a4, a5⟩ := h1
  obtain ⟨_, _, r0', _, b1, b2, b3, b4, b5⟩ := h2
  obtain ⟨_, _, rfl⟩ := RowRoundTripN.RouteN.unique ⟨a1, a2, r0, a3, a4⟩ ⟨b1, b2, r0', b3, b4⟩
  rw [a5] at b5; injection b5

theorem gen_route (ext : Ext) (key : Bytes) (hk : sanitize key = key) (f : Format) (ty : Ty)
    (hf : f ≠ .hidden) (v v' : Dyn) (ha : v = .nil ∨ typeOf v = valueTy f ty)
    (hp : Pairing ⟨genTables, ext⟩ f ty v v') :
    Route ⟨genTables, ext⟩ key f ty v v' :=
  route_of_wire ⟨genTables, ext⟩ key hk f ty hf v v' (LineCast.gen_newValue_nil ext f ty)
    (LineCast.newValue_keeps ext f (typed_of_valueTy ha)) hp

def RowLossless (env : Env) (key : Bytes) (f : Format) (ty : Ty) (v : Dyn) : Prop :=
  ∃ v', Route env key f ty v v' ∧ Tables.sameValue v v' = true

theorem row_lossless_covered (ext : Ext) (key : Bytes) (hk : sanitize key = key)
    (f : Format) (ty : Ty) (hc : (f, ty) ∈ covered) (v : Dyn)
    (hty : v = .nil ∨ typeOf v = valueTy f ty)
    (hd : Tables.inDomain f ty v = true) :
    Tables.lossless f ty = true ∧ RowLossless ⟨genTables, ext⟩ key f ty v := by
  obtain ⟨hl, hf⟩ := coveredB_lossless (covered_spec (f, ty) hc)
  obtain ⟨v', hp, hs⟩ := gen_pairing_covered ext f ty (covered_spec (f, ty) hc) v hty hd
  exact ⟨hl, v', gen_route ext key hk f ty hf v v' hty hp, hs⟩

theorem key_utf8 (key : Bytes) (h : Utf8.valid key = true) : sanitize key = key :=
  sanitize_valid key h


/-! ### Lossless pairings outside the list `covered`, as routes -/

section Rows
variable (ext : Ext) (key : Bytes) (hk : sanitize key = key)
include hk

theorem row_string_num (l : Bytes) (hl : JsonWrite.isValidNumber l = true) :
    Route ⟨genTables, ext⟩ key .string .num (.num l) (.num l) ∧
    Tables.sameValue (.num l) (.num l) = true :=
  ⟨gen_route ext key hk _ _ (by decide) _ _ (.inr rfl)
    (pairing_string_num ext l (Pairings.sanitize_validNumber l hl)), sameValue_refl nofun⟩

theorem row_binary_f64 (b : Nat) (hb : b < 2 ^ 64) :
    Route ⟨genTables, ext⟩ key .binary .f64 (.f64 b) (.f64 b) ∧
    Tables.sameValue (.f64 b) (.f64 b) = true :=
  ⟨gen_route ext key hk _ _ (by decide) _ _ (.inr rfl) (pairing_binary_fixed ext (v := .f64 b) rfl rfl hb),
    sameValue_refl nofun⟩

theorem row_binary_f32 (b : Nat) (hb : b < 2 ^ 32) :
    Route ⟨genTables, ext⟩ key .binary .f32 (.f32 b) (.f32 b) ∧
    Tables.sameValue (.f32 b) (.f32 b) = true :=
  ⟨gen_route ext key hk _ _ (by decide) _ _ (.inr rfl) (pairing_binary_fixed ext (v := .f32 b) rfl rfl hb),
    sameValue_refl nofun⟩

theorem row_datetime_time_exact (t : GoTime) (hns : t.nsec = 0)
    (hd : Tables.inDomain .datetime .time (.time t) = true) :
    Route ⟨genTables, ext⟩ key .datetime .time (.time t) (.time t) := by
  obtain ⟨hy0, hy1, h60, hlo, hhi⟩ := Pairings.time_inDomain _ _ t hd
  exact gen_route ext key hk _ _ (by decide) _ _ (.inr rfl)
    (.of (wire_rfc3339 t) ⟨(Pairings.datetime_time ext t hy0 hy1 h60 hlo hhi).1.1,
      (Pairings.datetime_time_exact ext t hns hy0 hy1 h60 hlo hhi).1⟩)

theorem row_text_f64 (b : Nat) (s : Bytes) (hfm : ext.fmtFloat b 64 = some s)
    (hp : ext.parseFloat s 64 = some (some b)) (hs : JsonWrite.isValidNumber s = true) :
    (Route ⟨genTables, ext⟩ key .string .f64 (.f64 b) (.f64 b) ∧
     Route ⟨genTables, ext⟩ key .numeric .f64 (.f64 b) (.f64 b)) ∧
    Tables.sameValue (.f64 b) (.f64 b) = true :=
  ⟨⟨gen_route ext key hk _ _ (by decide) _ _ (.inr rfl) (pairing_text_float ext .f64 b b s hfm hp rfl hs).1,
    gen_route ext key hk _ _ (by decide) _ _ (.inr rfl) (pairing_text_float ext .f64 b b s hfm hp rfl hs).2⟩,
    sameValue_refl nofun⟩

theorem row_text_f32 (b r : Nat) (s : Bytes) (hfm : ext.fmtFloat (Float.f32to64 b) 32 = some s)
    (hp : ext.parseFloat s 32 = some (some r)) (hr : Float.f64to32 r = b)
    (hs : JsonWrite.isValidNumber s = true) :
    (Route ⟨genTables, ext⟩ key .string .f32 (.f32 b) (.f32 b) ∧
     Route ⟨genTables, ext⟩ key .numeric .f32 (.f32 b) (.f32 b)) ∧
    Tables.sameValue (.f32 b) (.f32 b) = true :=
  ⟨⟨gen_route ext key hk _ _ (by decide) _ _ (.inr rfl)
      (pairing_text_float ext .f32 b r s hfm hp hr hs).1,
    gen_route ext key hk _ _ (by decide) _ _ (.inr rfl)
      (pairing_text_float ext .f32 b r s hfm hp hr hs).2⟩, sameValue_refl nofun⟩

end Rows

theorem row_string_num_utf8 (ext : Ext) (key : Bytes) (hk : sanitize key = key) (l : Bytes)
    (hl : Utf8.valid l = true) :
    Route ⟨genTables, ext⟩ key .string .num (.num l) (.num l) ∧
    Tables.sameValue (.num l) (.num l) = true := by
  exact ⟨gen_route ext key hk _ _ (by decide) _ _ (.inr rfl)
    (pairing_string_num ext l (sanitize_valid l hl)), sameValue_refl nofun⟩

/-- `Tables.lossless .string .num` holds, yet the route is not lossless on a literal that is not well-formed
    UTF-8: the json.Number FF is written as the string `"\ufffd"` and read back as the json.Number EF BF BD.
    Hence `Tables.inDomain` asks for well-formed UTF-8 under string (no reader of JSON is ever handed a
    json.Number that is not UTF-8). -/
theorem string_num_not_lossless (ext : Ext) (key : Bytes) (hk : sanitize key = key) :
    Tables.lossless .string .num = true ∧
    sanitize [0xFF] ≠ [0xFF] ∧
    Route ⟨genTables, ext⟩ key .string .num (.num [0xFF]) (.num [0xEF, 0xBF, 0xBD]) ∧
    ∀ v', Route ⟨genTables, ext⟩ key .string .num (.num [0xFF]) v' →
      Tables.sameValue (.num [0xFF]) v' = false := by
  have hs : sanitize [0xFF] = [0xEF, 0xBF, 0xBD] := by
    simp [sanitize, Utf8.seqLen, Utf8.replacement]
  have hr : Route ⟨genTables, ext⟩ key .string .num (.num [0xFF]) (.num [0xEF, 0xBF, 0xBD]) :=
    gen_route ext key hk _ _ (by decide) _ _ (.inr rfl)
      (.of (by have := Wire.str [0xFF]; rwa [hs] at this)
        ⟨(Pairings.string_num ext [0xFF]).1, (Pairings.string_num ext [0xEF, 0xBF, 0xBD]).2⟩)
  refine ⟨by decide, by rw [hs]; decide, hr, fun v' h => ?_⟩
  rw [Route.unique h hr]
  decide


/-! ### Non-vacuity: key "c", numeric(int16), value 300 -/

namespace Demo
open Json

def key : Bytes := [0x63]
def tmpl : Tmpl := withCol [] key .numeric (.int .i16)
def v : Dyn := .int .i16 300
/-- `{"c":300}` -/
def text : Bytes := [0x7B, 0x22, 0x63, 0x22, 0x3A, 0x33, 0x30, 0x30, 0x7D]

theorem create (ext : Ext) : createRow ⟨genTables, ext⟩ tmpl (.gomap (.cons key v .nil)) =
    .ok ([(key, .cell (.int .i16 300) .numeric (.int .i16))], none) := by
  rfl

theorem cell (ext : Ext) :
    exportVal ⟨genTables, ext⟩ (.cell (.int .i16 300) .numeric (.int .i16)) = .ok (.num [0x33, 0x30, 0x30]) ∧
    importCell ⟨genTables, ext⟩ .numeric (.int .i16) (.num [0x33, 0x30, 0x30]) =
      .ok (.cell (.int .i16 300) .numeric (.int .i16), none) :=
  (show IntText.formatInt 300 = [0x33, 0x30, 0x30] by decide +kernel) ▸ numeric_int ext .i16 300 (by decide)

theorem marshal (ext : Ext) :
    marshalRow ⟨genTables, ext⟩ (Members.ofList [(key, .cell (.int .i16 300) .numeric (.int .i16))]) =
      .ok text := by
  rw [LineLevel.marshalRow_col _ key _ (by decide), marshalVal_num (cell ext).1 (by decide)]
  simp only [LineTime.objText, Order.quote_safe key (by decide)]
  rfl

theorem read : Json.unmarshal text = (.cons key (.num [0x33, 0x30, 0x30]) .nil, true) := by
  decide +kernel

theorem route (ext : Ext) : Route ⟨genTables, ext⟩ key .numeric (.int .i16) v v :=
  ⟨_, text, [(key, .cell .nil .numeric (.int .i16))], [(key, .cell (.int .i16 300) .numeric (.int .i16))],
    create ext, marshal ext, by rfl,
    Order.unmarshalInto_of_steps (l := [(key, .num [0x33, 0x30, 0x30])]) read (by rfl)
      (by rw [LineLevel.parseMembers_col, (cell ext).2]),
    by rfl⟩

example (ext : Ext) : Tables.lossless .numeric (.int .i16) = true ∧
    RowLossless ⟨genTables, ext⟩ key .numeric (.int .i16) v :=
  row_lossless_covered ext key (sanitize_of_ascii key (by simp [key])) .numeric (.int .i16) (by decide) v
    (.inr rfl) (by decide)

example (ext : Ext) (v' : Dyn) (h : Route ⟨genTables, ext⟩ key .numeric (.int .i16) v v') :
    v' = .int .i16 300 :=
  Route.unique h (route ext)

end Demo

end Jl.RowRoundTrip

/-! ## N columns: the route of Proofs.RowRoundTripN at the table of covered pairings -/

namespace Jl.RowRoundTripN
open Jl Jl.Value Jl.Template Jl.RowPrint Jl.JsonPrint Jl.JsonQuote Cast
open Jl.RowRoundTrip (Wire valueTy coveredB)

/-- **C13 at row / line level, N columns**: every visible column a covered pairing (`coveredB`), the map's values
    under declared names well-typed and in the property's domain, names `t` does not declare allowed under
    `ExtrasOK`.  What is claimed is spelled out at `RowLosslessN`. -/
theorem lossless_N (ext : Ext) (t : Tmpl) (m : DynMap)
    (hnd : (OMap.keys t).Nodup) (hp : Proto t) (hkeys : ∀ k ∈ visibleKeys t, sanitize k = k)
    (hcov : ∀ k f ty, (k, Val.cell .nil f ty) ∈ t → f ≠ .hidden → coveredB f ty = true)
    (hm : WellTypedMap t m) (hx : ExtrasOK ⟨genTables, ext⟩ t m) :
    (∀ k f ty, (k, Val.cell .nil f ty) ∈ t → f ≠ .hidden → Tables.lossless f ty = true) ∧
    RowLosslessN ⟨genTables, ext⟩ t m :=
  gen_lossless_N_of_cols ext t m hnd hp hkeys (fun k f ty h1 hv =>
    ⟨(RowRoundTrip.coveredB_lossless (hcov k f ty h1 hv)).1,
      RowRoundTrip.gen_pairing_covered ext f ty (hcov k f ty h1 hv)⟩) hm hx

/-! ### Non-vacuity: columns `n` numeric(int16), `s` string, `h` HIDDEN, `b` binary — and
    the map `{b: []byte{1,2,3}, h: 5, n: int16(300), s: "é"}` -/

namespace Demo
open Json

def kn : Bytes := [0x6E]
def ks : Bytes := [0x73]
def kh : Bytes := [0x68]
def kb : Bytes := [0x62]

def tmpl : Tmpl :=
  withCol (withCol (withCol (withCol [] kn .numeric (.int .i16)) ks .string .none) kh .hidden .none)
    kb .binary .none

def eacute : Bytes := [0xC3, 0xA9]

def m : DynMap :=
  .cons kb (.bytes [1, 2, 3]) (.cons kh (.int .int 5) (.cons kn (.int .i16 300)
    (.cons ks (.str eacute) .nil)))

def text : Bytes :=
  [0x7B, 0x22, 0x6E, 0x22, 0x3A, 0x33, 0x30, 0x30, 0x2C,
   0x22, 0x73, 0x22, 0x3A, 0x22, 0xC3, 0xA9, 0x22, 0x2C,
   0x22, 0x62, 0x22, 0x3A, 0x22, 0x41, 0x51, 0x49, 0x44, 0x22, 0x7D]

def created : List (Bytes × Val) :=
  [(kn, .cell (.int .i16 300) .numeric (.int .i16)), (ks, .cell (.str eacute) .string .none),
   (kh, .cell (.int .int 5) .hidden .none), (kb, .cell (.bytes [1, 2, 3]) .binary .none)]

def readRow : List (Bytes × Val) :=
  [(kn, .cell (.int .i16 300) .numeric (.int .i16)), (ks, .cell (.str eacute) .string .none),
   (kh, .cell .nil .hidden .none), (kb, .cell (.bytes [1, 2, 3]) .binary .none)]

theorem create (ext : Ext) : createRow ⟨genTables, ext⟩ tmpl (.gomap m) = .ok (created, none) := by
  rfl

theorem marshal (ext : Ext) : marshalRow ⟨genTables, ext⟩ (Members.ofList created) = .ok text := by
  have hn : marshalVal ⟨genTables, ext⟩ (.cell (.int .i16 300) .numeric (.int .i16)) =
      .ok [0x33, 0x30, 0x30] :=
    RowRoundTrip.marshalVal_num ((by decide +kernel : IntText.formatInt 300 = [0x33, 0x30, 0x30]) ▸
      (RowRoundTrip.numeric_int ext .i16 300 (by decide)).1) (by decide)
  have hs : marshalVal ⟨genTables, ext⟩ (.cell (.str eacute) .string .none) =
      .ok (JsonWrite.quote eacute) :=
    RowRoundTrip.marshalVal_str (CasterFacts.export_single rfl (CasterFacts.toString_str ..) nofun)
  have hb : marshalVal ⟨genTables, ext⟩ (.cell (.bytes [1, 2, 3]) .binary .none) =
      .ok (JsonWrite.quote (Base64.encode [1, 2, 3])) :=
    RowRoundTrip.marshalVal_str (CasterFacts.export_binary (CasterFacts.toBinary_bytes ..) nofun)
  have := marshalRow_eq ⟨genTables, ext⟩ _
    (marshalMembers_cons ⟨genTables, ext⟩ kn _ _ (by decide) hn
      (marshalMembers_cons ⟨genTables, ext⟩ ks _ _ (by decide) hs
        ((marshalMembers_hidden ⟨genTables, ext⟩ kh (.cell (.int .int 5) .hidden .none) _ rfl).trans
          (marshalMembers_cons ⟨genTables, ext⟩ kb _ .nil (by decide) hb (marshalMembers_nil _)))))
  rwa [show (0x7B :: (joinComma _ ++ [0x7D]) : Bytes) = text by decide +kernel] at this

theorem read : Json.unmarshal text =
    (.cons kn (.num [0x33, 0x30, 0x30]) (.cons ks (.str eacute)
      (.cons kb (.str [0x41, 0x51, 0x49, 0x44]) .nil)), true) := by
  decide +kernel

/-- The text is `{"n":300,"s":"é","b":"AQID"}`: declaration order, not the map's (`b, h, n, s`); no `h`. -/
theorem route (ext : Ext) : RouteN ⟨genTables, ext⟩ tmpl (.gomap m) created text readRow :=
  ⟨create ext, marshal ext, tmpl, by rfl, Order.unmarshalInto_of_steps read (by rfl) (by rfl)⟩

theorem line (ext : Ext) : LineRouteN ⟨genTables, ext⟩ tmpl (.gomap m) text readRow := (route ext).line

theorem columns :
    (lookup readRow kn).map Cells.raw = some (.int .i16 300) ∧
    (lookup readRow ks).map Cells.raw = some (.str eacute) ∧
    (lookup readRow kb).map Cells.raw = some (.bytes [1, 2, 3]) ∧
    (lookup readRow kh).map Cells.raw = some .nil ∧
    Tables.sameValue (.int .int 5) .nil = false :=
  ⟨rfl, rfl, rfl, rfl, rfl⟩

theorem tmpl_ok : (OMap.keys tmpl).Nodup ∧ Proto tmpl :=
  ofCols_ok [(kn, .numeric, .int .i16), (ks, .string, .none), (kh, .hidden, .none), (kb, .binary, .none)]

theorem keys_fixed : ∀ k ∈ visibleKeys tmpl, sanitize k = k := by decide +kernel

theorem cols_covered : ∀ k f ty, (k, Val.cell .nil f ty) ∈ tmpl → f ≠ .hidden → coveredB f ty = true :=
  forall_cols (by decide)

theorem declared : ∀ kv ∈ m.toList, kv.1 ∈ OMap.keys tmpl := by
  decide

theorem general_applies (ext : Ext) :
    (∀ k f ty, (k, Val.cell .nil f ty) ∈ tmpl → f ≠ .hidden → Tables.lossless f ty = true) ∧
    RowLosslessN ⟨genTables, ext⟩ tmpl m :=
  lossless_N ext tmpl m tmpl_ok.1 tmpl_ok.2 keys_fixed cols_covered (.of_entries (by decide +kernel))
    (extrasOK_of_declared _ tmpl m declared)

/-- The route `general_applies` gives is the one evaluated (`RouteN.unique`). -/
theorem survive : ColumnsSurvive tmpl m readRow := by
  obtain ⟨_, row, bytes, r, h1, _, _, _, _, h6, _⟩ := general_applies Ext.empty
  obtain ⟨_, _, rfl⟩ := h1.unique (route Ext.empty)
  exact h6

theorem valOf_m : valOf m kn = .int .i16 300 ∧ valOf m ks = .str eacute ∧
    valOf m kb = .bytes [1, 2, 3] ∧ valOf m kh = .int .int 5 :=
  ⟨rfl, rfl, rfl, rfl⟩

example : ∃ v', (lookup readRow kh).map Cells.raw = some v' ∧
    Tables.sameValue (valOf m kh) v' = false :=
  hidden_lost survive kh .none (by decide) (by decide +kernel)

/-! A map with a name the template does not declare (`x`: true), and without `s`, `b`, `h`: `x` is carried
    through as an Auto cell after the declared columns, the absent columns are written `null` and read back nil. -/

def kx : Bytes := [0x78]

def m2 : DynMap := .cons kn (.int .i16 300) (.cons kx (.bool true) .nil)

theorem general_applies_m2 (ext : Ext) :
    ∃ row bytes r, RouteN ⟨genTables, ext⟩ tmpl (.gomap m2) row bytes r ∧
      Order.inputKeys bytes = [kn, ks, kb, kx] ∧ OMap.keys r = [kn, ks, kh, kb, kx] ∧
      ColumnsSurvive tmpl m2 r ∧ valOf m2 ks = .nil := by
  have hx : ExtrasOK ⟨genTables, ext⟩ tmpl m2 :=
    extrasOK_of_scalars _ tmpl m2 (by decide +kernel) (by decide) fun kv h => by
      obtain rfl := List.mem_singleton.mp h
      exact ⟨_, Wire.bool true⟩
  obtain ⟨_, row, bytes, r, h1, _, _, h4, h5, h6, _⟩ :=
    lossless_N ext tmpl m2 tmpl_ok.1 tmpl_ok.2 keys_fixed cols_covered
      (.of_entries (by decide +kernel)) hx
  exact ⟨row, bytes, r, h1, h4.trans (by decide +kernel), h5.trans (by decide +kernel), h6,
    by decide +kernel⟩

end Demo

end Jl.RowRoundTripN
