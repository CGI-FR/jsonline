/-
  Proofs.RoundTrip — C02: untemplated read-then-write (`jlLine env [] [] line`) is lossless and a
  byte-level fixed point, for a line the reader accepts whose objects have unique member names at every
  depth.  The importer's row is `rowOfTree t`, the exporter re-creates exactly that row, the written line
  is `printTree t`, a function of the tree alone, and `printTree t` is read back as `t`.
  The statements hold for every environment: the untemplated path never casts and never prints a float.
  The two facts about the reader that the argument needs (strings are `sanitize`-fixed, number literals
  valid numbers) are no hypotheses: `inv_all`, an instance of `JsonAcc.parse_ind`, proves them of whatever
  the parser assembles.
-/
import Model.Template
import Proofs.JsonLexical
import Proofs.JsonAccept
import Proofs.JsonPrint
import Proofs.Row
import Proofs.Walk
import Proofs.Order
import Model.CastGen

namespace Jl.RoundTrip
open Jl Jl.Value Jl.Template Jl.RowPrint Jl.JsonPrint Jl.JsonQuote Jl.JsonLex Json

/-! ### Unique member names at every depth -/

def hasKey (k : Bytes) : JVMembers → Bool
  | .nil => false
  | .cons k' _ ms => decide (k' = k) || hasKey k ms

mutual
  def uniqueV : JV → Bool
    | .null => true
    | .bool _ => true
    | .num _ => true
    | .str _ => true
    | .arr xs => uniqueL xs
    | .obj ms => uniqueM ms
  def uniqueL : JVList → Bool
    | .nil => true
    | .cons x xs => uniqueV x && uniqueL xs
  def uniqueM : JVMembers → Bool
    | .nil => true
    | .cons k v ms => !hasKey k ms && uniqueV v && uniqueM ms
end

/-- No member name occurs twice in an object, at every depth (objects inside arrays included). -/
def UniqueKeys (t : JVMembers) : Prop := uniqueM t = true

instance (t : JVMembers) : Decidable (UniqueKeys t) := by unfold UniqueKeys; infer_instance

/-! ### The row of a tree -/

mutual
  /-- What `handledelim` returns for a parsed value whose objects have unique names. -/
  def dynOf : JV → Dyn
    | .null => .nil
    | .bool b => .bool b
    | .num l => .num l
    | .str s => .str s
    | .arr xs => .arr (dynListOf xs)
    | .obj ms => .val (.row (membersOf ms))
  def dynListOf : JVList → DynList
    | .nil => .nil
    | .cons x xs => .cons (dynOf x) (dynListOf xs)
  def membersOf : JVMembers → Members
    | .nil => .nil
    | .cons k v ms => .cons k (.cell (dynOf v) .auto .none) (membersOf ms)
end

theorem dynOf_not_cell (v : JV) (r : Dyn) (f : Format) (t : Ty) : dynOf v ≠ .val (.cell r f t) := by
  cases v <;> nofun

/-- The row of `t`: every member an Auto cell; an object under an object is an Auto cell wrapping a row,
    an object inside an array a bare `.val (.row …)`. -/
def rowOfTree (t : JVMembers) : List (Bytes × Val) := (membersOf t).toList

theorem rowOfTree_nil : rowOfTree .nil = [] := rfl

theorem rowOfTree_cons (k : Bytes) (v : JV) (ms : JVMembers) :
    rowOfTree (.cons k v ms) = (k, .cell (dynOf v) .auto .none) :: rowOfTree ms := by
  simp [rowOfTree, membersOf, Members.toList]

theorem DynList.ofList_toList : ∀ xs : DynList, DynList.ofList xs.toList = xs
  | .nil => rfl
  | .cons x xs => by simp [DynList.toList, DynList.ofList, DynList.ofList_toList xs]

theorem ofList_rowOfTree (t : JVMembers) : Members.ofList (rowOfTree t) = membersOf t :=
  Members.ofList_toList _

/-- The member list `parseobject` hands to the row, one pair per member in text order. -/
def pairsOf : JVMembers → List (Bytes × Dyn)
  | .nil => []
  | .cons k v ms => (k, dynOf v) :: pairsOf ms

theorem pairsOf_eq_map : ∀ t : JVMembers, pairsOf t = t.toList.map fun kv => (kv.1, dynOf kv.2)
  | .nil => rfl
  | .cons k v ms => by rw [pairsOf, pairsOf_eq_map ms]; rfl

theorem rowOfTree_eq_map : ∀ t : JVMembers,
    rowOfTree t = (pairsOf t).map fun kx => (kx.1, Cells.autoCell kx.2)
  | .nil => rfl
  | .cons k v ms => by rw [rowOfTree_cons, pairsOf, List.map_cons, rowOfTree_eq_map ms]; rfl

theorem keys_pairsOf_mem {k : Bytes} {ms : JVMembers} (h : k ∈ (pairsOf ms).map Prod.fst) :
    hasKey k ms = true := by
  fun_induction hasKey k ms with
  | case1 => simp [pairsOf] at h
  | case2 k' v ms ih =>
    simp only [pairsOf, List.map_cons, List.mem_cons] at h
    simp only [Bool.or_eq_true, decide_eq_true_eq]
    exact h.imp Eq.symm ih

theorem nodup_keys_pairsOf {ms : JVMembers} (h : uniqueM ms = true) :
    ((pairsOf ms).map Prod.fst).Nodup := by
  fun_induction pairsOf ms
  · simp
  · rename_i k v ms ih
    simp only [uniqueM, Bool.and_eq_true, Bool.not_eq_true'] at h
    exact List.nodup_cons.2 ⟨fun hm => by simp [keys_pairsOf_mem hm] at h, ih h.2⟩

theorem keys_pairsOf : ∀ t : JVMembers, (pairsOf t).map Prod.fst = t.toList.map Prod.fst
  | .nil => rfl
  | .cons k v ms => by simp [pairsOf, JVMembers.toList, keys_pairsOf ms]

theorem UniqueKeys.top {t : JVMembers} (h : UniqueKeys t) : (t.toList.map Prod.fst).Nodup := by
  rw [← keys_pairsOf]; exact nodup_keys_pairsOf h

/-! ### Filling an empty row with fresh names appends Auto cells -/

/-- Both fillings of the empty row (the reader's and the exporter's) are a `walk` over fresh names. -/
theorem walk_tree {step : WalkStep Val Dyn ErrClass} (ms : JVMembers) (h : uniqueM ms = true)
    (hs : ∀ x, step none x = .ok (Cells.autoCell x, none)) :
    walk step [] (pairsOf ms) = .ok (rowOfTree ms, none) := by
  rw [walk.fresh _ [] (fun _ _ => hs _) (fun _ _ => rfl) (nodup_keys_pairsOf h), rowOfTree_eq_map]
  rfl

theorem parseMembers_tree (env : Env) (ms : JVMembers) (h : uniqueM ms = true) :
    parseMembers env [] (pairsOf ms) = .ok (rowOfTree ms, none) :=
  (parseMembers_eq_walk env _ []).trans (walk_tree ms h fun _ => rfl)

/-! ### What `handledelim` builds for a tree with unique names -/

mutual
  theorem ofJV_ok (env : Env) : ∀ v : JV, uniqueV v = true → ofJV env v = .ok (dynOf v)
    | .null, _ => rfl
    | .bool _, _ => rfl
    | .num _, _ => rfl
    | .str _, _ => rfl
    | .arr xs, h => by
      simp only [uniqueV] at h
      simp only [ofJV, ofJVList_ok env xs h, dynOf, DynList.ofList_toList]
    | .obj ms, h => by
      simp only [uniqueV] at h
      simp only [ofJV, ofJVMembers_ok env ms h, parseMembers_tree env ms h, dynOf,
        ofList_rowOfTree]
  theorem ofJVList_ok (env : Env) : ∀ xs : JVList, uniqueL xs = true →
      ofJVList env xs = .ok (dynListOf xs).toList
    | .nil, _ => rfl
    | .cons x xs, h => by
      simp only [uniqueL, Bool.and_eq_true] at h
      simp only [ofJVList, ofJV_ok env x h.1, ofJVList_ok env xs h.2, dynListOf, DynList.toList]
  theorem ofJVMembers_ok (env : Env) : ∀ ms : JVMembers, uniqueM ms = true →
      ofJVMembers env ms = .ok (pairsOf ms)
    | .nil, _ => rfl
    | .cons k v ms, h => by
      simp only [uniqueM, Bool.and_eq_true] at h
      simp only [ofJVMembers, ofJV_ok env v h.1.2, ofJVMembers_ok env ms h.2, pairsOf]
end

/-- Without `UniqueKeys` a repeated name is imported into the cell of its first occurrence instead of
    appended: `C02.unique_names_needed`, `Dup.dup_imports_first`. -/
theorem row_of_tree (env : Env) (line : Bytes) (t : JVMembers)
    (hread : Json.unmarshal line = (t, true)) (hu : UniqueKeys t) :
    getRow env [] line = .ok (rowOfTree t, none) :=
  Order.getRow_of_steps rfl hread (ofJVMembers_ok env t hu) (parseMembers_tree env t hu)

/-! ### The exporter re-creates the same row -/

theorem raw_pairs (t : JVMembers) :
    ((rowOfTree t).map fun (k, c) => (k, Cells.raw c)) = pairsOf t := by
  simp [rowOfTree_eq_map, Cells.autoCell, Cells.raw, Function.comp_def]

/-- Every member is stored again as an Auto cell holding the source cell's raw value; an Auto cell
    wrapping a row hands over the row itself, so nested objects keep their member order. -/
theorem exporter_recreates_row (env : Env) (t : JVMembers) (hu : UniqueKeys t) :
    createRow env [] (.val (.row (Members.ofList (rowOfTree t)))) = .ok (rowOfTree t, none) := by
  have h := fillPairs_walk.2 (walk_tree (step := fillStep env) t hu fun _ => rfl)
  rw [← raw_pairs] at h
  exact Order.createRow_row_of_steps rfl h

/-! ### Printing is a function of the tree -/

mutual
  /-- The text the writer produces for (the row of) a tree: a function of the tree alone. -/
  def printV : JV → Bytes
    | .null => RowPrint.null
    | .bool b => if b then tru else fls
    | .num l => l
    | .str s => JsonWrite.quote s
    | .arr xs => 0x5B :: (joinComma (printL xs) ++ [0x5D])
    | .obj ms => 0x7B :: (joinComma (printM ms) ++ [0x7D])
  def printL : JVList → List Bytes
    | .nil => []
    | .cons x xs => printV x :: printL xs
  def printM : JVMembers → List Bytes
    | .nil => []
    | .cons k v ms => (JsonWrite.quote k ++ 0x3A :: printV v) :: printM ms
end

def printTree (t : JVMembers) : Bytes := 0x7B :: (joinComma (printM t) ++ [0x7D])

/- `P` holds of every string and member name, `Q` of every number literal, at every depth. -/
mutual
  def AllV (P Q : Bytes → Prop) : JV → Prop
    | .null => True
    | .bool _ => True
    | .num l => Q l
    | .str s => P s
    | .arr xs => AllL P Q xs
    | .obj ms => AllM P Q ms
  def AllL (P Q : Bytes → Prop) : JVList → Prop
    | .nil => True
    | .cons x xs => AllV P Q x ∧ AllL P Q xs
  def AllM (P Q : Bytes → Prop) : JVMembers → Prop
    | .nil => True
    | .cons k v ms => P k ∧ AllV P Q v ∧ AllM P Q ms
end

/-- Every string and member name is well-formed UTF-8 after the reader's own U+FFFD replacements. -/
def ReaderStrings (t : JVMembers) : Prop := AllM (fun s => sanitize s = s) (fun _ => True) t

/-- What `json.Number` must be to be marshalled verbatim. -/
def ReaderNumbers (t : JVMembers) : Prop :=
  AllM (fun _ => True) (fun l => JsonWrite.isValidNumber l = true) t

def StrOK (s : Bytes) : Prop := sanitize s = s
def NumOK (l : Bytes) : Prop := JsonWrite.isValidNumber l = true
/-- `ReaderStrings` and `ReaderNumbers` at once: the form the proofs carry. -/
def ReaderTree (t : JVMembers) : Prop := AllM StrOK NumOK t

mutual
  theorem allV_mono {P Q P' Q' : Bytes → Prop} (hP : ∀ s, P s → P' s) (hQ : ∀ s, Q s → Q' s) :
      ∀ v, AllV P Q v → AllV P' Q' v
    | .null, _ => trivial
    | .bool _, _ => trivial
    | .num l, h => hQ l h
    | .str s, h => hP s h
    | .arr xs, h => allL_mono hP hQ xs h
    | .obj ms, h => allM_mono hP hQ ms h
  theorem allL_mono {P Q P' Q' : Bytes → Prop} (hP : ∀ s, P s → P' s) (hQ : ∀ s, Q s → Q' s) :
      ∀ xs, AllL P Q xs → AllL P' Q' xs
    | .nil, _ => trivial
    | .cons x xs, h => ⟨allV_mono hP hQ x h.1, allL_mono hP hQ xs h.2⟩
  theorem allM_mono {P Q P' Q' : Bytes → Prop} (hP : ∀ s, P s → P' s) (hQ : ∀ s, Q s → Q' s) :
      ∀ ms, AllM P Q ms → AllM P' Q' ms
    | .nil, _ => trivial
    | .cons k v ms, h => ⟨hP k h.1, allV_mono hP hQ v h.2.1, allM_mono hP hQ ms h.2.2⟩
end

mutual
  theorem allV_and {P Q P' Q' : Bytes → Prop} :
      ∀ v, AllV P Q v → AllV P' Q' v → AllV (fun s => P s ∧ P' s) (fun s => Q s ∧ Q' s) v
    | .null, _, _ => trivial
    | .bool _, _, _ => trivial
    | .num _, h, h' => ⟨h, h'⟩
    | .str _, h, h' => ⟨h, h'⟩
    | .arr xs, h, h' => allL_and xs h h'
    | .obj ms, h, h' => allM_and ms h h'
  theorem allL_and {P Q P' Q' : Bytes → Prop} :
      ∀ xs, AllL P Q xs → AllL P' Q' xs → AllL (fun s => P s ∧ P' s) (fun s => Q s ∧ Q' s) xs
    | .nil, _, _ => trivial
    | .cons x xs, h, h' => ⟨allV_and x h.1 h'.1, allL_and xs h.2 h'.2⟩
  theorem allM_and {P Q P' Q' : Bytes → Prop} :
      ∀ ms, AllM P Q ms → AllM P' Q' ms → AllM (fun s => P s ∧ P' s) (fun s => Q s ∧ Q' s) ms
    | .nil, _, _ => trivial
    | .cons _ v ms, h, h' => ⟨⟨h.1, h'.1⟩, allV_and v h.2.1 h'.2.1, allM_and ms h.2.2 h'.2.2⟩
end

/- Whatever the environment (no cast, no float).  `Pk`, the condition on names and strings, is free, so
   that `ReaderNumbers` and `ReaderTree` both fit. -/
mutual
  theorem marshalDyn_dynOf (env : Env) (Pk : Bytes → Prop) :
      ∀ v : JV, AllV Pk NumOK v → marshalDyn env (dynOf v) = .ok (printV v)
    | .null, _ => marshalDyn_nil env
    | .bool b, _ => marshalDyn_bool env b
    | .num _, h => marshalDyn_num env h
    | .str s, _ => marshalDyn_str env s
    | .arr xs, h => marshalDyn_arr env _ (marshalList_dynOf env Pk xs h)
    | .obj ms, h => (marshalDyn_val env _).trans (marshalRow_eq env _ (marshalMembers_membersOf env Pk ms h))
  theorem marshalList_dynOf (env : Env) (Pk : Bytes → Prop) :
      ∀ xs : JVList, AllL Pk NumOK xs → marshalList env (dynListOf xs) = .ok (printL xs)
    | .nil, _ => marshalList_nil env
    | .cons x xs, h =>
      marshalList_cons env _ _ (marshalDyn_dynOf env Pk x h.1) (marshalList_dynOf env Pk xs h.2)
  theorem marshalMembers_membersOf (env : Env) (Pk : Bytes → Prop) :
      ∀ ms : JVMembers, AllM Pk NumOK ms → marshalMembers env (membersOf ms) = .ok (printM ms)
    | .nil, _ => marshalMembers_nil env
    | .cons k v ms, h => by
      refine marshalMembers_cons env _ _ _ (by simp [Cells.format]) ?_
        (marshalMembers_membersOf env Pk ms h.2.2)
      rw [marshalVal_auto]
      exact marshalDyn_dynOf env Pk v h.2.1
end

theorem marshalRow_rowOfTree (env : Env) (t : JVMembers) (hn : ReaderNumbers t) :
    marshalRow env (Members.ofList (rowOfTree t)) = .ok (printTree t) := by
  rw [ofList_rowOfTree]
  exact marshalRow_eq env _ (marshalMembers_membersOf env _ t hn)

/-! ### What the reader delivers: strings are `sanitize`-fixed, number literals valid numbers -/

theorem strBody_fixed {bs s r : Bytes} (h : strBody bs = some (s, r)) : sanitize s = s :=
  sanitize_valid s (strBody_valid h)

def TokOK : Tok → Prop
  | .str s => StrOK s
  | .num l => NumOK l
  | _ => True

theorem scanScalar_tokOK {bs r : Bytes} {t : Tok} (h : scanScalar bs = some (t, r)) : TokOK t := by
  rcases scanScalar_inv h with ⟨_, s, _, hs, rfl⟩ | ⟨l, hs, rfl⟩ | ⟨_, rfl⟩ | ⟨_, rfl⟩ | ⟨_, rfl⟩
  · exact strBody_fixed hs
  · exact (isValidNumber_iff_jnumber l).2 (scanNumber_sound hs).1
  all_goals trivial

theorem tokenCore_tokOK {st : TokState} {stack : List TokState} {buf : Bytes} {t : Tok} {d : Dec}
    (h : tokenCore st stack buf = .tok t d) : TokOK t := by
  cases JsonAcc.tokenCore_inv h with
  | lbrack | rbrack | lbrace | rbrace => trivial
  | key _ _ _ _ hs => exact strBody_fixed hs
  | scalar _ _ _ _ hs => exact scanScalar_tokOK hs

theorem token_tokOK {d d' : Dec} {t : Tok} (h : token d = .tok t d') : TokOK t := by
  obtain ⟨_, _, _, _, _, _, _, hb⟩ := JsonAcc.token_inv h TokRes.noConfusion
  exact tokenCore_tokOK hb


/-- The parser only assembles what the tokens carry. -/
theorem inv_all (fuel : Nat) (d : Dec) : AllM StrOK NumOK (parseObject fuel d).1 :=
  (JsonAcc.parse_ind (O := fun _ _ ms _ => AllM StrOK NumOK ms)
    (A := fun _ _ o => ∀ xs d', o = some (xs, d') → AllL StrOK NumOK xs)
    (V := fun _ t _ o => ∀ v d', o = some (v, d') → TokOK t → AllV StrOK NumOK v)
    (fun _ _ => trivial) (fun _ _ _ => trivial) -- o_err, o_stop: no member
    -- o_step: the key and the value's token are `TokOK`, the rest by induction
    (fun _ _ _ _ _ _ _ _ _ _ _ hk ht _ hV hO => ⟨token_tokOK hk, hV _ _ rfl (token_tokOK ht), hO⟩)
    (fun _ _ _ _ h => nomatch h) -- a_err
    (fun _ _ _ _ _ h => by obtain ⟨_, _, e⟩ := Option.map_eq_some_iff.1 h; cases e; trivial) -- a_stop
    (fun _ _ _ _ _ _ _ _ _ ht _ hV hA _ _ h => by cases h; exact ⟨hV _ _ rfl (token_tokOK ht), hA _ _ rfl⟩) -- a_step
    (fun _ _ _ _ _ h => nomatch h) -- v_err
    (fun _ _ _ _ hO _ _ h _ => by cases h; exact hO) -- v_obj
    (fun _ _ _ _ hA _ _ h _ => by cases h; exact hA _ _ rfl) -- v_arr
    -- v_scalar: the value is the token's payload
    (fun _ t _ _ hs _ _ h htok => by cases h; cases t <;> cases hs <;> first | exact htok | trivial)
    fuel).1 d

theorem reader_tree_ok (line : Bytes) : ReaderTree (Json.unmarshal line).1 := by
  unfold Json.unmarshal
  split
  · simp [ReaderTree, AllM]
  · rename_i d _
    have := inv_all (2 * line.length + 2) d
    split <;> simp_all [ReaderTree]

theorem reader_tree_of_read {line : Bytes} {t : JVMembers} {b : Bool}
    (hread : Json.unmarshal line = (t, b)) : ReaderTree t := by
  have := reader_tree_ok line
  rwa [hread] at this

/-- No assumption on the input: the string decoder has already put U+FFFD in place of every ill-formed
    byte. -/
theorem reader_strings {line : Bytes} {t : JVMembers} {b : Bool}
    (hread : Json.unmarshal line = (t, b)) : ReaderStrings t :=
  allM_mono (fun _ h => h) (fun _ _ => trivial) t (reader_tree_of_read hread)

theorem reader_numbers {line : Bytes} {t : JVMembers} {b : Bool}
    (hread : Json.unmarshal line = (t, b)) : ReaderNumbers t :=
  allM_mono (fun _ _ => trivial) (fun _ h => h) t (reader_tree_of_read hread)

/-! ### The printed tree of the re-created row -/

/- What reading back the print of `rowOfTree t` gives for an arbitrary tree `t`: strings and
   names after `sanitize`, an empty number literal as `0`.  The identity on reader trees. -/
mutual
  def canonV : JV → JV
    | .null => .null
    | .bool b => .bool b
    | .num l => .num (numText l)
    | .str s => .str (sanitize s)
    | .arr xs => .arr (canonL xs)
    | .obj ms => .obj (canon ms)
  def canonL : JVList → JVList
    | .nil => .nil
    | .cons x xs => .cons (canonV x) (canonL xs)
  def canon : JVMembers → JVMembers
    | .nil => .nil
    | .cons k v ms => .cons (sanitize k) (canonV v) (canon ms)
end

theorem treeVal_auto (env : Env) (raw : Dyn) :
    treeVal env (.cell raw .auto .none) = treeExported raw (treeDyn env raw) :=
  treeVal_cell (exportVal_auto env raw .none)

mutual
  theorem treeDyn_dynOf (env : Env) : ∀ v : JV, treeDyn env (dynOf v) = canonV v
    | .null => rfl
    | .bool _ => rfl
    | .num _ => rfl
    | .str _ => rfl
    | .arr xs => by simp only [dynOf, treeDyn, canonV, treeList_dynListOf env xs]
    | .obj ms => by simp only [dynOf, treeDyn, treeVal, canonV, treeMembers_membersOf env ms]
  theorem treeList_dynListOf (env : Env) : ∀ xs : JVList, treeList env (dynListOf xs) = canonL xs
    | .nil => rfl
    | .cons x xs => by
      simp only [dynListOf, treeList, canonL, treeDyn_dynOf env x, treeList_dynListOf env xs]
  theorem treeMembers_membersOf (env : Env) : ∀ ms : JVMembers,
      treeMembers env (membersOf ms) = canon ms
    | .nil => rfl
    | .cons k v ms => by
      have hv : treeExported (dynOf v) (treeDyn env (dynOf v)) = canonV v :=
        (treeExported_self env _).trans (treeDyn_dynOf env v)
      simp only [membersOf, treeMembers, Cells.format, treeVal_auto, hv,
        treeMembers_membersOf env ms, canon]
      simp
end

mutual
  theorem canonV_id : ∀ v : JV, AllV StrOK NumOK v → canonV v = v
    | .null, _ => rfl
    | .bool _, _ => rfl
    | .num l, h => by
      simp only [AllV, NumOK] at h
      obtain ⟨c, tl, rfl, _⟩ := validNumber_head h
      simp [canonV, numText]
    | .str s, h => by simp only [AllV, StrOK] at h; simp only [canonV, h]
    | .arr xs, h => by simp only [AllV] at h; simp only [canonV, canonL_id xs h]
    | .obj ms, h => by simp only [AllV] at h; simp only [canonV, canon_id ms h]
  theorem canonL_id : ∀ xs : JVList, AllL StrOK NumOK xs → canonL xs = xs
    | .nil, _ => rfl
    | .cons x xs, h => by
      simp only [AllL] at h; simp only [canonL, canonV_id x h.1, canonL_id xs h.2]
  theorem canon_id : ∀ ms : JVMembers, AllM StrOK NumOK ms → canon ms = ms
    | .nil, _ => rfl
    | .cons k v ms, h => by
      simp only [AllM, StrOK] at h
      simp only [canon, h.1, canonV_id v h.2.1, canon_id ms h.2.2]
end

/-- An environment whose float speller never answers: `FloatTextOK` holds of it vacuously, and no
    tree of the reader holds a float. -/
def quietEnv : Env := ⟨genTables, Ext.empty⟩

theorem quietEnv_ok : FloatTextOK quietEnv.ext := fun _ _ _ h => by cases h

/- The text printed for a tree is read back as that tree: printing a tree is printing its row
   (`marshalDyn_dynOf`), whose expected tree is the tree itself (`treeDyn_dynOf`, `canonV_id`). -/
theorem readsAs_printV : ∀ v : JV, AllV StrOK NumOK v → ReadsAs (printV v) v := fun v h => by
  have := marshalDyn_tree quietEnv quietEnv_ok _ _ (marshalDyn_dynOf quietEnv _ v h)
  rwa [treeDyn_dynOf, canonV_id v h] at this

theorem readsList_printL : ∀ xs : JVList, AllL StrOK NumOK xs → ReadsList (printL xs) xs :=
    fun xs h => by
  have := marshalList_tree quietEnv quietEnv_ok _ _ (marshalList_dynOf quietEnv _ xs h)
  rwa [treeList_dynListOf, canonL_id xs h] at this

theorem readsMembers_printM (ms : JVMembers) (h : AllM StrOK NumOK ms) :
    ReadsMembers (printM ms) ms := by
  have := (marshalMembers_prints quietEnv quietEnv_ok _ _ (marshalMembers_membersOf quietEnv _ ms h)).1
  rwa [treeMembers_membersOf, canon_id ms h] at this

theorem unmarshal_printTree (t : JVMembers) (h : ReaderTree t) :
    Json.unmarshal (printTree t) = (t, true) :=
  unmarshal_object (readsMembers_printM t h)

/-- `JsonPrint.treeMembers` is the tree that `unmarshal_marshalRow` says the reader delivers for the
    printed row. -/
theorem exporter_keeps_tree (env : Env) (line : Bytes) (t : JVMembers)
    (hread : Json.unmarshal line = (t, true)) (hu : UniqueKeys t) :
    ∃ row', createRow env [] (.val (.row (Members.ofList (rowOfTree t)))) = .ok (row', none) ∧
      treeMembers env (Members.ofList row') = t :=
  ⟨rowOfTree t, exporter_recreates_row env t hu, by
    rw [ofList_rowOfTree, treeMembers_membersOf, canon_id t (reader_tree_of_read hread)]⟩

/-! ### Main theorems -/

theorem jlLine_untemplated (env : Env) (line : Bytes) (t : JVMembers)
    (hread : Json.unmarshal line = (t, true)) (hu : UniqueKeys t) :
    jlLine env [] [] line = .ok (printTree t ++ [0x0A], none) :=
  Order.jlLine_of_steps (row_of_tree env line t hread hu) (exporter_recreates_row env t hu)
    (marshalRow_rowOfTree env t (reader_numbers hread))

/-- Lossless: the written line denotes the same ordered tree, that is the same members in the same order
    at every depth, strings decoded to the same text, number literals verbatim. -/
theorem lossless (env : Env) (line : Bytes) (t : JVMembers)
    (hread : Json.unmarshal line = (t, true)) (hu : UniqueKeys t) :
    ∃ out, jlLine env [] [] line = .ok (out ++ [0x0A], none) ∧ Json.unmarshal out = (t, true) :=
  ⟨printTree t, jlLine_untemplated env line t hread hu,
    unmarshal_printTree t (reader_tree_of_read hread)⟩

/-- Fixed point.  Feeding the output back yields byte-identical output. -/
theorem fixed_point (env : Env) (line : Bytes) (t : JVMembers)
    (hread : Json.unmarshal line = (t, true)) (hu : UniqueKeys t) :
    ∃ out, jlLine env [] [] line = .ok (out ++ [0x0A], none) ∧
      jlLine env [] [] out = .ok (out ++ [0x0A], none) :=
  ⟨printTree t, jlLine_untemplated env line t hread hu,
    jlLine_untemplated env (printTree t) t (unmarshal_printTree t (reader_tree_of_read hread)) hu⟩

/-! ### Non-vacuity: a concrete line through every theorem -/

namespace Demo

/-- `{ "z" : {"b":1E+2, "a":"x\n\u00e9y"}, "l":[{"q":null,"p":true},-0.5e-3] }` -/
def line : Bytes :=
  [
   0x7B, 0x20, 0x22, 0x7A, 0x22, 0x20, 0x3A, 0x20, 0x7B, 0x22, 0x62, 0x22, 0x3A, 0x31, 0x45, 0x2B,
   0x32, 0x2C, 0x20, 0x22, 0x61, 0x22, 0x3A, 0x22, 0x78, 0x5C, 0x6E, 0x5C, 0x75, 0x30, 0x30, 0x65,
   0x39, 0x79, 0x22, 0x7D, 0x2C, 0x20, 0x22, 0x6C, 0x22, 0x3A, 0x5B, 0x7B, 0x22, 0x71, 0x22, 0x3A,
   0x6E, 0x75, 0x6C, 0x6C, 0x2C, 0x22, 0x70, 0x22, 0x3A, 0x74, 0x72, 0x75, 0x65, 0x7D, 0x2C, 0x2D,
   0x30, 0x2E, 0x35, 0x65, 0x2D, 0x33, 0x5D, 0x20, 0x7D]

def tree : JVMembers :=
  .cons [0x7A] (.obj
      (.cons [0x62] (.num [0x31, 0x45, 0x2B, 0x32])
      (.cons [0x61] (.str [0x78, 0x0A, 0xC3, 0xA9, 0x79]) .nil)))
  (.cons [0x6C] (.arr
      (.cons (.obj (.cons [0x71] .null (.cons [0x70] (.bool true) .nil)))
      (.cons (.num [0x2D, 0x30, 0x2E, 0x35, 0x65, 0x2D, 0x33]) .nil)))
  .nil)

/-- `{"z":{"b":1E+2,"a":"x\néy"},"l":[{"q":null,"p":true},-0.5e-3]}` -/
def out : Bytes :=
  [
   0x7B, 0x22, 0x7A, 0x22, 0x3A, 0x7B, 0x22, 0x62, 0x22, 0x3A, 0x31, 0x45, 0x2B, 0x32, 0x2C, 0x22,
   0x61, 0x22, 0x3A, 0x22, 0x78, 0x5C, 0x6E, 0xC3, 0xA9, 0x79, 0x22, 0x7D, 0x2C, 0x22, 0x6C, 0x22,
   0x3A, 0x5B, 0x7B, 0x22, 0x71, 0x22, 0x3A, 0x6E, 0x75, 0x6C, 0x6C, 0x2C, 0x22, 0x70, 0x22, 0x3A,
   0x74, 0x72, 0x75, 0x65, 0x7D, 0x2C, 0x2D, 0x30, 0x2E, 0x35, 0x65, 0x2D, 0x33, 0x5D, 0x7D]

/- `strBody` is defined by well-founded recursion, which `rfl` evaluates only under
   `with_unfolding_all` (still kernel-checked). -/
theorem read_line : Json.unmarshal line = (tree, true) := by with_unfolding_all rfl

theorem unique_tree : UniqueKeys tree := by decide

/-- The members of the nested object are not in alphabetical order (`b` before `a`, and `z`
    before `l` at top level): an alphabetically sorted writer would not give `out`. -/
theorem print_tree : printTree tree = out := by decide +kernel

theorem reader_strings_tree : ReaderStrings tree := reader_strings read_line
theorem reader_numbers_tree : ReaderNumbers tree := reader_numbers read_line

theorem roundtrip (env : Env) :
    jlLine env [] [] line = .ok (out ++ [0x0A], none) ∧
    Json.unmarshal out = (tree, true) ∧
    jlLine env [] [] out = .ok (out ++ [0x0A], none) := by
  have h1 := jlLine_untemplated env line tree read_line unique_tree
  have h2 := unmarshal_printTree tree (reader_tree_of_read read_line)
  rw [print_tree] at h1 h2
  exact ⟨h1, h2, by simpa [print_tree] using jlLine_untemplated env out tree h2 unique_tree⟩

/-- The imported row, spelled out: the nested object under `z` is an Auto cell wrapping a row in
    text order; the object inside the array is a bare row. -/
theorem row_line (env : Env) : getRow env [] line = .ok (
    [([0x7A], .cell (.val (.row
        (.cons [0x62] (.cell (.num [0x31, 0x45, 0x2B, 0x32]) .auto .none)
        (.cons [0x61] (.cell (.str [0x78, 0x0A, 0xC3, 0xA9, 0x79]) .auto .none) .nil)))) .auto .none),
     ([0x6C], .cell (.arr
        (.cons (.val (.row (.cons [0x71] (.cell .nil .auto .none)
                           (.cons [0x70] (.cell (.bool true) .auto .none) .nil))))
        (.cons (.num [0x2D, 0x30, 0x2E, 0x35, 0x65, 0x2D, 0x33]) .nil))) .auto .none)], none) := by
  rw [row_of_tree env line tree read_line unique_tree]
  simp [rowOfTree, tree, membersOf, dynOf, dynListOf, Members.toList]

end Demo
/-! ### Why `UniqueKeys` is needed -/

theorem keys_rowOfTree (t : JVMembers) : OMap.keys (rowOfTree t) = (pairsOf t).map Prod.fst := by
  rw [rowOfTree_eq_map, OMap.keys, List.map_map]
  rfl

namespace Dup

/-- `{"a":1,"a":2}` -/
def line : Bytes := [0x7B, 0x22, 0x61, 0x22, 0x3A, 0x31, 0x2C, 0x22, 0x61, 0x22, 0x3A, 0x32, 0x7D]

def tree : JVMembers := .cons [0x61] (.num [0x31]) (.cons [0x61] (.num [0x32]) .nil)

theorem read_line : Json.unmarshal line = (tree, true) := by with_unfolding_all rfl

theorem not_unique : ¬ UniqueKeys tree := by decide

/-- `cast.To(nil, v) = v` over the generated dispatch table (only its row for a nil target is
    looked at, so that this file does not depend on the whole-table check of `Proofs.CastTyped`). -/
theorem gen_castTo_none (ext : Ext) (v : Dyn) : Cast.castTo genTables ext .none v = .ok v := by
  simp [Cast.castTo, genTables, Gen.dispatchTo, Cast.evalBranch, Cast.evalE]

/-- A repeated name is imported into the cell of its first occurrence: one member, holding the last
    value; the written line is `{"a":2}`, not the input's tree. -/
theorem dup_imports_first (ext : Ext) :
    getRow ⟨genTables, ext⟩ [] line = .ok ([([0x61], .cell (.num [0x32]) .auto .none)], none) := by
  simp [getRow, createRowEmpty, cloneRow, cloneInto, unmarshalInto, read_line, tree, ofJVMembers, ofJV,
    parseMembers, parseMember, importVal, importInto, importCell, importByFormat, lookup, upsert,
    OMap.lookup, OMap.upsert, Cells.autoCell, gen_castTo_none]

end Dup

end Jl.RoundTrip
