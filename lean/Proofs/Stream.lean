/-
  Proofs.Stream — C08 (failures are reported) and C07 (one outcome per line) on the model of
  `Stream()`'s loop (Model.Stream), over the scanner facts of Proofs.Scanner.  C08 is read off `RunInv`,
  proved by one induction along the branches of `loop` (`run_inv`).
-/
import Model.Stream
import Proofs.Scanner
import Proofs.Bind

namespace Jl.Stream
open Jl Jl.Value Jl.Template Jl.Scanner

/-! ### Appending to the observation -/

def addw (obs : Obs) (w : Option Bytes) : Obs :=
  match w with
  | some b => { obs with writes := obs.writes ++ [b] }
  | none => obs

@[simp] theorem addw_ret (obs : Obs) (w : Option Bytes) : (addw obs w).ret = obs.ret := by
  cases w <;> rfl
@[simp] theorem addw_calls (obs : Obs) (w : Option Bytes) : (addw obs w).calls = obs.calls := by
  cases w <;> rfl
@[simp] theorem addw_writes (obs : Obs) (w : Option Bytes) : (addw obs w).writes = obs.writes ++ w.toList := by
  cases w <;> simp [addw]

def addc (obs : Obs) (c : Bool × Option ErrClass) : Obs := { obs with calls := obs.calls ++ [c] }

@[simp] theorem addc_ret (obs : Obs) (c) : (addc obs c).ret = obs.ret := rfl
@[simp] theorem addc_calls (obs : Obs) (c) : (addc obs c).calls = obs.calls ++ [c] := rfl
@[simp] theorem addc_writes (obs : Obs) (c) : (addc obs c).writes = obs.writes := rfl

/-! ### C08: what every run of the loop satisfies, whatever reader, writer and processor do -/

/-- The hypotheses under which the fuel the loop gives `scan` (`scanFuel`) is provably sufficient.  `cap`: one
    `scan` call needs about `2 * script.length` iterations plus one per buffer doubling, so at most 200 doublings
    may separate the buffer from the limit (the library: 64 KiB → 10 MiB, 8 doublings).  Without it `scan`
    could run out of fuel, which `loop` cannot tell from a clean end. -/
structure Ready (cfg : Cfg) (st : St) : Prop where
  done : st.done = false
  wf : WF st
  cap : cfg.maxSize ≤ st.cap * 2 ^ 200

theorem Ready.scan {cfg : Cfg} {st st1 : St} {t : Option Bytes} (h : Ready cfg st)
    (hs : scan cfg.initSize cfg.maxSize (scanFuel st) st = (t, st1)) : Ready cfg st1 := by
  have sf := scan_facts cfg.initSize cfg.maxSize (scanFuel st) st
  rw [hs] at sf
  refine ⟨sf.done.trans h.done, sf.wf h.wf, Nat.le_trans h.cap (Nat.mul_le_mul_right _ sf.cap)⟩

theorem Ready.init (cfg : Cfg) (reader : List ReadEv) (h : cfg.maxSize ≤ cfg.initSize * 2 ^ 200) :
    Ready cfg (Scanner.init cfg.initSize reader) :=
  ⟨rfl, WF_init _ _, h⟩

theorem getLast?_bind_none {l : List (Bool × Option ErrClass)} (h : ∀ c ∈ l, c.2 = none) :
    l.getLast?.bind (·.2) = none := by
  cases hl : l.getLast? with
  | none => rfl
  | some c => exact h c (List.mem_of_getLast? hl)

theorem default_result (cfg : Cfg) (hp : cfg.proc = .default) (n : Nat) (e : Option ErrClass) :
    cfg.proc.result n e = e := by
  rw [hp]; rfl

def writeResult (b : Bytes) : Option WriteEv → Bytes
  | none => b
  | some .ok => b
  | some .fail => []
  | some (.short n) => b.take n

def WriteEv.isFail : WriteEv → Bool
  | .ok => false
  | _ => true

def ExportedLine (cfg : Cfg) (b : Bytes) : Prop :=
  ∃ row, exportLine cfg.env cfg.to (.val (.row (Members.ofList row))) = .ok (b, none)

theorem exportWith_cases {cfg : Cfg} {row : List (Bytes × Val)} {ws ws' : List WriteEv}
    {w : Option Bytes} {oe : Option ErrClass} (h : exportWith cfg row ws = .ok (w, oe, ws')) :
    (w = none ∧ ws' = ws ∧ oe ≠ none) ∨
    (∃ b, ExportedLine cfg b ∧ w = some (writeResult b ws.head?) ∧ ws' = ws.tail ∧
      ((oe = none ∧ ∀ ev, ws.head? = some ev → ev.isFail = false) ∨
       (oe = some .io ∧ ∃ ev, ws.head? = some ev ∧ ev.isFail = true))) := by
  unfold exportWith at h
  split at h
  · cases h
  · cases h
  · cases h; left; exact ⟨rfl, rfl, by simp⟩
  · rename_i b hb
    right
    refine ⟨b, ⟨row, hb⟩, ?_⟩
    split at h
    · cases h; exact ⟨rfl, rfl, .inl ⟨rfl, by simp⟩⟩
    · cases h; exact ⟨rfl, rfl, .inl ⟨rfl, by simp [WriteEv.isFail]⟩⟩
    · cases h; exact ⟨rfl, rfl, .inr ⟨rfl, _, rfl, rfl⟩⟩
    · cases h; exact ⟨rfl, rfl, .inr ⟨rfl, _, rfl, rfl⟩⟩

/-- The writes of `obs` beyond `obs0`, one per entry of the writer script `ws`: a complete exported line, or
    what a failing call took of it; under the default processor a failing write is the last, its I/O error returned. -/
def WritesAfter (cfg : Cfg) (ws : List WriteEv) (obs0 obs : Obs) : Prop :=
  ∃ new, obs.writes = obs0.writes ++ new ∧
    (∀ (i : Nat) (w : Bytes), new[i]? = some w → ∃ b b0, ExportedLine cfg b ∧ b = b0 ++ [0x0A] ∧ w = writeResult b ws[i]?) ∧
    (cfg.proc = .default → ∀ i ev, i < new.length → ws[i]? = some ev → ev.isFail = true →
      i + 1 = new.length ∧ obs.ret = some .io)

theorem WritesAfter.nil {cfg : Cfg} {ws : List WriteEv} {obs0 obs : Obs} (h : obs.writes = obs0.writes) :
    WritesAfter cfg ws obs0 obs :=
  ⟨[], by simp [h], fun i w hw => by simp at hw, fun _ i ev hi => absurd hi (Nat.not_lt_zero _)⟩

theorem WritesAfter.cons {cfg : Cfg} {ws : List WriteEv} {obs0 obs1 obs : Obs} {b : Bytes}
    (h : WritesAfter cfg ws.tail obs1 obs) (hb : ExportedLine cfg b)
    (h1 : obs1.writes = obs0.writes ++ [writeResult b ws.head?])
    (hfail : cfg.proc = .default → ∀ ev, ws.head? = some ev → ev.isFail = true →
      obs.writes = obs1.writes ∧ obs.ret = some .io) : WritesAfter cfg ws obs0 obs := by
  obtain ⟨new, e, hm, hf⟩ := h
  have hget : ∀ i, ws.tail[i]? = ws[i + 1]? := fun i => by cases ws <;> simp
  have hhead : ws.head? = ws[0]? := by cases ws <;> rfl
  refine ⟨writeResult b ws.head? :: new, by rw [e, h1, List.append_assoc]; rfl, fun i w hw => ?_,
    fun hp i ev hi hev hfl => ?_⟩
  · cases i with
    | zero =>
      obtain ⟨row, hrow⟩ := hb
      obtain ⟨-, b0, -, hb0⟩ := (JsonPrint.exportLine_write hrow).1 rfl
      simp only [List.getElem?_cons_zero, Option.some.injEq] at hw
      exact ⟨b, b0, ⟨row, hrow⟩, hb0, by rw [← hw, hhead]⟩
    | succ j => rw [← hget]; exact hm j w (by simpa using hw)
  · cases i with
    | zero =>
      obtain ⟨g1, g2⟩ := hfail hp ev (hhead.trans hev) hfl
      rw [g1] at e
      have : new = [] := by simpa using e
      exact ⟨by simp [this], g2⟩
    | succ j =>
      obtain ⟨g1, g2⟩ := hf hp j ev (by simpa using hi) ((hget j).trans hev) hfl
      exact ⟨by simp [g1], g2⟩

/-- Relative to `obs0`, `obs` has at least as many new `(row, nil)` calls as new writes. -/
def CallsCoverWrites (obs0 obs : Obs) : Prop :=
  obs.writes.length + obs0.calls.count (true, none) ≤ obs0.writes.length + obs.calls.count (true, none)

theorem CallsCoverWrites.trans {a b c : Obs} (h1 : CallsCoverWrites a b) (h2 : CallsCoverWrites b c) :
    CallsCoverWrites a c := by
  unfold CallsCoverWrites at *
  omega

theorem CallsCoverWrites.addc (obs : Obs) (c : Bool × Option ErrClass) :
    CallsCoverWrites obs (addc obs c) := by
  simp only [CallsCoverWrites, addc_writes, addc_calls, List.count_append]
  omega

theorem CallsCoverWrites.row (obs : Obs) (w : Option Bytes) :
    CallsCoverWrites obs (addw (Stream.addc obs (true, none)) w) := by
  cases w <;> simp [CallsCoverWrites, List.count_append] <;> omega

/-- What a run of the loop from `st`, `ws`, `obs0` that ends in `.ok (obs, st')` satisfies.  `ended`: a scanner
    failure reaches the processor; `fatal`: under the default processor every error is fatal; `writes`, `count`:
    what reaches the writer. -/
structure RunInv (cfg : Cfg) (st : St) (ws : List WriteEv) (obs0 obs : Obs) (st' : St) : Prop where
  ended : obs.ret = none →
    (∃ e, errOf st' = some e ∧ obs.calls.getLast? = some (false, some (scanErrClass e))) ∨
    (st'.err = none ∧ (Ready cfg st → st'.eof = true ∧ st'.script = [] ∧ st'.buf = []))
  fatal : cfg.proc = .default → obs0.ret = none → (∀ c ∈ obs0.calls, c.2 = none) →
    (∀ c ∈ obs.calls.dropLast, c.2 = none) ∧ obs.ret = obs.calls.getLast?.bind (·.2)
  writes : WritesAfter cfg ws obs0 obs
  count : CallsCoverWrites obs0 obs

theorem run_inv (cfg : Cfg) (fuel : Nat) (st : St) (ws : List WriteEv) (obs0 obs : Obs) (st' : St)
    (hr : loop cfg fuel st ws obs0 = .ok (obs, st')) : RunInv cfg st ws obs0 obs st' := by
  have row_calls : ∀ {l : List (Bool × Option ErrClass)}, (∀ c ∈ l, c.2 = none) → ∀ c ∈ l ++ [(true, none)], c.2 = none := by
    intro l h0c c hc
    rcases List.mem_append.mp hc with hc | hc
    · exact h0c c hc
    · simp only [List.mem_singleton] at hc; rw [hc]
  -- `ended` of the rest of the run, carried back over the `scan` before it
  have next {st st1 : St} {t ws1 obs1} (hscan : scan cfg.initSize cfg.maxSize (scanFuel st) st = (t, st1))
      (h : RunInv cfg st1 ws1 obs1 obs st') (hret : obs.ret = none) :
      (∃ e, errOf st' = some e ∧ obs.calls.getLast? = some (false, some (scanErrClass e))) ∨
      (st'.err = none ∧ (Ready cfg st → st'.eof = true ∧ st'.script = [] ∧ st'.buf = [])) :=
    (h.ended hret).imp_right fun ⟨a, b⟩ => ⟨a, fun hr => b (hr.scan hscan)⟩
  -- The `let`s of the model come as local definitions (`r`, `obs1` …), an optional write as a `match` on `w`
  -- that `addw` names (hence `cases w <;> exact …`).  The cases closed by `cases hr` are the branches where the
  -- model ends in `.err`/`.panic` (no fuel, or `GetRow` or the export does).
  fun_induction loop cfg fuel st ws obs0 with
  | case1 => cases hr
  -- no token and the scanner failed
  | case2 fuel st ws obs0 st1 hscan e1 herr1 ec r =>
    cases hr
    refine ⟨fun _ => .inl ⟨e1, herr1, by simp [ec]⟩, fun hp _ h0c => ?_, .nil rfl, .addc obs0 _⟩
    simp only [r, List.dropLast_concat, List.getLast?_concat, default_result cfg hp]
    exact ⟨h0c, rfl⟩
  -- no token and no error: end of input
  | case3 fuel st ws obs0 st1 hscan herr1 =>
    cases hr
    refine ⟨fun _ => .inr ⟨herr1, fun hready => ?_⟩, fun _ h0r h0c =>
      ⟨fun c hc => h0c c (List.dropLast_subset _ hc), by rw [h0r, getLast?_bind_none h0c]⟩,
      .nil rfl, Nat.le_refl _⟩
    have hscan : scan cfg.initSize cfg.maxSize (scanFuel st) st = (none, st') := hscan
    have := scan_none_clean cfg.initSize cfg.maxSize (scanFuel st) st 200 hready.done hready.cap
      (loop_fuel_ok st) hready.wf (by rw [hscan]) (by rw [hscan]; exact herr1)
    rwa [hscan] at this
  | case4 | case5 | case8 | case10 | case11 => cases hr
  -- `GetRow` failed and the processor stops the stream
  | case6 fuel st ws obs0 line st1 hscan g fst e hg r obs1 re hp1 =>
    cases hr
    refine ⟨nofun, fun hp _ h0c => ?_, .nil rfl, .addc obs0 _⟩
    have hp1 : cfg.proc.result _ _ = some re := hp1
    rw [default_result cfg hp] at hp1; cases hp1
    simp only [obs1, List.dropLast_concat, List.getLast?_concat]
    exact ⟨h0c, rfl⟩
  -- `GetRow` failed and the processor goes on
  | case7 fuel st ws obs0 line st1 hscan g fst e hg r obs1 hp1 ih =>
    have h := ih hr
    have hp1 : cfg.proc.result _ _ = none := hp1
    exact ⟨next hscan h, (fun hp => by rw [default_result cfg hp] at hp1; cases hp1), h.writes,
      (CallsCoverWrites.addc obs0 _).trans h.count⟩
  -- a row, and the processor stops the stream before it is exported
  | case9 fuel st ws obs0 line st1 hscan g row hg r obs1 re hp1 =>
    cases hr
    have hp1 : cfg.proc.result _ _ = some re := hp1
    exact ⟨nofun, (fun hp => by rw [default_result cfg hp] at hp1; cases hp1), .nil rfl, .addc obs0 _⟩
  -- a row, exported and written without error: the loop goes on
  | case12 fuel st ws obs0 line st1 hscan g row hg r obs1 hp1 w ws' hx obs2 ih =>
    have h : RunInv cfg st1 ws' (addw (addc obs0 (true, none)) w) obs st' := by
      cases w <;> exact ih hr
    refine ⟨next hscan h, fun hp h0r h0c => h.fatal hp (by rw [addw_ret, addc_ret]; exact h0r)
      (by rw [addw_calls, addc_calls]; exact row_calls h0c), ?_, (CallsCoverWrites.row obs0 w).trans h.count⟩
    rcases exportWith_cases hx with ⟨-, -, hne⟩ | ⟨b, hb, rfl, rfl, hoe⟩
    · exact absurd rfl hne
    · refine h.writes.cons hb (by simp) fun _ ev hev hfl => ?_
      rcases hoe with ⟨-, hok⟩ | ⟨h0, -⟩
      · rw [hok ev hev] at hfl; cases hfl
      · cases h0
  -- the export or the write failed, and the processor stops the stream
  | case13 fuel st ws obs0 line st1 hscan g row hg r obs1 hp1 w e ws' hx obs2 r2 obs3 re hp2 =>
    have hobs : obs = { addc (addw (addc obs0 (true, none)) w) (true, some e) with ret := some re } := by
      cases w <;> cases hr <;> rfl
    have hp2 : cfg.proc.result (addw (addc obs0 (true, none)) w).calls.length (some e) = some re := by
      cases w <;> exact hp2
    cases hr
    rw [hobs]
    refine ⟨nofun, fun hp _ h0c => ?_, ?_,
      .trans (.row obs0 w) (.addc (addw (addc obs0 (true, none)) w) (true, some e))⟩
    · rw [default_result cfg hp] at hp2; cases hp2
      simp only [addc_calls, addw_calls, List.dropLast_concat, List.getLast?_concat]
      exact ⟨row_calls h0c, rfl⟩
    · rcases exportWith_cases hx with ⟨rfl, -, -⟩ | ⟨b, hb, rfl, -, hoe⟩
      · exact .nil rfl
      · refine (WritesAfter.nil (obs0 := _) rfl).cons hb (by simp) fun hp ev hev hfl => ⟨rfl, ?_⟩
        rw [default_result cfg hp] at hp2
        cases hp2
        rcases hoe with ⟨h1, -⟩ | ⟨h1, -⟩ <;> cases h1
        rfl
  -- the export or the write failed, and the processor goes on
  | case14 fuel st ws obs0 line st1 hscan g row hg r obs1 hp1 w e ws' hx obs2 r2 obs3 hp2 ih =>
    have h : RunInv cfg st1 ws' (addc (addw (addc obs0 (true, none)) w) (true, some e)) obs st' := by
      cases w <;> exact ih hr
    have hp2 : cfg.proc.result (addw (addc obs0 (true, none)) w).calls.length (some e) = none := by
      cases w <;> exact hp2
    refine ⟨next hscan h, (fun hp => by rw [default_result cfg hp] at hp2; cases hp2), ?_,
      ((CallsCoverWrites.row obs0 w).trans (.addc _ _)).trans h.count⟩
    rcases exportWith_cases hx with ⟨rfl, rfl, -⟩ | ⟨b, hb, rfl, rfl, -⟩
    · exact h.writes
    · exact h.writes.cons hb (by simp) fun hp => by rw [default_result cfg hp] at hp2; cases hp2

/-- A stream that returns nil has told the processor about any scanner failure. -/
theorem C08_scanner_error_reported (cfg : Cfg) (fuel : Nat) (st : St) (ws : List WriteEv) (obs0 obs : Obs)
    (st' : St) (e : ScanErr)
    (h : loop cfg fuel st ws obs0 = .ok (obs, st')) (hret : obs.ret = none) (herr : errOf st' = some e) :
    ∃ c ∈ obs.calls, c.2 = some (scanErrClass e) := by
  rcases (run_inv cfg fuel st ws obs0 obs st' h).ended hret with ⟨e', he', hl⟩ | ⟨hn, -⟩
  · rw [herr] at he'; cases he'
    exact ⟨_, List.mem_of_getLast? hl, rfl⟩
  · rw [show st'.err = some e from herr] at hn; cases hn

/-- `RunInv.ended` with the fuel sufficient: a clean end has consumed the entire input. -/
theorem C08_nil_return (cfg : Cfg) (fuel : Nat) (st : St) (ws : List WriteEv) (obs0 obs : Obs) (st' : St)
    (hready : Ready cfg st)
    (h : loop cfg fuel st ws obs0 = .ok (obs, st')) (hret : obs.ret = none) :
    (∃ e, errOf st' = some e ∧ obs.calls.getLast? = some (false, some (scanErrClass e))) ∨
    (st'.err = none ∧ st'.eof = true ∧ st'.script = [] ∧ st'.buf = []) :=
  ((run_inv cfg fuel st ws obs0 obs st' h).ended hret).imp_right fun ⟨a, b⟩ => ⟨a, b hready⟩

theorem C08_default_fatal (cfg : Cfg) (hp : cfg.proc = .default) (fuel : Nat) (st : St)
    (ws : List WriteEv) (obs : Obs) (st' : St)
    (h : loop cfg fuel st ws ⟨none, [], []⟩ = .ok (obs, st')) :
    (∀ c ∈ obs.calls.dropLast, c.2 = none) ∧ obs.ret = obs.calls.getLast?.bind (·.2) :=
  (run_inv cfg fuel st ws _ obs st' h).fatal hp rfl (by simp)

theorem C08_default_error_returned (cfg : Cfg) (hp : cfg.proc = .default) (fuel : Nat) (st : St)
    (ws : List WriteEv) (obs : Obs) (st' : St)
    (h : loop cfg fuel st ws ⟨none, [], []⟩ = .ok (obs, st'))
    (hc : ∃ c ∈ obs.calls, c.2 ≠ none) : obs.ret ≠ none := by
  obtain ⟨h1, h2⟩ := C08_default_fatal cfg hp fuel st ws obs st' h
  obtain ⟨c, hc, hne⟩ := hc
  rw [h2]
  rcases List.eq_nil_or_concat obs.calls with hnil | ⟨l, a, hl⟩
  · rw [hnil] at hc; cases hc
  · rw [List.concat_eq_append] at hl
    rw [hl] at hc h1 ⊢
    simp only [List.dropLast_concat] at h1
    simp only [List.getLast?_concat, Option.bind_some]
    rcases List.mem_append.mp hc with hc | hc
    · exact absurd (h1 c hc) hne
    · simp only [List.mem_singleton] at hc; rw [← hc]; exact hne



theorem C08_writes_count (cfg : Cfg) (fuel : Nat) (st : St) (ws : List WriteEv) (obs : Obs) (st' : St)
    (h : loop cfg fuel st ws ⟨none, [], []⟩ = .ok (obs, st')) :
    obs.writes.length ≤ obs.calls.count (true, none) := by
  simpa [CallsCoverWrites] using (run_inv cfg fuel st ws _ obs st' h).count


/-! ### C07: one outcome per line, in order, each depending on its line only -/

/-- `stream` is `obsOf ∘ streamSt`. -/
def obsOf : Outcome (Obs × St) → Outcome Obs
  | .ok (obs, _) => .ok obs
  | .err e => .err e
  | .panic s => .panic s

/-- `foldOutcomes` and then the rest of the stream: `k` when the outcomes are exhausted, unless the
    processor has returned an error. -/
def foldThen (proc : Proc) (k : Obs → Outcome Obs) : List LineOutcome → Obs → Outcome Obs
  | [], obs => k obs
  | .importError e :: rest, obs =>
    match proc.result obs.calls.length (some e) with
    | some re => .ok { addc obs (false, some e) with ret := some re }
    | none => foldThen proc k rest (addc obs (false, some e))
  | .written b :: rest, obs =>
    match proc.result obs.calls.length none with
    | some re => .ok { addc obs (true, none) with ret := some re }
    | none => foldThen proc k rest (addw (addc obs (true, none)) (some b))
  | .exportError e :: rest, obs =>
    match proc.result obs.calls.length none with
    | some re => .ok { addc obs (true, none) with ret := some re }
    | none =>
      match proc.result (obs.calls.length + 1) (some e) with
      | some re => .ok { addc (addc obs (true, none)) (true, some e) with ret := some re }
      | none => foldThen proc k rest (addc (addc obs (true, none)) (true, some e))

theorem foldThen_cons (proc : Proc) (k : Obs → Outcome Obs) (o : LineOutcome)
    (os : List LineOutcome) (obs : Obs) :
    foldThen proc k (o :: os) obs = foldThen proc (foldThen proc k os) [o] obs := by
  cases o <;> rfl

theorem foldThen_ok (proc : Proc) (os : List LineOutcome) (obs : Obs) :
    foldThen proc .ok os obs = .ok (foldOutcomes proc os obs) := by
  fun_induction foldThen proc .ok os obs <;> simp_all [foldOutcomes, addc, addw]

theorem foldThen_default_fail (k : Obs → Outcome Obs) : ∀ (os : List LineOutcome) (obs : Obs),
    (∃ o ∈ os, ∀ b, o ≠ .written b) →
    foldThen .default k os obs = .ok (foldOutcomes .default os obs) ∧
      (foldOutcomes .default os obs).ret ≠ none := by
  intro os
  induction os with
  | nil => intro obs h; obtain ⟨o, ho, -⟩ := h; cases ho
  | cons o rest ih =>
    intro obs h
    cases o with
    | importError e => simp [foldThen, foldOutcomes, Proc.result, addc]
    | exportError e => simp [foldThen, foldOutcomes, Proc.result, addc]
    | written b =>
      have h' : ∃ o ∈ rest, ∀ b, o ≠ .written b := by
        obtain ⟨o, ho, hne⟩ := h
        rcases List.mem_cons.mp ho with rfl | ho
        · exact absurd rfl (hne b)
        · exact ⟨o, ho, hne⟩
      simp only [foldThen, foldOutcomes, Proc.result]
      exact ih _ h'

theorem mapOutcomes_cons_ok {cfg : Cfg} {l : Bytes} {ls : List Bytes} {os : List LineOutcome}
    (h : mapOutcomes cfg (l :: ls) = .ok os) :
    ∃ o os', lineOutcome cfg l = .ok o ∧ mapOutcomes cfg ls = .ok os' ∧ os = o :: os' := by
  simp only [mapOutcomes_cons_eq, Outcome.bind_eq_ok, Outcome.ok.injEq] at h
  obtain ⟨o, ho, os', hos, rfl⟩ := h
  exact ⟨o, os', ho, hos, rfl⟩

theorem loop_line (cfg : Cfg) {s s1 : St} {l : Bytes} {o : LineOutcome} {ws : List WriteEv}
    (hs : scan cfg.initSize cfg.maxSize (scanFuel s) s = (some l, s1)) (he : s1.err = none)
    (ho : lineOutcome cfg l = .ok o) (hws : ∀ w ∈ ws, w = WriteEv.ok) :
    ∃ ws', (∀ w ∈ ws', w = WriteEv.ok) ∧ ∀ (fuel : Nat) (obs : Obs),
      obsOf (loop cfg (fuel + 1) s ws obs) =
        foldThen cfg.proc (fun obs' => obsOf (loop cfg fuel s1 ws' obs')) [o] obs := by
  -- `loop` spells `scanFuel` out; the `simp only [loop, hs']` below rewrite with that form
  have hs' : scan cfg.initSize cfg.maxSize (s.script.length * 103 + s.buf.length + 210) s = (some l, s1) := hs
  unfold lineOutcome at ho
  cases hg : getRow cfg.env cfg.ti l with
  | err e => rw [hg] at ho; cases ho
  | panic e => rw [hg] at ho; cases ho
  | ok p =>
    obtain ⟨row, oe⟩ := p
    rw [hg] at ho
    cases oe with
    | some e =>
      cases ho
      refine ⟨ws, hws, fun fuel obs => ?_⟩
      simp only [loop, hs', errOf, he, hg, foldThen]
      cases cfg.proc.result obs.calls.length (some e) <;> rfl
    | none =>
      simp only [] at ho
      cases hx : exportLine cfg.env cfg.to (.val (.row (Members.ofList row))) with
      | err e => rw [hx] at ho; cases ho
      | panic e => rw [hx] at ho; cases ho
      | ok q =>
        obtain ⟨b, oe⟩ := q
        rw [hx] at ho
        cases oe with
        | none =>
          cases ho
          have hw : exportWith cfg row ws = .ok (some b, none, ws.tail) := by
            cases ws with
            | nil => simp only [exportWith, hx, List.tail_nil]
            | cons w rest =>
              cases hws w (by simp)
              simp only [exportWith, hx, List.tail_cons]
          refine ⟨ws.tail, fun w h => hws w (List.mem_of_mem_tail h), fun fuel obs => ?_⟩
          simp only [loop, hs', errOf, he, hg, hw, foldThen]
          cases cfg.proc.result obs.calls.length none <;> rfl
        | some e =>
          cases ho
          refine ⟨ws, hws, fun fuel obs => ?_⟩
          simp only [loop, hs', errOf, he, hg, exportWith, hx, foldThen, List.length_append,
            List.length_singleton]
          cases cfg.proc.result obs.calls.length none with
          | some re => rfl
          | none => cases cfg.proc.result (obs.calls.length + 1) (some e) <;> rfl

theorem loop_scans (cfg : Cfg) {st st' : St} {lines : List Bytes}
    (hsc : Scans cfg.initSize cfg.maxSize st lines st') :
    ∀ (ws : List WriteEv) (os : List LineOutcome), (∀ w ∈ ws, w = WriteEv.ok) →
      mapOutcomes cfg lines = .ok os →
      ∃ ws', (∀ w ∈ ws', w = WriteEv.ok) ∧ ∀ (fuel : Nat) (obs : Obs),
        obsOf (loop cfg (fuel + lines.length) st ws obs) =
          foldThen cfg.proc (fun obs' => obsOf (loop cfg fuel st' ws' obs')) os obs := by
  induction hsc with
  | nil =>
    intro ws os hws hmap
    cases hmap
    exact ⟨ws, hws, fun fuel obs => rfl⟩
  | cons hs he _ ih =>
    intro ws os hws hmap
    obtain ⟨o, os', ho, hos, rfl⟩ := mapOutcomes_cons_ok hmap
    obtain ⟨ws1, hws1, h1⟩ := loop_line cfg hs he ho hws
    obtain ⟨ws', hws', h2⟩ := ih ws1 os' hws1 hos
    refine ⟨ws', hws', fun fuel obs => ?_⟩
    rw [List.length_cons, ← Nat.add_assoc, h1, foldThen_cons cfg.proc _ o os']
    simp only [h2]

/-- What the loop does when the scanner returns no token. -/
def endCall (proc : Proc) (e : Option ScanErr) (obs : Obs) : Obs :=
  match e with
  | none => obs
  | some e => { obs with ret := proc.result obs.calls.length (some (scanErrClass e)),
                         calls := obs.calls ++ [(false, some (scanErrClass e))] }

theorem loop_scans_end (cfg : Cfg) {st s1 sEnd : St} {lines : List Bytes}
    (hsc : Scans cfg.initSize cfg.maxSize st lines s1)
    (hs : scan cfg.initSize cfg.maxSize (scanFuel s1) s1 = (none, sEnd)) (fuel : Nat)
    (ws : List WriteEv) (obs : Obs) (os : List LineOutcome) (hws : ∀ w ∈ ws, w = WriteEv.ok)
    (hmap : mapOutcomes cfg lines = .ok os) (hfuel : lines.length < fuel) :
    obsOf (loop cfg fuel st ws obs) =
      foldThen cfg.proc (fun obs' => .ok (endCall cfg.proc (errOf sEnd) obs')) os obs := by
  obtain ⟨ws', -, h⟩ := loop_scans cfg hsc ws os hws hmap
  obtain ⟨f, rfl⟩ : ∃ f, fuel = f + 1 + lines.length := ⟨fuel - 1 - lines.length, by omega⟩
  have hs' : scan cfg.initSize cfg.maxSize (s1.script.length * 103 + s1.buf.length + 210) s1 = _ := hs
  have hlast : ∀ obs', obsOf (loop cfg (f + 1) s1 ws' obs') =
      .ok (endCall cfg.proc (errOf sEnd) obs') := by
    intro obs'
    simp only [loop, hs']
    cases errOf sEnd <;> rfl
  rw [h]
  simp only [hlast]

theorem C07_given_scanner (cfg : Cfg) {st : St} {lines : List Bytes}
    (hsc : ScansAs cfg.initSize cfg.maxSize st lines) (fuel : Nat) (ws : List WriteEv) (obs : Obs)
    (os : List LineOutcome) (hws : ∀ w ∈ ws, w = WriteEv.ok) (hmap : mapOutcomes cfg lines = .ok os)
    (hfuel : lines.length < fuel) :
    obsOf (loop cfg fuel st ws obs) = .ok (foldOutcomes cfg.proc os obs) := by
  obtain ⟨s1, hsc1, hend⟩ := ScansAs.split lines (rest := []) (by rwa [List.append_nil])
  cases hend with
  | nil hs he =>
  rw [loop_scans_end cfg hsc1 hs fuel ws obs os hws hmap hfuel, show errOf _ = none from he]
  exact foldThen_ok cfg.proc os obs

theorem specLinesAux_length (f : Nat) (bs : Bytes) : (specLinesAux f bs).length ≤ bs.length := by
  fun_induction specLinesAux f bs with
  | case1 => simp
  | case2 => simp
  | case3 fuel bs hne l rest hs ih =>
    have h1 := (splitLF_some.mp hs).1
    simp only [List.length_cons]; rw [h1]; simp; omega
  | case4 fuel bs hne hs => cases bs <;> simp at hne ⊢

theorem scriptSize_ge (reader : List ReadEv) : (allData reader).length + 2 ≤ scriptSize reader := by
  unfold scriptSize
  suffices h : ∀ (n : Nat), (allData reader).length + n ≤
      reader.foldl (fun n ev => n + (match ev with | .data b | .dataErr b => b.length + 1 | _ => 1)) n from
    h 2
  induction reader with
  | nil => intro n; simp [allData]
  | cons ev t ih =>
    intro n
    simp only [List.foldl_cons]
    cases ev with
    | data b => have := ih (n + (b.length + 1)); simp only [allData, List.length_append]; omega
    | dataErr b => have := ih (n + (b.length + 1)); simp only [allData]; omega
    | err => have := ih (n + 1); simp only [allData]; omega
    | empty => have := ih (n + 1); simp only [allData]; omega

/-- C07: for a fault-free reader (only `data`/`empty` events, at most 100 consecutive empty reads) whose lines fit
    the limit, and a writer that never fails, the observation of the stream is the specification's, whatever the
    chunking and the buffer sizes.  (`hmap`: no line has a model-external `.err`/`.panic` outcome; note below.) -/
theorem C07_stream_eq_spec (cfg : Cfg) (reader : List ReadEv) (ws : List WriteEv)
    (hcalm : Calm 100 reader) (hfit : LinesFit cfg.maxSize (allData reader))
    (hle : cfg.initSize ≤ cfg.maxSize) (hpow : cfg.maxSize ≤ cfg.initSize * 2 ^ 200)
    (hws : ∀ w ∈ ws, w = WriteEv.ok) (os : List LineOutcome)
    (hmap : mapOutcomes cfg (specLines (allData reader)) = .ok os) :
    stream cfg reader ws = specObs cfg (allData reader) := by
  have hsc := A4_chunk_independence cfg.initSize cfg.maxSize reader hcalm hfit hle hpow
  have hfuel : (specLines (allData reader)).length < scriptSize reader + 2 := by
    have h1 := specLinesAux_length ((allData reader).length + 1) (allData reader)
    have h2 := scriptSize_ge reader
    unfold specLines; omega
  have h := C07_given_scanner cfg hsc (scriptSize reader + 2) ws ⟨none, [], []⟩ os hws hmap hfuel
  unfold specObs
  rw [hmap]
  exact h


/- Note on `hmap`.  `specObs` evaluates `lineOutcome` for *every* line before folding (`mapOutcomes`), while the
   loop stops at the first error the processor returns.  When the processor stops the stream and some later line
   has a model-level `.err`/`.panic` outcome (e.g. `.err .ext`: an answer of the standard library that was not
   supplied), `stream` is `.ok _` and `specObs` is not: the equation without `hmap` does NOT hold in the model and
   is not claimed.  (For a processor that never returns an error it does hold; not proved here.) -/

/-! ### Concrete instances (non-vacuity); the paths below never reach `getRow` -/

section Examples
variable (env : Env)

private def cfgOf (env : Env) (p : Proc) : Cfg :=
  { env := env, ti := [], to := [], proc := p, initSize := 2, maxSize := 4 }

/-- the reader fails at offset 0 -/
example : stream (cfgOf env .default) [.err] [] = .ok ⟨some .io, [(false, some .io)], []⟩ := by
  rfl

/-- the reader fails exactly after a newline, the error arriving with the bytes: the line is not
    processed, the error is -/
example : stream (cfgOf env .default) [.dataErr [0x61, 0x0A]] [] = .ok ⟨some .io, [(false, some .io)], []⟩ := by
  rfl

/-- an over-long line with a processor that tolerates everything: nil is returned, but the
    processor has been told -/
example : stream (cfgOf env .tolerant) [.data [0x61, 0x62, 0x63, 0x64, 0x65, 0x0A]] [] =
    .ok ⟨none, [(false, some .tooLong)], []⟩ := by
  simp [stream, streamSt, loop, cfgOf, Scanner.init, scan, scanLines,
    splitLF, readLoop, readOnce, errOf, scanErrClass, Proc.result]

end Examples

end Jl.Stream
