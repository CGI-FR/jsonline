/-
  Proofs.ImportClass — the error `Value.Import` leaves in `.ok (cell, some e)` over the regenerated cast tables is a cast
  error, `ErrUnsupportedImportType` or `ErrUnsupportedFormat`, through slices and maps too; there is none when an Auto or
  Hidden cell without raw type is given a value that is not itself a cell.
-/
import Model.CastGen
import Proofs.CastTyped
import Proofs.Order

namespace Jl.ImportClass
open Jl Jl.Value

theorem importCell_auto_none (ext : Ext) (f : Format) (x : Dyn) (hf : f = .auto ∨ f = .hidden)
    (hx : ∀ r f t, x ≠ .val (.cell r f t)) : importCell ⟨genTables, ext⟩ f .none x = .ok (.cell x f .none, none) :=
  Order.importCell_plain hf (CastTyped.gen_castTo_none ext x) hx

def ImportErr (e : ErrClass) : Prop := e = .cast ∨ e = .unsupportedImport ∨ e = .unsupportedFormat

theorem importCell_err (ext : Ext) (f : Format) (typ : Ty) (x : Dyn) (c : Val) (e : ErrClass)
    (h : importCell ⟨genTables, ext⟩ f typ x = .ok (c, some e)) : ImportErr e := by
  obtain ⟨_, hne, he | he | he | he⟩ : Order.ImportSpec _ f typ x (.ok (c, some e)) := h ▸ Order.importCell_spec ..
  · exact absurd he hne
  · exact .inr (.inl he)
  · exact .inr (.inr he)
  · exact (CastTyped.gen_castTo_err ext typ x e he).elim .inl fun h => absurd h hne

theorem importAtKeyWith_err {imp : Val → Dyn → Outcome (Val × Option ErrClass)}
    (himp : ∀ c x c' e, imp c x = .ok (c', some e) → ImportErr e)
    (o : List (Bytes × Val)) (k : Bytes) (x : Dyn) (r : List (Bytes × Val) × Option ErrClass)
    (h : importAtKeyWith imp o k x = .ok r) : ∀ e, r.2 = some e → ImportErr e := by
  rw [importAtKeyWith_eq_store] at h
  obtain ⟨c, hc, -⟩ := store_inv (o' := r.1) (e := r.2) h
  intro e he
  rw [he] at hc
  cases hl : OMap.lookup o k with
  | none => rw [hl] at hc; cases hc
  | some c0 => rw [hl] at hc; exact himp _ _ _ _ hc

theorem importInto_err (ext : Ext) (fuel : Nat) : ∀ (c : Val) (x : Dyn) (c' : Val) (e : ErrClass),
    importInto ⟨genTables, ext⟩ fuel c x = .ok (c', some e) → ImportErr e := by
  induction fuel with
  | zero => intro c x c' e h; cases h
  | succ fuel ih =>
    intro c x c' e h
    unfold importInto at h
    split at h
    · exact importCell_err ext _ _ x c' e h
    · split at h
      · split at h <;> cases h
        rename_i hs
        -- the error a slice reports is the one the import of one element left
        exact Order.importSliceWith_post (Q := fun _ r => ∀ e, r.2 = some e → ImportErr e) (fun _ => nofun)
          (fun _ hr => hr) _ _ _ _ (fun x _ o k => importAtKeyWith_err ih o k x) hs e rfl
      · split at h <;> cases h
        rename_i hs
        exact walk.post (Q := fun _ r => ∀ e, r.2 = some e → ImportErr e) (fun _ => nofun) (fun _ hr => hr)
          (fun kx _ o r h1 => importAtKeyWith_err ih o kx.1 kx.2 r ((importAtKeyWith_eq_store _ _ _ _).trans h1))
          ((importMapWith_eq_walk _ _ _).symm.trans hs) e rfl
      · cases h; exact Or.inr (Or.inl rfl)

end Jl.ImportClass
