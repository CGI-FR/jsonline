/-
  Proofs.FlowTieStream — streamer.go: the two processors, NewStreamer, WithProcessor, Stream's loop and calls
  (overview: Proofs/FlowTie.lean)
-/
import Proofs.FlowTieDefs

namespace Jl.FlowTie
open Jl Jl.Flow Jl.Value Jl.Template

theorem defaultProcessor_as_modelled : Gen.flowTable.defaultProcessor = .returnsErr := by decide +kernel

theorem noFailureProcessor_as_modelled : Gen.flowTable.noFailureProcessor = .returnsNil := by decide +kernel

theorem newStreamer_as_modelled : Gen.flowTable.newStreamer = .storesBoth "DefaultProcessor" := by decide +kernel

theorem withProcessor_as_modelled : Gen.flowTable.withProcessor = .argOrDefault "DefaultProcessor" := by decide +kernel

theorem stream_as_modelled : Gen.flowTable.stream = FlowSpec.expectedFlow.stream := by decide +kernel

theorem processors_as_modelled :
    procG Gen.flowTable.defaultProcessor = some .default
    ∧ procG Gen.flowTable.noFailureProcessor = some .tolerant
    ∧ (∀ n e, Stream.Proc.default.result n e = e) ∧ (∀ n e, Stream.Proc.tolerant.result n e = none) :=
  ⟨rfl, rfl, fun _ _ => rfl, fun _ _ => rfl⟩

/-- The four processor calls of `Stream` are the four entries
    `Stream.loop` appends to `calls`: `(false, some e)` for a refused line (GetRow's row is nil with an
    error), `(true, none)` for a row, `(true, some e)` for a failed export, `(false, some ec)` for the
    scanner's error after the loop — whose result IS Stream's. -/
theorem stream_calls_as_modelled :
    ∃ onRowErr onRow onExportErr after rowWithErr w,
      Gen.flowTable.stream = .loop onRowErr onRow onExportErr (.errHandover after)
      ∧ Gen.flowTable.getRow = .scannerErrThenParse rowWithErr w
      ∧ onRowErr.recorded rowWithErr true = (false, true)
      ∧ onRow.recorded rowWithErr false = (true, false)
      ∧ onExportErr.recorded rowWithErr false = (true, true)
      ∧ after.recorded rowWithErr false = (false, true) :=
  ⟨_, _, _, _, _, _, rfl, rfl, rfl, rfl, rfl, rfl⟩

end Jl.FlowTie
