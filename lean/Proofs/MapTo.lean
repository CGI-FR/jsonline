/-
  Proofs.MapTo — the model of `Row.MapTo` (Model/MapTo.lean), over the cast tables regenerated from the source
  (`genTables`) where a caster is involved.  `mapTo` never panics: the three single-value assertions `i.(int64)`,
  `i.(uint64)`, `i.(float64)` are reached only with a value of that type, because in the current tables the clause of
  `ToInt64` for each signed Go integer type is a conversion without a guard, and so are those of `ToUint64` for the
  unsigned types and of `ToFloat64` for the two float types (`widenClausesOK`, evaluated on the regenerated clauses).
  The rest says what MapTo does as it IS: which fields can change, the silent wrap-around of an integer at the field's
  width (int8 ← 300 = 44), the loop field by field, LcFirst.
-/
import Model.MapTo
import Proofs.CastInt

namespace Jl.MapTo
open Jl Jl.Value Cast CastTyped

/-! ### The casters MapTo calls, on the families it calls them for (regenerated tables) -/

/-- The 64-bit type of the same signedness: MapTo reads every integer through `ToInt64` / `ToUint64`. -/
def wide (t : IntTy) : IntTy := if t.signed then .i64 else .u64

/-- The clauses MapTo goes through convert without a guard: every integer type to the 64-bit type of its
    signedness, `float64` and `float32` to `float64`. -/
def widenClausesOK (T : CastTables) : Bool :=
  (IntTy.all.all fun t =>
    match clauseOf T (casterOfInt (wide t)) (.int t) with
    | some (.ret .val) => t == wide t
    | some (.ret (.toInt t' .val)) => t' == wide t
    | _ => false) &&
  clauseOf T "ToFloat64" .f64 == some (.ret .val) &&
  clauseOf T "ToFloat64" .f32 == some (.ret (.toF64 .val))

theorem gen_widenClausesOK : widenClausesOK genTables = true := by decide +kernel

theorem inRange_wide {t : IntTy} {v : Int} (h : t.inRange v) : (wide t).inRange v :=
  have hmin : (wide t).min ≤ t.min := by cases t <;> decide
  have hmax : t.max ≤ (wide t).max := by cases t <;> decide
  ⟨Int.le_trans hmin h.1, Int.le_trans h.2 hmax⟩

theorem cast_wide (ext : Ext) (t : IntTy) (v : Int) :
    ∃ x, castNamed genTables ext (casterOfInt (wide t)) (.int t v) = .ok (.int (wide t) x) := by
  have h := gen_widenClausesOK
  simp only [widenClausesOK, Bool.and_eq_true, List.all_eq_true] at h
  have h := h.1.1 t t.mem_all
  split at h
  · rename_i hbr
    rw [castNamed_clause (v := .int t v) hbr, ← eq_of_beq h]
    exact ⟨v, rfl⟩
  · rename_i t' hbr
    rw [castNamed_clause (v := .int t v) hbr, eq_of_beq h]
    exact ⟨_, rfl⟩
  · cases h

theorem cast_wide_exact (ext : Ext) (t : IntTy) (v : Int) (hv : t.inRange v) :
    castNamed genTables ext (casterOfInt (wide t)) (.int t v) = .ok (.int (wide t) v) :=
  (cast_int_source ext (wide t) t v hv).trans
    (if_pos (inRange_wide hv))

theorem toFloat64_f64 (ext : Ext) (b : Nat) :
    castNamed genTables ext "ToFloat64" (.f64 b) = .ok (.f64 b) := by
  have h := gen_widenClausesOK
  simp only [widenClausesOK, Bool.and_eq_true] at h
  exact castNamed_clause (v := .f64 b) (eq_of_beq h.1.2) ext

theorem toFloat64_f32 (ext : Ext) (b : Nat) :
    castNamed genTables ext "ToFloat64" (.f32 b) = .ok (.f64 (Float.f32to64 b)) := by
  have h := gen_widenClausesOK
  simp only [widenClausesOK, Bool.and_eq_true] at h
  exact castNamed_clause (v := .f32 b) (eq_of_beq h.2) ext

/-! ### One field over the regenerated tables: always a normal outcome -/

theorem store_ok (ext : Ext) (f : Field) (raw : Dyn) : ∃ f', store genTables ext f raw = .ok f' := by
  cases raw with
  | int t v =>
    obtain ⟨x, hx⟩ := cast_wide ext t v
    cases ht : t.signed <;> simp only [wide, ht, casterOfInt, ↓reduceIte, Bool.false_eq_true] at hx <;>
      simp only [store, ht, hx, viaCast, asInt, ↓reduceIte, Bool.false_eq_true] <;> split <;> exact ⟨_, rfl⟩
  | f64 b =>
    simp only [store, toFloat64_f64, viaCast, asF64]
    split <;> exact ⟨_, rfl⟩
  | f32 b =>
    simp only [store, toFloat64_f32, viaCast, asF64]
    split <;> exact ⟨_, rfl⟩
  | str s => simp only [store]; split <;> exact ⟨_, rfl⟩
  | bool b => simp only [store]; split <;> exact ⟨_, rfl⟩
  | bytes s => simp only [store]; split <;> exact ⟨_, rfl⟩
  | _ => exact ⟨_, rfl⟩

theorem mapField_total (ext : Ext) (row : List (Bytes × Val)) (f : Field) :
    (∃ f', mapField genTables ext row f = .ok f') ∨
      (mapField genTables ext row f = .err .ext ∧ f.settable = true ∧ lcFirst f.name = none) := by
  cases hs : f.settable with
  | false => exact .inl ⟨f, by simp [mapField, hs]⟩
  | true =>
    cases hk : lcFirst f.name with
    | none => exact .inr ⟨by simp [mapField, hs, hk], rfl, rfl⟩
    | some key =>
      cases hv : lookup row key with
      | none => exact .inl ⟨f, by simp [mapField, hs, hk, hv]⟩
      | some v =>
        obtain ⟨f', hf'⟩ := store_ok ext f (Cells.raw v)
        exact .inl ⟨f', by simp [mapField, hs, hk, hv, hf']⟩

theorem mapFields_total (ext : Ext) (row : List (Bytes × Val)) (fs : List Field) :
    (∃ fs', mapFields genTables ext row fs = .ok fs') ∨
      (mapFields genTables ext row fs = .err .ext ∧ ∃ f ∈ fs, f.settable = true ∧ lcFirst f.name = none) := by
  induction fs with
  | nil => exact .inl ⟨[], rfl⟩
  | cons f fs ih =>
    rcases mapField_total ext row f with ⟨f', hf⟩ | ⟨hf, hs, hn⟩
    · rcases ih with ⟨fs', hfs⟩ | ⟨hfs, g, hg, hgs, hgn⟩
      · exact .inl ⟨f' :: fs', by simp [mapFields, hf, hfs]⟩
      · exact .inr ⟨by simp [mapFields, hf, hfs], g, List.mem_cons_of_mem _ hg, hgs, hgn⟩
    · exact .inr ⟨by simp [mapFields, hf], f, List.mem_cons_self, hs, hn⟩

/-- `.err .ext` is the MODEL's abstention, on a field name whose first rune its port of unicode.ToLower does not cover;
    never an error of MapTo's. -/
theorem mapTo_total (ext : Ext) (row : List (Bytes × Val)) (t : Target) :
    (∃ t', mapTo genTables ext row t = .ok t') ∨
      (mapTo genTables ext row t = .err .ext ∧
        ∃ fs, t = .pointerToStruct fs ∧ ∃ f ∈ fs, f.settable = true ∧ lcFirst f.name = none) := by
  cases t with
  | pointerToStruct fs =>
    rcases mapFields_total ext row fs with ⟨fs', h⟩ | ⟨h, hex⟩
    · exact .inl ⟨.pointerToStruct fs', by simp [mapTo, h]⟩
    · exact .inr ⟨by simp [mapTo, h], fs, rfl, hex⟩
  | notPointer => exact .inl ⟨_, rfl⟩
  | nilPointer => exact .inl ⟨_, rfl⟩
  | pointerToNonStruct => exact .inl ⟨_, rfl⟩

/-- C17 for MapTo. -/
theorem mapTo_no_panic (ext : Ext) (row : List (Bytes × Val)) (t : Target) (s : String) :
    mapTo genTables ext row t ≠ .panic s := by
  rcases mapTo_total ext row t with ⟨t', h⟩ | ⟨h, _⟩ <;> simp [h]

/-! ### Anything but a non-nil pointer to a struct -/

theorem mapTo_not_struct_untouched (T : CastTables) (ext : Ext) (row : List (Bytes × Val)) (t : Target)
    (h : ∀ fs, t ≠ .pointerToStruct fs) : mapTo T ext row t = .ok t := by
  cases t with
  | pointerToStruct fs => exact absurd rfl (h fs)
  | notPointer => rfl
  | nilPointer => rfl
  | pointerToNonStruct => rfl

/-! ### Which fields can change -/

/-- The families of MapTo's type switch. -/
inductive Cls
  | sint | uint | float | str | bool | bytes
  deriving DecidableEq, Repr

/-- Family of a stored raw value (`none`: the switch has no case for it — nil, json.Number, time.Time,
    arrays, slices, maps, nested rows, named types, pointers …). -/
def clsOfDyn : Dyn → Option Cls
  | .int t _ => some (if t.signed then .sint else .uint)
  | .f64 _ | .f32 _ => some .float
  | .str _ => some .str
  | .bool _ => some .bool
  | .bytes _ => some .bytes
  | _ => none

/-- Family a field accepts, by kind (`none`: no setter applies). -/
def clsOfKind : FieldKind → Option Cls
  | .int t => some (if t.signed then .sint else .uint)
  | .uintptr => some .uint
  | .f32 | .f64 => some .float
  | .str => some .str
  | .bool => some .bool
  | .bytes => some .bytes
  | .other => none

/-- The three conditions under which MapTo may write a field. -/
def Matches (row : List (Bytes × Val)) (f : Field) : Prop :=
  f.settable = true ∧
    ∃ key v c, lcFirst f.name = some key ∧ lookup row key = some v ∧
      clsOfDyn (Cells.raw v) = some c ∧ clsOfKind f.kind = some c

/-- What never changes, and what changes only under a condition. -/
def Kept (cond : Prop) (f f' : Field) : Prop :=
  f'.name = f.name ∧ f'.kind = f.kind ∧ f'.settable = f.settable ∧ (¬ cond → f' = f)

theorem Kept.refl (cond : Prop) (f : Field) : Kept cond f f := ⟨rfl, rfl, rfl, fun _ => rfl⟩

theorem cls_of_can (k : FieldKind) :
    (canInt k = true → clsOfKind k = some .sint) ∧ (canUint k = true → clsOfKind k = some .uint) ∧
      (canFloat k = true → clsOfKind k = some .float) := by
  cases k with
  | int t => cases h : t.signed <;> simp [canInt, canUint, canFloat, clsOfKind, h]
  | _ => simp [canInt, canUint, canFloat, clsOfKind]

theorem viaCast_kept {α : Type} {o : Outcome Dyn} {can : Bool} {extract : Dyn → Option α} {site : String}
    {f f' : Field} {set : α → Dyn} (h : viaCast o can extract site f set = .ok f') :
    Kept (can = true) f f' := by
  unfold viaCast at h
  cases o with
  | panic s => simp at h
  | err e =>
    by_cases he : e = .ext
    · simp [he] at h
    · cases can <;> simp [he] at h
      subst h; exact .refl _ _
  | ok r =>
    cases can with
    | false => simp at h; subst h; exact .refl _ _
    | true =>
      simp only [if_true] at h
      cases hx : extract r with
      | none => simp [hx] at h
      | some x =>
        simp [hx] at h; subst h
        exact ⟨rfl, rfl, rfl, fun hc => absurd rfl hc⟩

/-- `if kind matches { field.Set(x) }`. -/
theorem ite_kept {c : Prop} [Decidable c] {f f' : Field} {x : Dyn}
    (h : (if c then .ok { f with current := x } else .ok f : Outcome Field) = .ok f') : Kept c f f' := by
  by_cases hc : c
  · rw [if_pos hc] at h
    cases h
    exact ⟨rfl, rfl, rfl, fun hn => absurd hc hn⟩
  · rw [if_neg hc] at h
    cases h
    exact .refl _ _

theorem store_kept (T : CastTables) (ext : Ext) (f f' : Field) (raw : Dyn)
    (h : store T ext f raw = .ok f') :
    Kept (∃ c, clsOfDyn raw = some c ∧ clsOfKind f.kind = some c) f f' := by
  have weaken : ∀ {p q : Prop}, (p → q) → Kept p f f' → Kept q f f' :=
    fun hpq ⟨a, b, c, d⟩ => ⟨a, b, c, fun hq => d (fun hp => hq (hpq hp))⟩
  cases raw with
  | int t v =>
    cases ht : t.signed with
    | true =>
      simp only [store, ht, if_true] at h
      exact weaken (fun hc => ⟨.sint, by simp [clsOfDyn, ht], (cls_of_can _).1 hc⟩) (viaCast_kept h)
    | false =>
      simp only [store, ht, Bool.false_eq_true, if_false] at h
      exact weaken (fun hc => ⟨.uint, by simp [clsOfDyn, ht], (cls_of_can _).2.1 hc⟩) (viaCast_kept h)
  | f64 b => exact weaken (fun hc => ⟨.float, rfl, (cls_of_can _).2.2 hc⟩) (viaCast_kept h)
  | f32 b => exact weaken (fun hc => ⟨.float, rfl, (cls_of_can _).2.2 hc⟩) (viaCast_kept h)
  | str s => exact weaken (fun hk => ⟨.str, rfl, by rw [hk]; rfl⟩) (ite_kept h)
  | bool b => exact weaken (fun hk => ⟨.bool, rfl, by rw [hk]; rfl⟩) (ite_kept h)
  | bytes s => exact weaken (fun hk => ⟨.bytes, rfl, by rw [hk]; rfl⟩) (ite_kept h)
  | _ => cases h; exact .refl _ _

theorem mapField_only_matching (T : CastTables) (ext : Ext) (row : List (Bytes × Val)) (f f' : Field)
    (h : mapField T ext row f = .ok f') : Kept (Matches row f) f f' := by
  cases hs : f.settable with
  | false =>
    simp [mapField, hs] at h; subst h; exact .refl _ _
  | true =>
    cases hk : lcFirst f.name with
    | none => simp [mapField, hs, hk] at h
    | some key =>
      cases hv : lookup row key with
      | none => simp [mapField, hs, hk, hv] at h; subst h; exact .refl _ _
      | some v =>
        simp [mapField, hs, hk, hv] at h
        obtain ⟨a, b, c, d⟩ := store_kept T ext f f' _ h
        exact ⟨a, b, c, fun hn => d (fun ⟨cl, h1, h2⟩ => hn ⟨hs, key, v, cl, hk, hv, h1, h2⟩)⟩

/-! ### The loop is field by field -/

def Pointwise (R : Field → Field → Prop) (fs fs' : List Field) : Prop :=
  fs'.length = fs.length ∧ ∀ i (h : i < fs.length) (h' : i < fs'.length), R fs[i] fs'[i]

theorem pointwise_nil (R : Field → Field → Prop) : Pointwise R [] [] :=
  ⟨rfl, fun i h => absurd h (Nat.not_lt_zero i)⟩

theorem pointwise_cons {R : Field → Field → Prop} {f f' : Field} {fs fs' : List Field} :
    Pointwise R (f :: fs) (f' :: fs') ↔ R f f' ∧ Pointwise R fs fs' := by
  constructor
  · intro ⟨hl, hi⟩
    refine ⟨hi 0 (by simp) (by simp), by simpa using hl, fun i h h' => ?_⟩
    have := hi (i + 1) (by simpa using h) (by simpa using h')
    simpa using this
  · intro ⟨h0, hl, hi⟩
    refine ⟨by simp [hl], fun i h h' => ?_⟩
    cases i with
    | zero => simpa using h0
    | succ i => simpa using hi i (by simpa using h) (by simpa using h')

theorem mapFields_fieldwise (T : CastTables) (ext : Ext) (row : List (Bytes × Val)) (fs fs' : List Field) :
    mapFields T ext row fs = .ok fs' ↔ Pointwise (fun f f' => mapField T ext row f = .ok f') fs fs' := by
  induction fs generalizing fs' with
  | nil =>
    cases fs' with
    | nil => simp [mapFields, pointwise_nil]
    | cons g gs => simp [mapFields, Pointwise]
  | cons f fs ih =>
    cases fs' with
    | nil =>
      simp only [mapFields, Pointwise]
      constructor
      · intro h
        cases h1 : mapField T ext row f <;> simp [h1] at h
        cases h2 : mapFields T ext row fs <;> simp [h2] at h
      · intro ⟨hl, _⟩; simp at hl
    | cons g gs =>
      rw [pointwise_cons, ← ih gs]
      simp only [mapFields]
      cases h1 : mapField T ext row f with
      | ok f1 =>
        cases h2 : mapFields T ext row fs with
        | ok fs1 => simp
        | err e => simp
        | panic s => simp
      | err e => simp
      | panic s => simp

theorem mapTo_fieldwise (T : CastTables) (ext : Ext) (row : List (Bytes × Val)) (fs fs' : List Field) :
    mapTo T ext row (.pointerToStruct fs) = .ok (.pointerToStruct fs') ↔
      Pointwise (fun f f' => mapField T ext row f = .ok f') fs fs' := by
  rw [← mapFields_fieldwise]
  simp only [mapTo]
  cases mapFields T ext row fs <;> simp

theorem mapTo_struct_shape (T : CastTables) (ext : Ext) (row : List (Bytes × Val)) (fs : List Field) (t' : Target)
    (h : mapTo T ext row (.pointerToStruct fs) = .ok t') : ∃ fs', t' = .pointerToStruct fs' := by
  simp only [mapTo] at h
  cases hm : mapFields T ext row fs <;> simp [hm] at h
  exact ⟨_, h.symm⟩

/-- The result for one field does not depend on the other fields, their order or its position. -/
theorem mapTo_field_independent (T : CastTables) (ext : Ext) (row : List (Bytes × Val))
    (fs fs' gs gs' : List Field)
    (hf : mapTo T ext row (.pointerToStruct fs) = .ok (.pointerToStruct fs'))
    (hg : mapTo T ext row (.pointerToStruct gs) = .ok (.pointerToStruct gs'))
    (i j : Nat) (hi : i < fs.length) (hj : j < gs.length) (hi' : i < fs'.length) (hj' : j < gs'.length)
    (same : fs[i] = gs[j]) : fs'[i] = gs'[j] := by
  have h1 : mapField T ext row fs[i] = .ok fs'[i] := ((mapTo_fieldwise T ext row fs fs').mp hf).2 i hi hi'
  have h2 : mapField T ext row gs[j] = .ok gs'[j] := ((mapTo_fieldwise T ext row gs gs').mp hg).2 j hj hj'
  simp only [same] at h1
  rw [h1] at h2
  exact Outcome.ok.inj h2

theorem mapTo_only_matching_fields (T : CastTables) (ext : Ext) (row : List (Bytes × Val))
    (fs : List Field) (t' : Target) (h : mapTo T ext row (.pointerToStruct fs) = .ok t') :
    ∃ fs', t' = .pointerToStruct fs' ∧ Pointwise (fun f f' => Kept (Matches row f) f f') fs fs' := by
  obtain ⟨fs', rfl⟩ := mapTo_struct_shape T ext row fs t' h
  obtain ⟨hl, hp⟩ := (mapTo_fieldwise T ext row fs fs').mp h
  exact ⟨fs', rfl, hl, fun i hi hi' => mapField_only_matching T ext row _ _ (hp i hi hi')⟩

/-! ### What a matching field receives -/

theorem mapField_int_value (ext : Ext) (row : List (Bytes × Val)) (f : Field) (ft st : IntTy)
    (key : Bytes) (v : Val) (x : Int)
    (hset : f.settable = true) (hkind : f.kind = .int ft) (hft : ft.signed = true)
    (hkey : lcFirst f.name = some key) (hv : lookup row key = some v)
    (hraw : Cells.raw v = .int st x) (hst : st.signed = true) (hx : st.inRange x) :
    mapField genTables ext row f = .ok { f with current := .int ft (ft.wrap x) } := by
  have hc := cast_wide_exact ext st x hx
  simp only [wide, hst, casterOfInt, ↓reduceIte] at hc
  simp [mapField, hset, hkey, hv, hraw, store, hst, hc, viaCast, asInt, hkind, canInt, hft, setInt]

theorem mapField_uint_value (ext : Ext) (row : List (Bytes × Val)) (f : Field) (ft st : IntTy)
    (key : Bytes) (v : Val) (x : Int)
    (hset : f.settable = true) (hkind : f.kind = .int ft) (hft : ft.signed = false)
    (hkey : lcFirst f.name = some key) (hv : lookup row key = some v)
    (hraw : Cells.raw v = .int st x) (hst : st.signed = false) (hx : st.inRange x) :
    mapField genTables ext row f = .ok { f with current := .int ft (ft.wrap x) } := by
  have hc := cast_wide_exact ext st x hx
  simp only [wide, hst, casterOfInt, ↓reduceIte, Bool.false_eq_true] at hc
  simp [mapField, hset, hkey, hv, hraw, store, hst, hc, viaCast, asInt, hkind, canUint, hft, setInt]

/-- A float32 field receives the value ROUNDED to float32 (`Float.f64to32` inside `setFloat`: overflow to ±Inf,
    underflow to 0, NaN quietened — silently). -/
theorem mapField_float_value (ext : Ext) (row : List (Bytes × Val)) (f : Field) (key : Bytes) (v : Val)
    (hset : f.settable = true) (hcan : canFloat f.kind = true)
    (hkey : lcFirst f.name = some key) (hv : lookup row key = some v) :
    (∀ b, Cells.raw v = .f64 b →
      mapField genTables ext row f = .ok { f with current := setFloat f.kind b f.current }) ∧
    (∀ b, Cells.raw v = .f32 b →
      mapField genTables ext row f = .ok { f with current := setFloat f.kind (Float.f32to64 b) f.current }) := by
  constructor <;> intro b hraw
  · simp [mapField, hset, hkey, hv, hraw, store, toFloat64_f64, viaCast, asF64, hcan]
  · simp [mapField, hset, hkey, hv, hraw, store, toFloat64_f32, viaCast, asF64, hcan]

theorem mapField_scalar_value (T : CastTables) (ext : Ext) (row : List (Bytes × Val)) (f : Field)
    (key : Bytes) (v : Val) (hset : f.settable = true)
    (hkey : lcFirst f.name = some key) (hv : lookup row key = some v) :
    (∀ s, Cells.raw v = .str s → f.kind = .str → mapField T ext row f = .ok { f with current := .str s }) ∧
    (∀ b, Cells.raw v = .bool b → f.kind = .bool → mapField T ext row f = .ok { f with current := .bool b }) ∧
    (∀ s, Cells.raw v = .bytes s → f.kind = .bytes → mapField T ext row f = .ok { f with current := .bytes s }) := by
  refine ⟨fun s hraw hk => ?_, fun b hraw hk => ?_, fun s hraw hk => ?_⟩ <;>
    simp [mapField, hset, hkey, hv, hraw, store, hk]

/-- The documented silent wrap-around, as it IS: the value itself when it fits the FIELD's width, its low bits
    otherwise (int8 ← 300 gives 44).  Not a violation of C17. -/
theorem mapTo_int_value (ext : Ext) (row : List (Bytes × Val)) (fs fs' : List Field)
    (h : mapTo genTables ext row (.pointerToStruct fs) = .ok (.pointerToStruct fs'))
    (i : Nat) (hi : i < fs.length) (hi' : i < fs'.length) (ft st : IntTy) (key : Bytes) (v : Val) (x : Int)
    (hset : fs[i].settable = true) (hkind : fs[i].kind = .int ft) (hft : ft.signed = true)
    (hkey : lcFirst fs[i].name = some key) (hv : lookup row key = some v)
    (hraw : Cells.raw v = .int st x) (hst : st.signed = true) (hx : st.inRange x) :
    fs'[i] = { fs[i] with current := .int ft (ft.wrap x) } := by
  have h1 : mapField genTables ext row fs[i] = .ok fs'[i] := ((mapTo_fieldwise _ ext row fs fs').mp h).2 i hi hi'
  rw [mapField_int_value ext row fs[i] ft st key v x hset hkind hft hkey hv hraw hst hx] at h1
  exact (Outcome.ok.inj h1).symm

theorem mapTo_int_value_fits (ext : Ext) (row : List (Bytes × Val)) (fs fs' : List Field)
    (h : mapTo genTables ext row (.pointerToStruct fs) = .ok (.pointerToStruct fs'))
    (i : Nat) (hi : i < fs.length) (hi' : i < fs'.length) (ft st : IntTy) (key : Bytes) (v : Val) (x : Int)
    (hset : fs[i].settable = true) (hkind : fs[i].kind = .int ft) (hft : ft.signed = true)
    (hkey : lcFirst fs[i].name = some key) (hv : lookup row key = some v)
    (hraw : Cells.raw v = .int st x) (hst : st.signed = true) (hx : st.inRange x) (hfit : ft.inRange x) :
    fs'[i] = { fs[i] with current := .int ft x } := by
  rw [mapTo_int_value ext row fs fs' h i hi hi' ft st key v x hset hkind hft hkey hv hraw hst hx,
    wrap_of_inRange ft x hfit]

/-! ### LcFirst as it is -/

theorem toLower?_ascii : ∀ r, r < 0x80 → (toLower? r).isSome = true := by decide

/-- Names whose first byte is ASCII are always covered by the model. -/
theorem lcFirst_ascii (b : UInt8) (rest : Bytes) (hb : b < 0x80) : ∃ k, lcFirst (b :: rest) = some k := by
  have h := toLower?_ascii b.toNat (UInt8.lt_iff_toNat_lt.mp hb)
  simp only [lcFirst, hb, if_true]
  cases hl : toLower? b.toNat with
  | none => simp [hl] at h
  | some l => exact ⟨_, rfl⟩

theorem lcFirst_ascii_upper (b : UInt8) (rest : Bytes) (h1 : 0x41 ≤ b) (h2 : b ≤ 0x5A) :
    lcFirst (b :: rest) = some ((b + 32) :: rest) := by
  have n1 : 0x41 ≤ b.toNat := UInt8.le_iff_toNat_le.mp h1
  have n2 : b.toNat ≤ 0x5A := UInt8.le_iff_toNat_le.mp h2
  have hb : b < 0x80 := UInt8.lt_iff_toNat_lt.mpr (by simp; omega)
  have ht : toLower? b.toNat = some (b.toNat + 32) := by
    unfold toLower?; rw [if_neg (by omega), if_pos (by omega)]
  have hlt : b.toNat + 32 < 128 := by omega
  simp [lcFirst, hb, ht, Utf8.encode, hlt, UInt8.ofNat_add]

theorem lcFirst_ascii_other (b : UInt8) (rest : Bytes) (hb : b < 0x80) (h : b < 0x41 ∨ 0x5A < b) :
    lcFirst (b :: rest) = some (b :: rest) := by
  have n0 : b.toNat < 0x80 := UInt8.lt_iff_toNat_lt.mp hb
  have ht : toLower? b.toNat = some b.toNat := by
    unfold toLower?
    rcases h with h | h
    · have h' : b.toNat < 0x41 := UInt8.lt_iff_toNat_lt.mp h
      rw [if_pos h']
    · have h' : 0x5A < b.toNat := UInt8.lt_iff_toNat_lt.mp h
      rw [if_neg (by omega), if_neg (by omega), if_pos (by omega)]
  simp [lcFirst, hb, ht, Utf8.encode, n0]

/-- `str[i+1:]` drops ONE byte: after a two-byte first rune the key keeps the rune's own continuation byte. -/
theorem lcFirst_keeps_continuation_bytes (b0 b1 : UInt8) (rest : Bytes) (l : Nat)
    (h0 : ¬ b0 < 0x80) (hlen : Utf8.seqLen (b0 :: b1 :: rest) = some 2)
    (hl : toLower? (Utf8.decode [b0, b1]) = some l) :
    lcFirst (b0 :: b1 :: rest) = some (Utf8.encode l ++ b1 :: rest) := by
  simp [lcFirst, h0, hlen, hl]

/-! ### Non-vacuity -/

section Examples

private def rowA (x : Dyn) : List (Bytes × Val) := [([0x61], .cell x .auto .none)]

/-- int8 field `A` ← the int 300 stored under `a`: 44. -/
example : mapTo genTables Ext.empty (rowA (.int .int 300)) (.pointerToStruct [⟨[0x41], .int .i8, true, .int .i8 7⟩])
    = .ok (.pointerToStruct [⟨[0x41], .int .i8, true, .int .i8 44⟩]) := by rfl

/-- The hypotheses of `mapTo_int_value` are satisfiable, and its conclusion is that 44. -/
example : ({ (⟨[0x41], .int .i8, true, .int .i8 7⟩ : Field) with current := .int .i8 (IntTy.wrap .i8 300) } : Field)
    = ⟨[0x41], .int .i8, true, .int .i8 44⟩ := by rfl
example : lcFirst [0x41] = some [0x61] ∧ lookup (rowA (.int .int 300)) [0x61] = some (.cell (.int .int 300) .auto .none)
    ∧ IntTy.inRange .int 300 := by
  refine ⟨by rfl, by rfl, by decide⟩

/-- An unexported field keeps its value; an unsigned field does not take a signed value; a string field
    does not take a number; the key `A` is never asked for. -/
example : mapTo genTables Ext.empty (rowA (.int .int (-1)))
      (.pointerToStruct [⟨[0x61], .int .int, false, .int .int 5⟩, ⟨[0x41], .int .u8, true, .int .u8 9⟩])
    = .ok (.pointerToStruct [⟨[0x61], .int .int, false, .int .int 5⟩, ⟨[0x41], .int .u8, true, .int .u8 9⟩]) := by rfl
example : mapTo genTables Ext.empty [([0x41], .cell (.int .int 1) .auto .none)]
      (.pointerToStruct [⟨[0x41], .int .int, true, .int .int 5⟩])
    = .ok (.pointerToStruct [⟨[0x41], .int .int, true, .int .int 5⟩]) := by rfl
example : mapTo genTables Ext.empty (rowA (.int .int 12)) (.pointerToStruct [⟨[0x41], .str, true, .str [0x78]⟩])
    = .ok (.pointerToStruct [⟨[0x41], .str, true, .str [0x78]⟩]) := by rfl

/-- uint8 field ← uint64 2^64-1: 255; uintptr field takes unsigned values. -/
example : mapTo genTables Ext.empty (rowA (.int .u64 18446744073709551615))
      (.pointerToStruct [⟨[0x41], .int .u8, true, .int .u8 0⟩])
    = .ok (.pointerToStruct [⟨[0x41], .int .u8, true, .int .u8 255⟩]) := by rfl
example : mapTo genTables Ext.empty (rowA (.int .u16 300)) (.pointerToStruct [⟨[0x41], .uintptr, true, .int .u64 0⟩])
    = .ok (.pointerToStruct [⟨[0x41], .uintptr, true, .int .u64 300⟩]) := by rfl

/-- float32 field ← 1e300: +Inf; ← a float64 signalling NaN: the quiet NaN. -/
example : mapTo genTables Ext.empty (rowA (.f64 0x7e37e43c8800759c)) (.pointerToStruct [⟨[0x41], .f32, true, .f32 0⟩])
    = .ok (.pointerToStruct [⟨[0x41], .f32, true, .f32 0x7f800000⟩]) := by rfl
example : mapTo genTables Ext.empty (rowA (.f64 0x7ff0000000000001)) (.pointerToStruct [⟨[0x41], .f32, true, .f32 0⟩])
    = .ok (.pointerToStruct [⟨[0x41], .f32, true, .f32 0x7fc00000⟩]) := by rfl

/-- string, bool, []byte; a json.Number, a nil and a nested row change nothing. -/
example : mapTo genTables Ext.empty
      [([0x61], .cell (.str [0x68, 0x69]) .auto .none), ([0x62], .cell (.bool true) .auto .none),
       ([0x63], .cell (.bytes [1, 2]) .auto .none), ([0x64], .cell (.num [0x31]) .auto .none),
       ([0x65], .cell .nil .auto .none), ([0x66], .row (.cons [0x78] (.cell (.int .int 1) .auto .none) .nil))]
      (.pointerToStruct [⟨[0x41], .str, true, .str []⟩, ⟨[0x42], .bool, true, .bool false⟩, ⟨[0x43], .bytes, true, .bytes []⟩,
        ⟨[0x44], .str, true, .str [0x77]⟩, ⟨[0x45], .int .int, true, .int .int 3⟩, ⟨[0x46], .other, true, .other 1⟩])
    = .ok (.pointerToStruct [⟨[0x41], .str, true, .str [0x68, 0x69]⟩, ⟨[0x42], .bool, true, .bool true⟩, ⟨[0x43], .bytes, true, .bytes [1, 2]⟩,
        ⟨[0x44], .str, true, .str [0x77]⟩, ⟨[0x45], .int .int, true, .int .int 3⟩, ⟨[0x46], .other, true, .other 1⟩]) := by rfl

/-- `École` asks for `é` ++ 0x89 ++ `cole` — never for `école`. -/
example : lcFirst [0xC3, 0x89, 0x63, 0x6F, 0x6C, 0x65] = some [0xC3, 0xA9, 0x89, 0x63, 0x6F, 0x6C, 0x65] := by decide
example : mapTo genTables Ext.empty
      [([0xC3, 0xA9, 0x63], .cell (.int .int 1) .auto .none), ([0xC3, 0xA9, 0x89, 0x63], .cell (.int .int 2) .auto .none)]
      (.pointerToStruct [⟨[0xC3, 0x89, 0x63], .int .int, true, .int .int 0⟩])
    = .ok (.pointerToStruct [⟨[0xC3, 0x89, 0x63], .int .int, true, .int .int 2⟩]) := by rfl

/-- An ill-formed first byte reads as U+FFFD. -/
example : lcFirst [0xFF, 0x41] = some [0xEF, 0xBF, 0xBD, 0x41] := by decide

/-- Not a struct: untouched. The abstention of `mapTo_total` exists (a name starting with U+20AC). -/
example : mapTo genTables Ext.empty (rowA (.int .int 1)) .nilPointer = .ok .nilPointer := by rfl
example : lcFirst [0xE2, 0x82, 0xAC] = none := by decide
example : mapTo genTables Ext.empty [] (.pointerToStruct [⟨[0xE2, 0x82, 0xAC], .int .int, true, .int .int 0⟩]) = .err .ext := by rfl

/-- `Matches` is satisfiable and refutable. -/
example : Matches (rowA (.int .int 300)) ⟨[0x41], .int .i8, true, .int .i8 7⟩ :=
  ⟨rfl, [0x61], .cell (.int .int 300) .auto .none, .sint, by rfl, by rfl, by rfl, by rfl⟩
example : ¬ Matches (rowA (.int .int 300)) ⟨[0x41], .int .u8, true, .int .u8 7⟩ := by
  intro ⟨_, key, v, c, hk, hv, h1, h2⟩
  have hk' : key = [0x61] := by
    have : lcFirst [0x41] = some [0x61] := by rfl
    simp only [this] at hk; exact (Option.some.inj hk).symm
  subst hk'
  have hv' : v = .cell (.int .int 300) .auto .none := by
    have : lookup (rowA (.int .int 300)) [0x61] = some (.cell (.int .int 300) .auto .none) := by rfl
    rw [this] at hv; exact (Option.some.inj hv).symm
  subst hv'
  simp [Cells.raw, clsOfDyn, IntTy.signed] at h1
  subst h1
  simp [clsOfKind, IntTy.signed] at h2

/-- The assertion CAN fail in the model: with tables whose `ToInt64` hands an int back as it is, or fails on
    it, the panic branch is taken — `mapTo_no_panic` is a statement about the regenerated tables, not about
    the shape of `mapTo`. A field that cannot take the value does not reach the assertion. -/
example : mapTo { genTables with casters := [⟨"ToInt64", [], .ret .val⟩] } Ext.empty (rowA (.int .int 1))
      (.pointerToStruct [⟨[0x41], .int .int, true, .int .int 0⟩]) = .panic "row.MapTo: i.(int64)" := by rfl
example : mapTo { genTables with casters := [⟨"ToInt64", [], .fail "ErrUnableToCastToInt64"⟩] } Ext.empty (rowA (.int .int 1))
      (.pointerToStruct [⟨[0x41], .int .int, true, .int .int 0⟩]) = .panic "row.MapTo: i.(int64)" := by rfl
example : mapTo { genTables with casters := [⟨"ToInt64", [], .fail "ErrUnableToCastToInt64"⟩] } Ext.empty (rowA (.int .int 1))
      (.pointerToStruct [⟨[0x41], .str, true, .str []⟩]) = .ok (.pointerToStruct [⟨[0x41], .str, true, .str []⟩]) := by rfl

end Examples

end Jl.MapTo
