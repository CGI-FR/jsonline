/-
  Proofs.ExportText — JSON TEXT handed straight to `Exporter.Export` / `Template.CreateRow` (a `string` or `[]byte`
  argument): the emitted line obeys the same rules as a line that went through an importer first (C01 valid line
  or nothing, C03 key order, C04 format classes).

  The text route: `CreateRow(text)` = `CreateRowEmpty` then `UnmarshalJSON(text)` into it, i.e. exactly
  `importer.GetRow` under the OUTPUT template; then `MarshalJSON` and a newline.  There is no second
  `CreateRow(Row)` pass: a declared column receives `importCell` under the output descriptor, not `NewValue` of an
  already imported raw value (`Swallowed.routes_differ`).
-/
import Model.Template
import Model.LineSpec
import Model.CastGen
import Proofs.Order
import Proofs.LineKeys
import Proofs.LineLevel
import Proofs.LineCast
import Proofs.LineValues
import Proofs.JsonPrint
import Proofs.TimeShape

namespace Jl.ExportText
open Jl Jl.Value Jl.Template Jl.Cast Jl.CastTyped
open Jl.JsonQuote (sanitize)
open Jl.JsonPrint (treeDyn treeVal treeMembers treeExported FloatTextOK)
open Jl.TimeShape (ZoneOK TimeSrcOK)
open Jl.LineLevel (leafCols RowOK CellOK JsonShape)
open Jl.Order (appendNew inputKeys formatAt)

/-! ### 1. The structural equation -/

/-- What the text route writes, in terms of `getRow` and `marshalRow` alone: `GetRow` under the
    OUTPUT template, print that very row, append LF. -/
def textLine (env : Env) (to : Tmpl) (line : Bytes) : Outcome (Bytes × Option ErrClass) :=
  match getRow env to line with
  | .err e => .err e
  | .panic s => .panic s
  | .ok (_, some e) => .ok ([], some e)
  | .ok (row, none) =>
    match RowPrint.marshalRow env (Members.ofList row) with
    | .ok b => .ok (b ++ [0x0A], none)
    | .err .ext => .err .ext
    | .err e => .ok ([], some e)
    | .panic s => .panic s

theorem textLine_eq (env : Env) (to : Tmpl) (line : Bytes) :
    textLine env to line = (getRow env to line).bind (printLine env) := by
  unfold textLine
  rcases getRow env to line with ⟨row, _ | e⟩ | e | s <;> rfl

theorem exportLine_str (env : Env) (to : Tmpl) (line : Bytes) :
    exportLine env to (.str line) = textLine env to line := by
  rw [exportLine_eq, Order.createRow_str, textLine_eq]

theorem exportLine_bytes_eq_str (env : Env) (to : Tmpl) (line : Bytes) :
    exportLine env to (.bytes line) = exportLine env to (.str line) := by
  rw [exportLine_eq, exportLine_eq, createRow_eq, createRow_eq]

theorem exportLine_text_ok_iff (env : Env) (to : Tmpl) (line b : Bytes) :
    exportLine env to (.str line) = .ok (b, none) ↔
      ∃ row body, getRow env to line = .ok (row, none) ∧
        RowPrint.marshalRow env (Members.ofList row) = .ok body ∧ b = body ++ [0x0A] := by
  rw [Order.exportLine_iff, Order.createRow_str]

theorem textLine_rejected (env : Env) (to : Tmpl) (line b : Bytes) (e : ErrClass)
    (h : textLine env to line = .ok (b, some e)) :
    b = [] ∧ ((∃ row, getRow env to line = .ok (row, some e)) ∨
      ∃ row, getRow env to line = .ok (row, none) ∧
        RowPrint.marshalRow env (Members.ofList row) = .err e) := by
  rw [textLine_eq, Outcome.bind_eq_ok] at h
  obtain ⟨⟨row, e'⟩, hget, h⟩ := h
  obtain ⟨hb, he | ⟨he, hm⟩⟩ := printLine_rejected h
  · obtain rfl : e' = some e := he
    exact ⟨hb, .inl ⟨row, hget⟩⟩
  · obtain rfl : e' = none := he
    exact ⟨hb, .inr ⟨row, hget, hm⟩⟩

/-- `Order.jlLine_ok` in the same words: the importer→exporter route runs `createRow(Row)` under the output template
    on the imported row before printing — the step the text route does not have. -/
theorem jlLine_steps (env : Env) (ti to : Tmpl) (line b : Bytes)
    (h : jlLine env ti to line = .ok (b, none)) :
    ∃ r row' body, getRow env ti line = .ok (r, none) ∧
      createRow env to (.val (.row (Members.ofList r))) = .ok (row', none) ∧
      RowPrint.marshalRow env (Members.ofList row') = .ok body ∧ b = body ++ [0x0A] :=
  Order.jlLine_ok env ti to line b h

/-! ### 2. C03 on the bytes for the text route

`UnmarshalJSON` into the clone of the output template: a declared key keeps its place and its
format (the values the decoder hands to `parseobject` are never cells: `LineLevel.JsonShape`), an
undeclared name is appended as an Auto cell at its first appearance.  Every cast table. -/

theorem memberStep_format {env : Env} {p : Option Val} {x : Dyn} {c : Val} {e : Option ErrClass}
    (hx : JsonShape x) (h : memberStep env p x = .ok (c, e)) :
    Cells.format c = (p.map Cells.format).getD .auto := by
  cases p with
  | none => cases h; rfl
  | some c0 => exact Order.importInto_format hx.not_cell h

theorem getRow_walked {env : Env} {to : Tmpl} {line : Bytes} {r : List (Bytes × Val)}
    (hto : (OMap.keys to).Nodup) (h : getRow env to line = .ok (r, none)) :
    Order.Walked to (inputKeys line) r := by
  obtain ⟨row0, l, h0, _, hl, hp⟩ := Order.getRow_accepted_iff.1 h
  have := Order.walked_of_walk hto h0 (fun kx hkx _ _ _ =>
    memberStep_format (LineLevel.ofJVMembers_shape env _ l hl kx hkx)) hp
  rw [Order.ofJVMembers_keys env _ l hl] at this
  exact this

theorem text_emitted (env : Env) (to : Tmpl) (line b : Bytes)
    (h : exportLine env to (.str line) = .ok (b, none)) (hx : FloatTextOK env.ext) :
    ∃ r body, getRow env to line = .ok (r, none) ∧
      RowPrint.marshalRow env (Members.ofList r) = .ok body ∧ b = body ++ [0x0A] ∧
      Json.unmarshal body = (treeMembers env (Members.ofList r), true) := by
  obtain ⟨r, body, hget, hm, hb⟩ := (exportLine_text_ok_iff env to line b).1 h
  exact ⟨r, body, hget, hm, hb, JsonPrint.unmarshal_marshalRow env hx _ body hm⟩

/-- C03 on the BYTES of a line the text route emitted, every cast table, every template with distinct column names:
    the object a JSON reader delivers for it has, in order, the template's visible columns in declaration order,
    then the input's undeclared names in order of first appearance — each as the escaper writes it (`sanitize`).
    This is `C03.emitted_bytes_keys` with `ti := to`, word for word. -/
theorem text_bytes_keys (env : Env) (to : Tmpl) (line b : Bytes)
    (h : exportLine env to (.str line) = .ok (b, none)) (hx : FloatTextOK env.ext)
    (hto : (OMap.keys to).Nodup) :
    ∃ body t, b = body ++ [0x0A] ∧ Json.unmarshal body = (t, true) ∧
      LineSpec.keysOf t =
        (((OMap.keys to).filter fun k => formatAt to k != some .hidden) ++
          (appendNew (OMap.keys to) (inputKeys line)).filter
            (fun k => decide (k ∉ OMap.keys to))).map sanitize := by
  obtain ⟨r, body, hget, _, hb, hu⟩ := text_emitted env to line b h hx
  refine ⟨body, _, hb, hu, ?_⟩
  rw [LineLevel.keysOf_tree, (getRow_walked hto hget).visibleKeys]

theorem text_bytes_keys_first_appearance (env : Env) (to : Tmpl) (line b : Bytes)
    (h : exportLine env to (.str line) = .ok (b, none)) (hx : FloatTextOK env.ext)
    (hto : (OMap.keys to).Nodup) :
    ∃ body t, b = body ++ [0x0A] ∧ Json.unmarshal body = (t, true) ∧
      LineSpec.keysOf t =
        (((OMap.keys to).filter fun k => formatAt to k != some .hidden) ++
          ((inputKeys line).filter (fun k => decide (k ∉ OMap.keys to))).eraseDups).map
          sanitize := by
  obtain ⟨body, t, hb, hu, hk⟩ := text_bytes_keys env to line b h hx hto
  refine ⟨body, t, hb, hu, ?_⟩
  rw [hk, Order.filter_appendNew_of_same_names (fun _ => Iff.rfl), Order.eraseDups_filter]

/-- The same in the words of the oracle (`LineSpec.expectedKeys`, first clause of
    `orderViolation`) — the analogue of `C03.emitted_bytes_keys_expected`. -/
theorem text_bytes_keys_expected (env : Env) (to : Tmpl) (line b : Bytes)
    (h : exportLine env to (.str line) = .ok (b, none)) (hx : FloatTextOK env.ext)
    (hto : (OMap.keys to).Nodup) :
    ∃ body t, b = body ++ [0x0A] ∧ Json.unmarshal body = (t, true) ∧
      LineSpec.keysOf t =
        (LineSpec.expectedKeys (leafCols to) (LineSpec.keysOf (Json.unmarshal line).1)).map
          sanitize := by
  obtain ⟨body, t, hb, hu, hk⟩ := text_bytes_keys_first_appearance env to line b h hx hto
  refine ⟨body, t, hb, hu, ?_⟩
  rw [hk, LineLevel.expectedKeys_leafCols to hto]
  rfl

theorem text_bytes_keys_of_bytes (env : Env) (to : Tmpl) (line b : Bytes)
    (h : exportLine env to (.bytes line) = .ok (b, none)) (hx : FloatTextOK env.ext)
    (hto : (OMap.keys to).Nodup) :
    ∃ body t, b = body ++ [0x0A] ∧ Json.unmarshal body = (t, true) ∧
      LineSpec.keysOf t =
        (LineSpec.expectedKeys (leafCols to) (LineSpec.keysOf (Json.unmarshal line).1)).map
          sanitize :=
  text_bytes_keys_expected env to line b (by rw [← exportLine_bytes_eq_str]; exact h) hx hto

theorem text_keys_nodup (env : Env) (to : Tmpl) (line : Bytes) (r : List (Bytes × Val))
    (hget : getRow env to line = .ok (r, none)) : (RowPrint.visibleKeys r).Nodup :=
  Order.visibleKeys_nodup (Order.getRow_keys_nodup env to line r hget)

theorem text_hidden_never_emitted (env : Env) (to : Tmpl) (line : Bytes) (r : List (Bytes × Val))
    (hto : (OMap.keys to).Nodup) (hget : getRow env to line = .ok (r, none))
    (k : Bytes) (hk : formatAt to k = some .hidden) : k ∉ RowPrint.visibleKeys r :=
  (getRow_walked hto hget).hidden hk

/-! ### 3. C04 on the bytes for the text route, over the regenerated cast tables

No hypothesis on the raw values: `LineLevel.member_in_class` holds of EVERY cell whose export
succeeded, and a cell whose export fails rejects the line.  The conditions left are those of
`C04.emitted_bytes_in_class` with the importer side gone: distinct names fixed by the escaper,
and — only when the template has a date-time column — printable zone offsets and no unprintable
`time.Time` in a prototype cell. -/

/-- The side conditions of the date-time verb for the text route (one template only). -/
def DateTimeSideText (ext : Ext) (to : Tmpl) : Prop := ZoneOK ext ∧ RowOK to

/-- C04 on the bytes, column by column: `LineLevel.emitted_line_classes_cell` for the text route. -/
theorem text_bytes_in_class_cell (ext : Ext) (to : Tmpl) (line b : Bytes)
    (h : exportLine ⟨genTables, ext⟩ to (.str line) = .ok (b, none)) (hx : FloatTextOK ext)
    (hto : (OMap.keys to).Nodup)
    (hdt : (∃ kv ∈ to, Cells.format kv.2 = .datetime) → DateTimeSideText ext to) :
    ∃ body t, b = body ++ [0x0A] ∧ Json.unmarshal body = (t, true) ∧
      ∀ k raw0 f typ, (k, Val.cell raw0 f typ) ∈ to →
        (∀ k' ∈ OMap.keys to ++ inputKeys line, sanitize k' = sanitize k → k' = k) →
        ∀ v, LineSpec.lookupJV t (sanitize k) = some v → LineSpec.inClass f v = true := by
  obtain ⟨r, body, hget, hm, hb, hu⟩ := text_emitted ⟨genTables, ext⟩ to line b h hx
  refine ⟨body, _, hb, hu, fun k raw0 f typ hmem hsep => ?_⟩
  have hw := getRow_walked hto hget
  exact LineLevel.printed_row_classes ext to r body hm hw.nodup (fun _ => hw.declared)
    (fun hd => ⟨(hdt hd).1, LineLevel.getRow_rowOK ext (hdt hd).1 to line r (hdt hd).2 hget⟩)
    k _ (OMap.lookup_of_mem hto hmem) fun k' hk' => hsep k' (hw.origin k' hk')

/-- C04 on the BYTES of a line the text route emitted, in the words of the oracle: `LineSpec.classViolation` finds
    nothing in the object a JSON reader delivers for it.  No hypothesis on the values: whatever the text holds under
    a declared name, the member is in its format's class or the line is rejected. -/
theorem text_bytes_in_class (ext : Ext) (to : Tmpl) (line b : Bytes) (fuel : Nat)
    (h : exportLine ⟨genTables, ext⟩ to (.str line) = .ok (b, none)) (hx : FloatTextOK ext)
    (hto : (OMap.keys to).Nodup) (hutf : ∀ k ∈ OMap.keys to, sanitize k = k)
    (hdt : (∃ kv ∈ to, Cells.format kv.2 = .datetime) → DateTimeSideText ext to) :
    ∃ body t, b = body ++ [0x0A] ∧ Json.unmarshal body = (t, true) ∧
      LineSpec.classViolation fuel (leafCols to) t = none := by
  obtain ⟨body, t, hb, hu, hall⟩ := text_bytes_in_class_cell ext to line b h hx hto hdt
  refine ⟨body, t, hb, hu, LineLevel.classViolation_none to t fuel fun k raw0 f typ hmem v hl => ?_⟩
  have hkm : k ∈ OMap.keys to := List.mem_map_of_mem (f := Prod.fst) hmem
  have hfix : ∀ k ∈ OMap.keys to ++ inputKeys line, sanitize k = k :=
    List.forall_mem_append.2 ⟨hutf, LineValues.inputKeys_fixed line⟩
  exact hall k raw0 f typ hmem
    (fun k' hk' hs => (hfix k' hk').symm.trans (hs.trans (hutf k hkm))) v (by rw [hutf k hkm]; exact hl)

theorem text_bytes_in_class_of_bytes (ext : Ext) (to : Tmpl) (line b : Bytes) (fuel : Nat)
    (h : exportLine ⟨genTables, ext⟩ to (.bytes line) = .ok (b, none)) (hx : FloatTextOK ext)
    (hto : (OMap.keys to).Nodup) (hutf : ∀ k ∈ OMap.keys to, sanitize k = k)
    (hdt : (∃ kv ∈ to, Cells.format kv.2 = .datetime) → DateTimeSideText ext to) :
    ∃ body t, b = body ++ [0x0A] ∧ Json.unmarshal body = (t, true) ∧
      LineSpec.classViolation fuel (leafCols to) t = none :=
  text_bytes_in_class ext to line b fuel (by rw [← exportLine_bytes_eq_str]; exact h) hx hto hutf hdt

/-! #### Why no "well-typed raw value" caveat is left

On the importer→exporter route the cell that is printed comes from `NewValue(raw, f, typ)`, which
keeps `raw` UNCAST when `cast.To(typ, raw)` fails (finding swallowed-cast).  On the text route it
comes from `importCell f typ x`: a failing cast rejects the line, so a printed cell of a column
declared with a raw type holds nil, a value of exactly that type, or — Auto/Hidden columns only —
the nested row the text held (C10 `import_typed`, here for decoder values). -/

theorem text_cell_typed (ext : Ext) (f : Format) (typ : Ty) (ht : typ ≠ .none) (x : Dyn) (c : Val)
    (hx : JsonShape x) (h : importCell ⟨genTables, ext⟩ f typ x = .ok (c, none)) :
    ∃ raw, c = .cell raw f typ ∧
      (raw = .nil ∨ typeOf raw = typ ∨ ∃ ms, raw = .val (.row ms) ∧ (f = .auto ∨ f = .hidden)) := by
  obtain ⟨r, rfl, hr⟩ := LineLevel.importCell_rawTyped ext hx.not_cell h
  exact ⟨r, rfl, (hr.resolve_left ht).imp_right .inl⟩

/-! ### 4. C01 for the text route -/

/-- C01 for `Export(text)`: when a line is emitted, what reaches the writer is one RFC 8259 object text
    (`Grammar.IsObjectText`, accepted by the reader) holding no newline byte, then exactly one newline, which is the
    last byte; and the INPUT text was itself one object text.  When an error is reported (import failure, syntax
    error, row that does not render) nothing at all is written. -/
theorem text_line_valid_or_nothing (env : Env) (hx : FloatTextOK env.ext) (to : Tmpl)
    (line w : Bytes) :
    (exportLine env to (.str line) = .ok (w, none) →
      ∃ body, w = body ++ [0x0A] ∧ Grammar.IsObjectText body ∧ Json.accepts body = true ∧
        (0x0A : UInt8) ∉ body ∧ w.count 0x0A = 1 ∧ w.getLast? = some 0x0A ∧
        Grammar.IsObjectText line) ∧
    (∀ e, exportLine env to (.str line) = .ok (w, some e) → w = []) := by
  refine ⟨fun h => ?_, fun e h => JsonPrint.exportLine_error env to _ w e h⟩
  obtain ⟨body, hb, hacc, hnl⟩ := JsonPrint.exportLine_valid env hx to _ w h
  obtain ⟨h1, h2⟩ := JsonPrint.exportLine_one_newline env hx to _ w h
  refine ⟨body, hb, (JsonAcc.accepts_iff body).1 hacc, hacc, hnl, h1, h2, ?_⟩
  obtain ⟨r, _, hget, _, _⟩ := (exportLine_text_ok_iff env to line w).1 h
  obtain ⟨_, _, _, hacc', _⟩ := Order.getRow_accepted_iff.1 hget
  exact (JsonAcc.accepts_iff line).1 hacc'

theorem bytes_line_valid_or_nothing (env : Env) (hx : FloatTextOK env.ext) (to : Tmpl)
    (line w : Bytes) :
    (exportLine env to (.bytes line) = .ok (w, none) →
      ∃ body, w = body ++ [0x0A] ∧ Grammar.IsObjectText body ∧ Json.accepts body = true ∧
        (0x0A : UInt8) ∉ body ∧ w.count 0x0A = 1 ∧ w.getLast? = some 0x0A ∧
        Grammar.IsObjectText line) ∧
    (∀ e, exportLine env to (.bytes line) = .ok (w, some e) → w = []) := by
  rw [exportLine_bytes_eq_str]
  exact text_line_valid_or_nothing env hx to line w

/-- One write or nothing, in the words of `C01.one_write_or_nothing`: the single write is the
    print of the row `GetRow` delivers under the output template, plus LF. -/
theorem text_one_write_or_nothing (env : Env) (to : Tmpl) (line w : Bytes) (e : Option ErrClass)
    (h : exportLine env to (.str line) = .ok (w, e)) :
    (e = none → ∃ row bs, getRow env to line = .ok (row, none) ∧
      RowPrint.marshalRow env (Members.ofList row) = .ok bs ∧ w = bs ++ [0x0A]) ∧
    (e ≠ none → w = []) := by
  cases e with
  | none =>
    exact ⟨fun _ => (exportLine_text_ok_iff env to line w).1 h, fun hn => absurd rfl hn⟩
  | some e =>
    exact ⟨fun hn => (by cases hn), fun _ => JsonPrint.exportLine_error env to _ w e h⟩


/-! ### 5. The text route is NOT `jlLine [] to`: finding swallowed-cast, kernel-checked

  Output template `c : string(int)`; text `{"c":""}`.  The text route imports `""` under the
  output descriptor: `cast.To(int, "")` fails, the import fails, the line is rejected and nothing
  is written.  The importer→exporter route (`jl` with no input template) first imports the member
  into an Auto cell, then `CreateRow(Row)` runs `NewValue("", string, int)`, which SWALLOWS the
  failing cast and keeps the string: the line `{"c":""}` is emitted. -/
namespace Swallowed
open RowPrint JsonWrite

def env : Env := ⟨genTables, Ext.empty⟩

/-- `c : string(int)` -/
def to : Tmpl := withCol [] [0x63] .string (.int .int)

/-- `{"c":""}` -/
def line : Bytes := [0x7B, 0x22, 0x63, 0x22, 0x3A, 0x22, 0x22, 0x7D]

theorem to_eq : to = [([0x63], .cell .nil .string (.int .int))] := by rfl

theorem text_rejected : exportLine env to (.str line) = .ok ([], some .unsupportedImport) := by
  decide +kernel

theorem getRow_nil : getRow env [] line = .ok ([([0x63], .cell (.str []) .auto .none)], none) := by
  decide +kernel

theorem createRow_imported :
    createRow env to (.val (.row (Members.ofList [([0x63], .cell (.str []) .auto .none)]))) =
      .ok ([([0x63], .cell (.str []) .string (.int .int))], none) := by decide +kernel

theorem export_c : exportVal env (.cell (.str []) .string (.int .int)) = .ok (.str []) := by
  decide +kernel

theorem jl_emitted : jlLine env [] to line = .ok (line ++ [0x0A], none) := by
  refine Order.jlLine_of_steps getRow_nil createRow_imported
    ((LineLevel.marshalRow_col env _ _ (by decide)).trans ?_)
  rw [LineLevel.marshalVal_of_export export_c (by rw [marshalExported_str])]
  decide +kernel

theorem routes_differ :
    exportLine env to (.str line) = .ok ([], some .unsupportedImport) ∧
    jlLine env [] to line = .ok (line ++ [0x0A], none) ∧
    exportLine env to (.str line) ≠ jlLine env [] to line := by
  refine ⟨text_rejected, jl_emitted, ?_⟩
  rw [text_rejected, jl_emitted]
  intro h
  cases h

/-- With the output template on the importer side too the first import is the same import: rejected, as on the
    text route. -/
theorem jl_same_template_rejected : jlLine env to to line = .ok ([], some .unsupportedImport) := by
  decide +kernel

end Swallowed


/-! ### 6. Non-vacuity: a concrete text through `Export` over the regenerated tables

  Template `c : numeric(int8)`, `h : hidden`; empty stdlib oracle.  The text
  `{"x":[{"q":1,"b":2}],"c":"12","h":5}` comes out as `{"c":12,"x":[{"q":1,"b":2}]}` and a
  newline (declared column first, converted through `int8`; hidden column gone; the undeclared
  member verbatim, inner order kept); `{"c":300}` is rejected (300 is no `int8`). -/
namespace Demo
open RowPrint JsonWrite

def env : Env := ⟨genTables, Ext.empty⟩

def tmpl : Tmpl := withCol (withCol [] [0x63] .numeric (.int .i8)) [0x68] .hidden .none

/-- `{"x":[{"q":1,"b":2}],"c":"12","h":5}` -/
def line : Bytes :=
  [0x7B, 0x22, 0x78, 0x22, 0x3A, 0x5B, 0x7B, 0x22, 0x71, 0x22, 0x3A, 0x31, 0x2C, 0x22, 0x62, 0x22,
   0x3A, 0x32, 0x7D, 0x5D, 0x2C, 0x22, 0x63, 0x22, 0x3A, 0x22, 0x31, 0x32, 0x22, 0x2C, 0x22, 0x68,
   0x22, 0x3A, 0x35, 0x7D]

/-- `{"c":12,"x":[{"q":1,"b":2}]}` -/
def out : Bytes :=
  [0x7B, 0x22, 0x63, 0x22, 0x3A, 0x31, 0x32, 0x2C, 0x22, 0x78, 0x22, 0x3A, 0x5B, 0x7B, 0x22, 0x71,
   0x22, 0x3A, 0x31, 0x2C, 0x22, 0x62, 0x22, 0x3A, 0x32, 0x7D, 0x5D, 0x7D]

theorem tmpl_nodup : (OMap.keys tmpl).Nodup := by decide

theorem inputKeys_line : inputKeys line = [[0x78], [0x63], [0x68]] := by decide +kernel

def inner : Members :=
  .cons [0x71] (.cell (.num [0x31]) .auto .none) (.cons [0x62] (.cell (.num [0x32]) .auto .none) .nil)

def imported : List (Bytes × Val) :=
  [([0x63], .cell (.int .i8 12) .numeric (.int .i8)),
   ([0x68], .cell (.num [0x35]) .hidden .none),
   ([0x78], .cell (.arr (.cons (.val (.row inner)) .nil)) .auto .none)]

theorem getRow_line : getRow env tmpl line = .ok (imported, none) := by decide +kernel

theorem createRow_line : createRow env tmpl (.str line) = .ok (imported, none) := by
  rw [Order.createRow_str]; exact getRow_line

theorem export_c :
    exportVal env (.cell (.int .i8 12) .numeric (.int .i8)) = .ok (.num [0x31, 0x32]) := by
  decide +kernel

theorem marshal_c :
    marshalVal env (.cell (.int .i8 12) .numeric (.int .i8)) = .ok [0x31, 0x32] :=
  RowRoundTrip.marshalVal_num export_c (by decide)

theorem marshal_imported : marshalRow env (Members.ofList imported) = .ok out := by
  -- the undeclared member: the Auto cell of the value the text held, printed as it was
  have hx := LineValues.marshalVal_cellOf env (w := .arr (.cons
    (.obj (.cons [0x71] (.num [0x31]) (.cons [0x62] (.num [0x32]) .nil))) .nil)) (by
      simp only [RoundTrip.AllV, RoundTrip.AllL, RoundTrip.AllM, RoundTrip.StrOK, RoundTrip.NumOK,
        and_true]
      decide +kernel)
  refine (JsonPrint.marshalRow_eq env _ (JsonPrint.marshalMembers_cons env _ _ _ (by decide) marshal_c
    ((JsonPrint.marshalMembers_hidden env _ _ _ rfl).trans
      (JsonPrint.marshalMembers_cons env _ _ _ (by decide) hx
        (JsonPrint.marshalMembers_nil env))))).trans ?_
  decide +kernel

theorem export_line : exportLine env tmpl (.str line) = .ok (out ++ [0x0A], none) :=
  (exportLine_text_ok_iff env tmpl line _).2 ⟨imported, out, getRow_line, marshal_imported, rfl⟩

theorem export_line_bytes : exportLine env tmpl (.bytes line) = .ok (out ++ [0x0A], none) := by
  rw [exportLine_bytes_eq_str]; exact export_line

/-- `{"c":300}` -/
def line300 : Bytes := [0x7B, 0x22, 0x63, 0x22, 0x3A, 0x33, 0x30, 0x30, 0x7D]

theorem rejected_300 : exportLine env tmpl (.str line300) = .ok ([], some .unsupportedImport) := by
  decide +kernel

theorem floatOK : FloatTextOK env.ext := LineLevel.floatOK_empty

theorem sanitize_c : sanitize [0x63] = [0x63] := by decide +kernel
theorem sanitize_h : sanitize [0x68] = [0x68] := by decide +kernel
theorem sanitize_x : sanitize [0x78] = [0x78] := by decide +kernel

theorem no_datetime : ¬ ∃ kv ∈ tmpl, Cells.format kv.2 = .datetime := by decide

/-- `text_bytes_keys_first_appearance` applies: the member names the reader delivers for `out` are `c`, `x`. -/
example : ∃ t, Json.unmarshal out = (t, true) ∧ LineSpec.keysOf t = [[0x63], [0x78]] := by
  obtain ⟨t, hu, hk⟩ := LineLevel.of_body
    (text_bytes_keys_first_appearance env tmpl line _ export_line floatOK tmpl_nodup)
  exact ⟨t, hu, hk.trans (by decide +kernel)⟩

example : ∃ t, Json.unmarshal out = (t, true) ∧
    LineSpec.keysOf t =
      (LineSpec.expectedKeys (leafCols tmpl) [[0x78], [0x63], [0x68]]).map sanitize ∧
    LineSpec.expectedKeys (leafCols tmpl) [[0x78], [0x63], [0x68]] = [[0x63], [0x78]] := by
  obtain ⟨t, hu, hk⟩ := LineLevel.of_body
    (text_bytes_keys_expected env tmpl line _ export_line floatOK tmpl_nodup)
  exact ⟨t, hu, hk.trans (by decide +kernel), by decide⟩

example : ∃ t, Json.unmarshal out = (t, true) ∧
    LineSpec.classViolation 8 (leafCols tmpl) t = none :=
  LineLevel.of_body (text_bytes_in_class Ext.empty tmpl line _ 8 export_line floatOK tmpl_nodup
    (by decide +kernel) (fun h => absurd h no_datetime))

/-- The two `example`s after it evaluate the oracle on a tree with the same member under `c`: no violation, and —
    the oracle is not vacuous — a string under `c` is reported. -/
theorem unmarshal_out : Json.unmarshal out =
    (.cons [0x63] (.num [0x31, 0x32])
      (.cons [0x78]
        (.arr (.cons (.obj (.cons [0x71] (.num [0x31]) (.cons [0x62] (.num [0x32]) .nil))) .nil))
        .nil), true) := by
  decide +kernel

example : LineSpec.classViolation 8 (leafCols tmpl)
    (.cons [0x63] (.num [0x31, 0x32]) (.cons [0x78] (.arr .nil) .nil)) = none := by decide

example : LineSpec.classViolation 8 (leafCols tmpl)
    (.cons [0x63] (.str [0x31, 0x32]) (.cons [0x78] (.arr .nil) .nil)) =
      some ("wrong-class-numeric", false) := by decide

example : Grammar.IsObjectText out ∧ (0x0A : UInt8) ∉ out := by
  obtain ⟨body, hb, hobj, _, hnl, _⟩ :=
    (text_line_valid_or_nothing env floatOK tmpl line _).1 export_line
  cases List.append_cancel_right hb
  exact ⟨hobj, hnl⟩

example : ∃ raw, Val.cell (.int .i8 12) .numeric (.int .i8) = .cell raw .numeric (.int .i8) ∧
    (raw = .nil ∨ typeOf raw = .int .i8 ∨
      ∃ ms, raw = .val (.row ms) ∧ (Format.numeric = .auto ∨ Format.numeric = .hidden)) :=
  text_cell_typed Ext.empty .numeric (.int .i8) (by decide) (.str [0x31, 0x32]) _ trivial
    (by decide +kernel)

/-- The date-time side condition is satisfiable. -/
example : DateTimeSideText Ext.empty (withCol tmpl [0x74] .datetime .none) :=
  ⟨LineLevel.zoneOK_empty,
    LineLevel.rowOK_withCol (LineLevel.rowOK_withCol (LineLevel.rowOK_withCol LineLevel.rowOK_nil
      _ _ _) _ _ _) _ _ _⟩

end Demo

end Jl.ExportText
