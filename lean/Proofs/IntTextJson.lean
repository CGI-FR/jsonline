/-
  Proofs.IntTextJson — encoding/json's `isValidNumber` in stages, its relation to the reader's number
  scanner, and the bytes FormatInt writes.  (That FormatInt's output is a valid, plain-decimal number
  follows from the grammar: end of Proofs.JsonLexical.)
-/
import Proofs.Digits
import Model.JsonWrite
import Model.CastSpec

namespace Jl.IntText
open JsonWrite

/-! ### `isValidNumber` in stages

Named copies of the inline `let`/`match` stages of `JsonWrite.isValidNumber`; the restatement
`isValidNumber_eq` holds by unfolding, case by case. -/

def stripMinus (s : Bytes) : Bytes :=
  match s with
  | 0x2D :: r => r
  | _ => s

def afterInt (s : Bytes) : Option Bytes :=
  match s with
  | [] => none
  | c :: r =>
    if c == 0x30 then some r
    else if 0x31 ≤ c && c ≤ 0x39 then some (dropDigits r)
    else none

def afterFrac (s : Bytes) : Option Bytes :=
  match s with
  | 0x2E :: d :: r => if JsonWrite.isDigit d then some (dropDigits r) else none
  | 0x2E :: [] => none
  | _ => some s

def afterExp (s : Bytes) : Option Bytes :=
  match s with
  | e :: r =>
    if e == 0x65 || e == 0x45 then
      let r := match r with
        | sg :: r' => if sg == 0x2B || sg == 0x2D then r' else r
        | [] => r
      match r with
      | d :: r' => if JsonWrite.isDigit d then some (dropDigits r') else none
      | [] => none
    else some s
  | [] => some s

def isNil (o : Option Bytes) : Bool :=
  match o with
  | some [] => true
  | _ => false

theorem isValidNumber_eq (s : Bytes) :
    isValidNumber s = isNil (((afterInt (stripMinus s)).bind afterFrac).bind afterExp) := by
  unfold isValidNumber
  split
  · rfl
  · show (match stripMinus s with | [] => false | c :: r => _) = _
    cases stripMinus s with
    | nil => rfl
    | cons c r =>
      simp only [afterInt]
      split
      · rename_i h; rw [h]; rfl
      · rename_i s1 h
        rw [h]
        show (match afterFrac s1 with | none => false | some s => isNil (afterExp s)) =
          isNil ((afterFrac s1).bind afterExp)
        cases afterFrac s1 <;> rfl

/-! ### The stages on their inputs -/

theorem stripMinus_minus (r : Bytes) : stripMinus (0x2D :: r) = r := rfl

theorem stripMinus_of_ne {c : UInt8} (tl : Bytes) (h : c ≠ 0x2D) :
    stripMinus (c :: tl) = c :: tl := by
  simp [stripMinus, h]

/-! ### Non-finite float spellings are not numbers

`ofString` goes through `String.toUTF8`, which plain `decide` does not unfold on a literal;
`with_unfolding_all` evaluates it (kernel-checked, no extra axioms). -/

theorem ofString_NaN : IntText.ofString "NaN" = [0x4E, 0x61, 0x4E] := by with_unfolding_all rfl
theorem ofString_pInf : IntText.ofString "+Inf" = [0x2B, 0x49, 0x6E, 0x66] := by
  with_unfolding_all rfl
theorem ofString_mInf : IntText.ofString "-Inf" = [0x2D, 0x49, 0x6E, 0x66] := by
  with_unfolding_all rfl
theorem ofString_Inf : IntText.ofString "Inf" = [0x49, 0x6E, 0x66] := by with_unfolding_all rfl

theorem isValidNumber_NaN : isValidNumber (IntText.ofString "NaN") = false := by
  with_unfolding_all decide
theorem isValidNumber_pInf : isValidNumber (IntText.ofString "+Inf") = false := by
  with_unfolding_all decide
theorem isValidNumber_mInf : isValidNumber (IntText.ofString "-Inf") = false := by
  with_unfolding_all decide
theorem isValidNumber_Inf : isValidNumber (IntText.ofString "Inf") = false := by
  with_unfolding_all decide

example : isValidNumber [0x4E, 0x61, 0x4E] = false := by decide
example : isValidNumber [0x2B, 0x49, 0x6E, 0x66] = false := by decide
example : isValidNumber [0x2D, 0x49, 0x6E, 0x66] = false := by decide
example : isValidNumber [0x49, 0x6E, 0x66] = false := by decide

/-! ### `isValidNumber` and the reader's `scanNumber` accept the same texts -/

theorem digits_cons (c : UInt8) (r : Bytes) :
    Json.digits (c :: r) =
      if Json.isDigit c then (c :: (Json.digits r).1, (Json.digits r).2) else ([], c :: r) := by
  simp only [Json.digits]

theorem dropDigits_eq (s : Bytes) : dropDigits s = (Json.digits s).2 := by
  fun_induction Json.digits s <;> simp_all [dropDigits, isDigit_eq]

theorem digits_append_eq (s : Bytes) : (Json.digits s).1 ++ (Json.digits s).2 = s := by
  fun_induction Json.digits s <;> simp_all

def stripSign (r : Bytes) : Bytes :=
  match r with
  | sg :: r' => if sg == 0x2B || sg == 0x2D then r' else r
  | [] => r

def needDigit (r : Bytes) : Option Bytes :=
  match r with
  | d :: r' => if JsonWrite.isDigit d then some (dropDigits r') else none
  | [] => none

theorem afterExp_cons (e : UInt8) (r : Bytes) :
    afterExp (e :: r) =
      if e == 0x65 || e == 0x45 then needDigit (stripSign r) else some (e :: r) := rfl

theorem afterFrac_dot (r : Bytes) : afterFrac (0x2E :: r) = needDigit r := by
  cases r <;> rfl

theorem afterFrac_of_ne {c : UInt8} (r : Bytes) (h : c ≠ 0x2E) :
    afterFrac (c :: r) = some (c :: r) := by
  simp [afterFrac, h]

theorem digits_needDigit (r : Bytes) :
    (if (Json.digits r).1.isEmpty then none else some (Json.digits r).2 : Option Bytes)
      = needDigit r := by
  cases r with
  | nil => rfl
  | cons d r' =>
    by_cases h : Json.isDigit d = true
    · simp [digits_cons, needDigit, isDigit_eq, h, dropDigits_eq]
    · simp [digits_cons, needDigit, isDigit_eq, h]

/-- `o`: a scanner's answer on `s`; `after`: what the validator leaves of `s`. -/
def ScanAgrees (o : Option (Bytes × Bytes)) (s : Bytes) (after : Option Bytes) : Prop :=
  o.map (·.2) = after ∧ ∀ l r, o = some (l, r) → l ++ r = s

theorem ScanAgrees.none {s : Bytes} : ScanAgrees none s none := ⟨rfl, nofun⟩

theorem ScanAgrees.some {l r s : Bytes} (h : l ++ r = s) : ScanAgrees (some (l, r)) s (some r) :=
  ⟨rfl, fun _ _ e => by cases e; exact h⟩

theorem ScanAgrees.map {o : Option (Bytes × Bytes)} {s s' : Bytes} {a : Option Bytes} {f : Bytes → Bytes}
    (h : ScanAgrees o s a) (hf : ∀ l r, l ++ r = s → f l ++ r = s') :
    ScanAgrees (o.map fun p => (f p.1, p.2)) s' a := by
  cases o with
  | none => exact ⟨h.1, nofun⟩
  | some p => exact ⟨h.1, fun _ _ e => by cases e; exact hf _ _ (h.2 _ _ rfl)⟩

theorem scanInt_scans (s : Bytes) : ScanAgrees (Json.scanInt s) s (afterInt s) := by
  cases s with
  | nil => exact .none
  | cons c r =>
    simp only [Json.scanInt, afterInt, dropDigits_eq]
    split
    · exact .some rfl
    · split
      · exact .some (congrArg (c :: ·) (digits_append_eq r))
      · exact .none

theorem scanExp_scans (s : Bytes) : ScanAgrees (Json.scanExp s) s (needDigit (stripSign s)) := by
  rw [← digits_needDigit]
  unfold Json.scanExp stripSign
  cases s with
  | nil => exact .none
  | cons c t =>
    simp only []
    split <;> (simp only []; split)
    · exact .none
    · exact .some (congrArg (c :: ·) (digits_append_eq t))
    · exact .none
    · exact .some (digits_append_eq (c :: t))

theorem scanFracExp_scans (s : Bytes) : ScanAgrees (Json.scanFracExp s) s ((afterFrac s).bind afterExp) := by
  cases s with
  | nil => exact .some rfl
  | cons c r =>
    by_cases hc : c = 0x2E
    · subst hc
      rw [afterFrac_dot, ← digits_needDigit]
      simp only [Json.scanFracExp, beq_self_eq_true, if_true]
      have hd := digits_append_eq r
      split
      · exact .none
      · simp only [Option.bind_some]
        cases h : (Json.digits r).2 with
        | nil =>
          rw [h, List.append_nil] at hd
          exact .some (by rw [List.append_nil, hd])
        | cons e r'' =>
          rw [h] at hd
          simp only [afterExp_cons]
          split
          · exact (scanExp_scans r'').map (f := fun x => 0x2E :: (Json.digits r).1 ++ e :: x)
              fun l q hl => by simp only [List.cons_append, List.append_assoc, hl, hd]
          · exact .some (congrArg (0x2E :: ·) hd)
    · rw [afterFrac_of_ne r hc, Option.bind_some, afterExp_cons]
      simp only [Json.scanFracExp, beq_iff_eq, hc, if_false]
      split
      · exact (scanExp_scans r).map (f := (c :: ·)) fun l q hl => congrArg (c :: ·) hl
      · exact .some rfl

theorem scanNumber_scans (s : Bytes) :
    ScanAgrees (Json.scanNumber s) s (((afterInt (stripMinus s)).bind afterFrac).bind afterExp) := by
  have key : ∀ (p t : Bytes), ScanAgrees
      (match Json.scanInt t with
        | none => none
        | some (ip, r1) =>
          match Json.scanFracExp r1 with
          | none => none
          | some (fe, r2) => some (p ++ ip ++ fe, r2))
      (p ++ t) (((afterInt t).bind afterFrac).bind afterExp) := fun p t => by
    obtain ⟨h1, h1'⟩ := scanInt_scans t
    rw [← h1]
    rcases hi : Json.scanInt t with _ | ⟨ip, r1⟩
    · exact .none
    obtain ⟨h2, h2'⟩ := scanFracExp_scans r1
    simp only [Option.map_some, Option.bind_some, ← h2]
    rcases hf : Json.scanFracExp r1 with _ | ⟨fe, r2⟩
    · exact .none
    exact .some (by rw [List.append_assoc, List.append_assoc, h2' fe r2 hf, h1' ip r1 hi])
  cases s with
  | nil => exact .none
  | cons c t =>
    by_cases hc : c = 0x2D
    · subst hc
      simp only [Json.scanNumber, beq_self_eq_true, if_true, stripMinus_minus]
      exact key [0x2D] t
    · simp only [Json.scanNumber, beq_iff_eq, hc, if_false, stripMinus_of_ne t hc]
      exact key [] (c :: t)

theorem stripMinus_cases (s : Bytes) : s = 0x2D :: stripMinus s ∨ stripMinus s = s := by
  unfold stripMinus
  split
  · exact .inl rfl
  · exact .inr rfl

theorem scanNumber_snd (s : Bytes) :
    (Json.scanNumber s).map (·.2) = ((afterInt (stripMinus s)).bind afterFrac).bind afterExp :=
  (scanNumber_scans s).1

theorem scanNumber_lit {s l r : Bytes} (h : Json.scanNumber s = some (l, r)) : l ++ r = s :=
  (scanNumber_scans s).2 l r h

theorem isNil_eq_true {o : Option Bytes} : isNil o = true ↔ o = some [] := by
  fun_cases isNil o <;> simp_all

theorem isValidNumber_iff_scanNumber (s : Bytes) :
    isValidNumber s = true ↔ Json.scanNumber s = some (s, []) := by
  rw [isValidNumber_eq, isNil_eq_true, ← scanNumber_snd]
  constructor
  · intro h
    obtain ⟨⟨l, r⟩, hs, rfl⟩ := Option.map_eq_some_iff.1 h
    rw [hs, ← scanNumber_lit hs, List.append_nil]
  · intro h; rw [h]; rfl

/-! ### The bytes of FormatInt's output -/

theorem formatInt_bytes (v : Int) : ∀ c ∈ formatInt v, c = 0x2D ∨ IsDig c := by
  intro c hc
  unfold formatInt at hc
  split at hc
  · exact (List.mem_cons.1 hc).imp_right (natDigits_all_isDig _ c)
  · exact .inr (natDigits_all_isDig _ c hc)

theorem not_mem_formatInt (v : Int) {c : UInt8} (h1 : c ≠ 0x2D) (h2 : ¬ IsDig c) :
    (formatInt v).contains c = false := by
  simp only [List.contains_eq_mem, decide_eq_false_iff_not]
  exact fun h => (formatInt_bytes v c h).elim h1 h2

example : isValidNumber [0x2D, 0x31, 0x32, 0x38] = true := by decide
example : isValidNumber [0x30] = true := by decide
example : isValidNumber [0x30, 0x31] = false := by decide
example : isValidNumber [0x2D] = false := by decide
example : CastSpec.plainDecimal [0x2D, 0x31, 0x32, 0x38] = true := by decide
example : CastSpec.plainDecimal [0x31, 0x65, 0x32] = false := by decide
example : isValidNumber [0x31, 0x65, 0x32] = true := by decide

end Jl.IntText
