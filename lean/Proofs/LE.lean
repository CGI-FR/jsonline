/-
  Proofs.LE — encoding/binary's put/get in both byte orders and two's complement (Model.LE): the round
  trips for every byte count `n`, and the fixed-width integer round trips made of them.
-/
import Model.LE

namespace Jl.LE

/-! ### Little endian -/

theorem put_length (n x : Nat) : (put n x).length = n := by
  induction n generalizing x with
  | zero => rfl
  | succ n ih => simp [put, ih]

theorem get_put (n x : Nat) : get (put n x) = x % 256 ^ n := by
  induction n generalizing x with
  | zero => simp [put, get, Nat.mod_one]
  | succ n ih =>
    have h1 : (UInt8.ofNat (x % 256)).toNat = x % 256 := by
      rw [UInt8.toNat_ofNat']; omega
    have h2 : x % (256 * 256 ^ n) = x % 256 + 256 * (x / 256 % 256 ^ n) := Nat.mod_mul
    have h3 : 256 ^ (n + 1) = 256 * 256 ^ n := by rw [Nat.pow_succ, Nat.mul_comm]
    rw [put, get, ih, h1, h3, h2]

theorem get_lt (bs : Bytes) : get bs < 256 ^ bs.length := by
  induction bs with
  | nil => simp [get]
  | cons b rest ih =>
    have hb : b.toNat < 256 := UInt8.toNat_lt b
    simp only [get, List.length_cons, Nat.pow_succ]
    omega

theorem put_get (n : Nat) (bs : Bytes) (h : bs.length = n) : put n (get bs) = bs := by
  induction bs generalizing n with
  | nil => subst h; rfl
  | cons b rest ih =>
    subst h
    have hb : b.toNat < 256 := UInt8.toNat_lt b
    have h1 : (b.toNat + 256 * get rest) % 256 = b.toNat := by omega
    have h2 : (b.toNat + 256 * get rest) / 256 = get rest := by omega
    simp only [List.length_cons, put, get, h1, h2, UInt8.ofNat_toNat, ih _ rfl]

theorem put_mod (n x : Nat) : put n (x % 256 ^ n) = put n x := by
  rw [← get_put n x, put_get n _ (put_length n x)]

theorem put_inj (n x y : Nat) (hx : x < 256 ^ n) (hy : y < 256 ^ n) (h : put n x = put n y) :
    x = y := by
  have := congrArg get h
  rwa [get_put, get_put, Nat.mod_eq_of_lt hx, Nat.mod_eq_of_lt hy] at this

theorem get_inj (bs cs : Bytes) (hl : bs.length = cs.length) (h : get bs = get cs) : bs = cs := by
  rw [← put_get _ bs rfl, ← put_get _ cs rfl, h, hl]

/-! ### Big endian -/

theorem putBE_length (n x : Nat) : (putBE n x).length = n := by
  simp [putBE, put_length]

theorem getBE_putBE (n x : Nat) : getBE (putBE n x) = x % 256 ^ n := by
  simp [getBE, putBE, get_put]

theorem getBE_lt (bs : Bytes) : getBE bs < 256 ^ bs.length := by
  have := get_lt bs.reverse
  simpa [getBE] using this

theorem putBE_getBE (n : Nat) (bs : Bytes) (h : bs.length = n) : putBE n (getBE bs) = bs := by
  simp [putBE, getBE, put_get n bs.reverse (by simpa using h)]

example : put 2 1 ≠ putBE 2 1 := by decide
example : put 4 0x01020304 = [4, 3, 2, 1] := by decide
example : putBE 4 0x01020304 = [1, 2, 3, 4] := by decide
example : get [4, 3, 2, 1] = 0x01020304 := by decide
example : getBE [4, 3, 2, 1] = 0x04030201 := by decide
/-- Truncation, as `PutUint16(uint16(x))`. -/
example : put 2 0x12345 = [0x45, 0x23] := by decide

theorem putBE_eq_reverse (n x : Nat) : putBE n x = (put n x).reverse := rfl

/-! ### Two's complement -/

theorem toU_lt (bits : Nat) (v : Int) : toU bits v < 2 ^ bits := by
  have hpos : (0 : Int) < 2 ^ bits := Int.pow_pos (by decide)
  have h1 := Int.emod_lt_of_pos v hpos
  have h0 := Int.emod_nonneg v (Int.ne_of_gt hpos)
  have hc : ((2 ^ bits : Nat) : Int) = (2 : Int) ^ bits := by simp
  unfold toU
  omega

theorem toU_of_nonneg (bits : Nat) (v : Int) (h0 : 0 ≤ v) (h1 : v < 2 ^ bits) :
    toU bits v = v.toNat := by
  unfold toU
  rw [Int.emod_eq_of_lt h0 h1]

theorem toU_natCast (bits u : Nat) (h : u < 2 ^ bits) : toU bits (u : Int) = u := by
  have hc : ((2 ^ bits : Nat) : Int) = (2 : Int) ^ bits := by simp
  rw [toU_of_nonneg bits u (by omega) (by omega)]
  simp

private theorem two_pow_pred (bits : Nat) (hb : 1 ≤ bits) :
    (2 : Int) ^ bits = 2 * 2 ^ (bits - 1) := by
  obtain ⟨k, rfl⟩ : ∃ k, bits = k + 1 := ⟨bits - 1, by omega⟩
  simp [Int.pow_succ, Int.mul_comm]

theorem ofU_toU (bits : Nat) (v : Int) (hb : 1 ≤ bits)
    (hlo : -(2 ^ (bits - 1) : Int) ≤ v) (hhi : v < 2 ^ (bits - 1)) :
    ofU bits (toU bits v) = v := by
  have hp := two_pow_pred bits hb
  have hpos : (0 : Int) < 2 ^ (bits - 1) := Int.pow_pos (by decide)
  have hc : ((2 ^ (bits - 1) : Nat) : Int) = (2 : Int) ^ (bits - 1) := by simp
  unfold ofU toU
  by_cases hv : 0 ≤ v
  · rw [Int.emod_eq_of_lt hv (by omega)]
    have : ¬ v.toNat ≥ 2 ^ (bits - 1) := by omega
    rw [if_neg this]; omega
  · have hm : v % 2 ^ bits = v + 2 ^ bits := by
      rw [← Int.add_emod_right, Int.emod_eq_of_lt (by omega) (by omega)]
    rw [hm]
    have : (v + 2 ^ bits).toNat ≥ 2 ^ (bits - 1) := by omega
    rw [if_pos this]; omega

theorem toU_ofU (bits u : Nat) (h : u < 2 ^ bits) : toU bits (ofU bits u) = u := by
  have hc : ((2 ^ bits : Nat) : Int) = (2 : Int) ^ bits := by simp
  unfold ofU
  split
  · unfold toU
    rw [Int.sub_emod_right, Int.emod_eq_of_lt (by omega) (by omega)]
    simp
  · exact toU_natCast bits u h

theorem toU_mod {a b : Nat} (h : b ≤ a) (v : Int) : toU a v % 2 ^ b = toU b v := by
  have hpos (k : Nat) : (0 : Int) ≤ v % 2 ^ k := Int.emod_nonneg v (Int.ne_of_gt (Int.pow_pos (by decide)))
  have hdvd : (2 : Int) ^ b ∣ 2 ^ a := ⟨2 ^ (a - b), by rw [← Int.pow_add, Nat.add_sub_cancel' h]⟩
  apply Int.ofNat.inj
  simp only [toU, Int.ofNat_eq_natCast, Int.natCast_emod, Int.toNat_of_nonneg (hpos _), Int.natCast_pow,
    Int.cast_ofNat_Int]
  exact Int.emod_emod_of_dvd v hdvd

theorem ofU_range (bits u : Nat) (hb : 1 ≤ bits) (h : u < 2 ^ bits) :
    -(2 ^ (bits - 1) : Int) ≤ ofU bits u ∧ ofU bits u < 2 ^ (bits - 1) := by
  have hp := two_pow_pred bits hb
  have hc : ((2 ^ bits : Nat) : Int) = (2 : Int) ^ bits := by simp
  have hc' : ((2 ^ (bits - 1) : Nat) : Int) = (2 : Int) ^ (bits - 1) := by simp
  unfold ofU
  split <;> omega

example : toU 8 (-1) = 255 := by decide
example : ofU 8 255 = -1 := by decide
example : ofU 8 128 = -128 := by decide
example : ofU 8 127 = 127 := by decide
example : toU 16 (-32768) = 32768 := by decide

/-! ### Fixed-width integers: `n` bytes, `8 * n` bits -/

theorem pow256 (n : Nat) : 256 ^ n = 2 ^ (8 * n) := by
  rw [Nat.pow_mul]

theorem put_toU {n a : Nat} (h : 8 * n ≤ a) (v : Int) : put n (toU a v) = put n (toU (8 * n) v) := by
  rw [← put_mod, pow256, toU_mod h]

theorem put_succ_last (n x : Nat) :
    put (n + 1) x = put n x ++ [UInt8.ofNat (x / 256 ^ n % 256)] := by
  induction n generalizing x with
  | zero => simp [put]
  | succ n ih =>
    rw [put, ih (x / 256), put, Nat.div_div_eq_div_mul, Nat.pow_succ, Nat.mul_comm]
    rfl

/-- Unsigned value side: `Uint<8n>(PutUint<8n>(v)) = v`. -/
theorem get_put_of_lt (n v : Nat) (h : v < 256 ^ n) : get (put n v) = v := by
  rw [get_put, Nat.mod_eq_of_lt h]

/-- Signed value side: `int<8n>(Uint<8n>(PutUint<8n>(uint<8n>(v)))) = v`. -/
theorem signed_roundtrip (n : Nat) (v : Int) (hn : 1 ≤ n)
    (hlo : -(2 ^ (8 * n - 1) : Int) ≤ v) (hhi : v < 2 ^ (8 * n - 1)) :
    ofU (8 * n) (get (put n (toU (8 * n) v))) = v := by
  rw [get_put_of_lt n _ (by rw [pow256]; exact toU_lt _ v)]
  exact ofU_toU (8 * n) v (by omega) hlo hhi

/-- Big endian.  The caster writes little endian; its integer types are in `CastBin.IntTy.ofBits_toU`,
    `toU_ofBits`. -/
theorem signed_roundtripBE (n : Nat) (v : Int) (hn : 1 ≤ n)
    (hlo : -(2 ^ (8 * n - 1) : Int) ≤ v) (hhi : v < 2 ^ (8 * n - 1)) :
    ofU (8 * n) (getBE (putBE n (toU (8 * n) v))) = v := by
  have : getBE (putBE n (toU (8 * n) v)) = get (put n (toU (8 * n) v)) := by
    simp [getBE, putBE]
  rw [this]; exact signed_roundtrip n v hn hlo hhi

theorem signed_imageBE (n : Nat) (bs : Bytes) (h : bs.length = n) :
    putBE n (toU (8 * n) (ofU (8 * n) (getBE bs))) = bs := by
  have hlt : getBE bs < 2 ^ (8 * n) := by rw [← pow256, ← h]; exact getBE_lt bs
  rw [toU_ofU _ _ hlt, putBE_getBE n bs h]

end Jl.LE
