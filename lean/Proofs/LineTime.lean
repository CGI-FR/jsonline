/-
  Proofs.LineTime — C14 (Props/C14, over Proofs.Time) at LINE level: the cell-level statements carried through
  `jlLine` and stated on what the model of the reader delivers for the bytes written, over the regenerated cast
  tables and EVERY `Ext`.  A text the RFC 3339 parser accepts is ASCII and in the year / whole-minute domain
  (`parseRFC3339_asc`, `parsed_domain`), so a one-column line is written without any domain hypothesis.

  The input line is given by what the reader delivers for it (`Json.unmarshal line = (.cons k (.str s) .nil, true)`:
  any spelling of the one-member object); `lineOfStr` / `lineOfInt` (Proofs.LineColumn) are the literal spellings
  `{"k":"s"}` / `{"k":n}`, for which that hypothesis is proved.
-/
import Proofs.TimeShape
import Proofs.LineColumn
import Proofs.LineKeys
import Proofs.Order
import Proofs.JsonPrint
import Proofs.Time
import Proofs.CastTyped
import Proofs.LineCast
import Proofs.LineValues
import Proofs.DecEq
import Proofs.Pairings

open Jl Jl.Value Jl.Template Jl.Cast Jl.CastTyped
open Jl.JsonQuote (sanitize)
open Jl.JsonPrint (treeDyn treeVal treeMembers treeExported numText FloatTextOK)
open Jl.IntText
open Jl.LineCast
open Jl.LineLevel (read_back lookupJV_single unmarshal_objText)

namespace Jl.LineTime


/-! ### 0. Cell-level facts about the regenerated tables -/

theorem toTime_of_string (ext : Ext) (s : Bytes) (t : GoTime) (h : Time.parseRFC3339 s = some t) :
    castNamed genTables ext "ToTime" (.str s) = .ok (.time t) :=
  CasterFacts.toTime_str ext s t h

theorem timestamp_of_time (ext : Ext) (t : GoTime) :
    castNamed genTables ext "ToTimestamp" (.time t) = .ok (.int .i64 t.sec) :=
  CasterFacts.toTimestamp_time ext t


/-! ### 1. One column: the line's way through importer and exporter, computed -/

def IsDT (f : Format) (ty : Ty) : Prop := f = .datetime ∧ (ty = .none ∨ ty = .time)

def IsTS (f : Format) (ty : Ty) : Prop := f = .timestamp ∧ (ty = .none ∨ ty = .int .i64)

theorem withCol_nil (k : Bytes) (f : Format) (ty : Ty) :
    withCol [] k f ty = [(k, .cell .nil f ty)] := rfl

/-! #### The cell steps for a date-time string -/

theorem export_timestamp_time (ext : Ext) (t : GoTime) (ty : Ty) :
    exportVal ⟨genTables, ext⟩ (.cell (.time t) .timestamp ty) = .ok (.int .i64 t.sec) :=
  CasterFacts.export_single rfl (timestamp_of_time ext t) (by simp)

theorem marshal_datetime_time (ext : Ext) (t : GoTime) (ty : Ty)
    (h0 : 0 ≤ Time.year t) (h1 : Time.year t ≤ 9999) :
    RowPrint.marshalVal ⟨genTables, ext⟩ (.cell (.time t) .datetime ty) =
      .ok (JsonWrite.quote (Time.formatRFC3339 t)) := by
  rw [marshalVal_cell_ok (TimeShape.datetime_column_of_time ext t ty h0 h1),
    marshalExported_str]

theorem marshal_timestamp_time (ext : Ext) (t : GoTime) (ty : Ty) :
    RowPrint.marshalVal ⟨genTables, ext⟩ (.cell (.time t) .timestamp ty) =
      .ok (formatInt t.sec) := by
  rw [marshalVal_cell_ok (export_timestamp_time ext t ty), marshalExported_int]


/-! #### A text the RFC 3339 parser accepts is ASCII (so the reader delivers it unchanged) -/

theorem asc_nil : Pairings.Ascii [] := fun _ h => by cases h

theorem asc_cons {c : UInt8} {s : Bytes} (hc : c < 0x80) (hs : Pairings.Ascii s) :
    Pairings.Ascii (c :: s) :=
  List.forall_mem_cons.2 ⟨hc, hs⟩

theorem asc_digit {c : UInt8} {s : Bytes} (h : Time.isDigit c = true) (hs : Pairings.Ascii s) :
    Pairings.Ascii (c :: s) :=
  asc_cons (LineLevel.digit_ascii (c := c) h) hs

theorem num12_asc {s : Bytes} {n : Nat} {r : Bytes} (h : Time.num12 s = some (n, r))
    (hr : Pairings.Ascii r) : Pairings.Ascii s := by
  revert h
  fun_cases Time.num12 s <;> intro h <;> cases h
  · exact asc_digit ‹_› (asc_digit ‹_› hr)
  · exact asc_digit ‹_› hr
  · exact asc_digit ‹_› hr

theorem num2_asc {s : Bytes} {n : Nat} {r : Bytes} (h : Time.num2 s = some (n, r))
    (hr : Pairings.Ascii r) : Pairings.Ascii s := by
  obtain ⟨a, b, rfl, ha, hb⟩ := TimeShape.num2_some h
  exact asc_digit ha (asc_digit hb hr)

theorem expect_asc {c : UInt8} (hc : c < 0x80) {s r : Bytes} (h : Time.expect c s = some r)
    (hr : Pairings.Ascii r) : Pairings.Ascii s := by
  cases TimeShape.expect_some h
  exact asc_cons hc hr

theorem parseHead_some {s : Bytes} {y : Int} {m d hh mi ss : Nat} {r : Bytes}
    (h : Time.parseHead s = some ((y, m, d, hh, mi, ss), r)) :
    ∃ s1 s2 s3 s4 s5 s6, Time.parseDatePart s = some (y, m, d, s1) ∧ Time.expect 0x54 s1 = some s2 ∧
      Time.num12 s2 = some (hh, s3) ∧ Time.expect 0x3A s3 = some s4 ∧ Time.num2 s4 = some (mi, s5) ∧
      Time.expect 0x3A s5 = some s6 ∧ Time.num2 s6 = some (ss, r) := by
  simp only [Time.parseHead, Option.bind_eq_bind, Option.bind_eq_some_iff] at h
  obtain ⟨⟨y', m', d', s1⟩, h1, s2, h2, ⟨hh', s3⟩, h3, s4, h4, ⟨mi', s5⟩, h5, s6, h6, ⟨ss', s7⟩, h7, h⟩ := h
  cases h
  exact ⟨s1, s2, s3, s4, s5, s6, h1, h2, h3, h4, h5, h6, h7⟩

theorem parseHead_asc {s : Bytes} {f : Time.Fields} {r : Bytes}
    (h : Time.parseHead s = some (f, r)) (hr : Pairings.Ascii r) : Pairings.Ascii s := by
  obtain ⟨y, m, d, hh, mi, ss⟩ := f
  obtain ⟨s1, s2, s3, s4, s5, s6, h1, h2, h3, h4, h5, h6, h7⟩ := parseHead_some h
  obtain ⟨⟨dt, rfl, hdt⟩, _⟩ := TimeShape.parseDatePart_some h1
  exact List.forall_mem_append.2 ⟨Pairings.ascii_dateText hdt,
    expect_asc (by decide) h2 (num12_asc h3 (expect_asc (by decide) h4 (num2_asc h5
      (expect_asc (by decide) h6 (num2_asc h7 hr)))))⟩

theorem parseZone_asc {z : Bytes} {off : Int} {r : Bytes} (h : Time.parseZone z = some (off, r))
    (hr : Pairings.Ascii r) : Pairings.Ascii z := by
  rcases Time.parseZone_some h with ⟨rfl, _⟩ | ⟨sign, h1, h2, m1, m2, _, _, rfl, hs, ⟨d1, d2, d3, d4⟩, _⟩
  · exact asc_cons (by decide) hr
  · exact asc_cons (by rcases hs with rfl | rfl <;> decide) (asc_digit d1 (asc_digit d2
      (asc_cons (by decide) (asc_digit d3 (asc_digit d4 hr)))))

theorem parseFrac_asc {s : Bytes} (h : Pairings.Ascii (Time.parseFrac s).2) : Pairings.Ascii s := by
  unfold Time.parseFrac at h
  split at h
  · rename_i p d rest
    split at h
    · rename_i hc
      simp only [Bool.and_eq_true, Bool.or_eq_true, beq_iff_eq] at hc
      simp only at h
      have hp : p < 0x80 := by rcases hc.1 with rfl | rfl <;> decide
      exact asc_cons hp (LineLevel.dropWhile_digit_ascii (d :: rest) h)
    · exact h
  · exact h

theorem parseRFC3339_asc {s : Bytes} {t : GoTime} (h : Time.parseRFC3339 s = some t) :
    Pairings.Ascii s := by
  obtain ⟨y, m, d, hh, mi, ss, rest, off, hhead, hz, _⟩ := Time.parseRFC3339_some h
  exact parseHead_asc hhead (parseFrac_asc (parseZone_asc hz asc_nil))

theorem sanitize_parsed {s : Bytes} {t : GoTime} (h : Time.parseRFC3339 s = some t) :
    sanitize s = s :=
  JsonPrint.sanitize_of_ascii s (parseRFC3339_asc h)


/-! #### What the parser accepts is already in most of the domain

  The hypotheses "year in 0..9999" and "whole-minute offset" of the cell theorems hold of EVERY time
  the RFC 3339 parser delivers (four year digits; `±hh:mm`).  Only "offset below 24 h" is a genuine
  restriction: the parser takes `+24:60` (25 h), which `Format` writes as `+25:00`, which the parser
  refuses. -/

theorem parsed_domain {s : Bytes} {t : GoTime} (h : Time.parseRFC3339 s = some t) :
    0 ≤ Time.year t ∧ Time.year t ≤ 9999 ∧ t.off % 60 = 0 := by
  have h60 := (Time.parseRFC3339_off h).1
  obtain ⟨y, m, d, hh, mi, ss, rest, off, hhead, _, h1, h2, h3, rfl⟩ := Time.parseRFC3339_some h
  obtain ⟨s1, _, _, _, _, _, hd, _⟩ := parseHead_some hhead
  obtain ⟨_, hy0, hy1, hv⟩ := TimeShape.parseDatePart_some hd
  have hc := Time.civilOf_seconds (y := y) (m := m) (d := d) (Time.parseFrac rest).1 off hv h1 h2 h3
  refine ⟨?_, ?_, h60⟩
  · unfold Time.year; rw [hc]; exact hy0
  · unfold Time.year; rw [hc]; exact hy1

/-! #### The reader's side -/

theorem reads_rfc3339 (t : GoTime) : JsonPrint.ReadsAs (JsonWrite.quote (Time.formatRFC3339 t))
    (.str (Time.formatRFC3339 t)) := by
  have := JsonPrint.readsAs_quote (Time.formatRFC3339 t)
  rwa [Pairings.sanitize_formatRFC3339] at this

theorem unmarshal_datetime_out {k : Bytes} (hk : sanitize k = k) (t : GoTime) :
    Json.unmarshal (objText k (JsonWrite.quote (Time.formatRFC3339 t))) =
      (.cons k (.str (Time.formatRFC3339 t)) .nil, true) := by
  rw [unmarshal_objText (reads_rfc3339 t), hk]

end Jl.LineTime

/-! ### 1, for every descriptor pair of the harness

  Here because 1(a), 1(b) and section 3 below are instances; in the namespace under which Props/C14 and
  Proofs.LineTimeMore (which imports this file) cite them. -/
namespace Jl.LineTimeMore
open Jl.LineTime (objText lineOfStr IsDT IsTS)

def NumTy (ty : Ty) : Prop := (∃ T, ty = .int T) ∨ ty = .f64 ∨ ty = .f32

theorem NumTy.isNumeric {ty : Ty} (h : NumTy ty) : isNumeric ty = true := by
  rcases h with ⟨T, rfl⟩ | rfl | rfl <;> rfl

/-- The raw types under which a cell given a `time.Time` HOLDS it afterwards: none, `time.Time` (the cast is the
    identity), numeric (the cast fails, `NewValue` keeps the value uncast). -/
def KeepTy (ty : Ty) : Prop := ty = .none ∨ ty = .time ∨ NumTy ty

theorem newValue_time_keep (ext : Ext) (f : Format) {ty : Ty} (h : KeepTy ty) (t : GoTime) :
    newValue ⟨genTables, ext⟩ (.time t) f ty = .ok (.cell (.time t) f ty) :=
  newValue_time ext f (h.imp_right fun h => h.imp_right NumTy.isNumeric) t

/-- The input descriptors of the harness's C14 pairs. -/
def IsDTin (fi : Format) (tyi : Ty) : Prop :=
  (fi = .datetime ∧ (tyi = .none ∨ tyi = .time)) ∨ ((fi = .string ∨ fi = .auto) ∧ tyi = .time)

theorem IsDTin.of_isDT {fi : Format} {tyi : Ty} (h : IsDT fi tyi) : IsDTin fi tyi := .inl h

theorem import_in_string (ext : Ext) {fi : Format} {tyi : Ty} (hi : IsDTin fi tyi) (s : Bytes)
    (t : GoTime) (h : Time.parseRFC3339 s = some t) :
    importCell ⟨genTables, ext⟩ fi tyi (.str s) = .ok (.cell (.time t) fi tyi, none) := by
  have hc := CasterFacts.toTime_str ext s t h
  rcases hi with ⟨rfl, rfl | rfl⟩ | ⟨rfl | rfl, rfl⟩
  · exact CasterFacts.importCell_untyped rfl hc trivial
  · exact CasterFacts.importCell_cast (f := .datetime) rfl rfl hc trivial
  · exact CasterFacts.importCell_cast (f := .string) rfl rfl hc trivial
  · exact CasterFacts.importCell_auto ((CasterFacts.castTo_cast ext rfl _).trans hc) trivial

/-- Every one-column time line goes through this: `LineLevel.jlLine_col` with its three cell steps; left to the
    caller is the text `marshalVal` gives for the cell (`hm`). -/
theorem line_of_marshal (ext : Ext) (k : Bytes) {fi fo : Format} {tyi tyo : Ty}
    (hi : IsDTin fi tyi) (ho : KeepTy tyo) (hvis : fo ≠ .hidden) (line s : Bytes) (t : GoTime)
    (txt : Bytes)
    (hline : Json.unmarshal line = (.cons k (.str s) .nil, true))
    (hp : Time.parseRFC3339 s = some t)
    (hm : RowPrint.marshalVal ⟨genTables, ext⟩ (.cell (.time t) fo tyo) = .ok txt) :
    jlLine ⟨genTables, ext⟩ (withCol [] k fi tyi) (withCol [] k fo tyo) line =
      .ok (objText k txt ++ [0x0A], none) :=
  LineLevel.jlLine_col _ k (gen_newValue_nil ext fi tyi) (gen_newValue_nil ext fo tyo) line (.str s)
    (.str s) _ _ _ hline rfl (import_in_string ext hi s t hp) (newValue_time_keep ext fo ho t)
    (by simpa [Cells.format] using hvis) hm

/-! #### The output descriptors -/

/-- Covers `datetime(T)` for EVERY integer and float type `T`; the harness uses int64, int, float64, uint32. -/
def IsDTout (fo : Format) (tyo : Ty) : Prop := fo = .datetime ∧ KeepTy tyo

def IsStrOut (fo : Format) (tyo : Ty) : Prop := fo = .string ∧ tyo = .time

def IsAutoOut (fo : Format) (tyo : Ty) : Prop := fo = .auto ∧ tyo = .time

/-- The output descriptors that write the RFC 3339 text of the time. -/
def IsTextOut (fo : Format) (tyo : Ty) : Prop := IsDTout fo tyo ∨ IsStrOut fo tyo

/-- Covers `timestamp(T)` for every integer and float type `T`; the harness uses int64, float32, float64, int,
    uint64, int16. -/
def IsTSout (fo : Format) (tyo : Ty) : Prop := fo = .timestamp ∧ KeepTy tyo

theorem IsTextOut.of_isDT {fo : Format} {tyo : Ty} (h : IsDT fo tyo) : IsTextOut fo tyo := by
  obtain ⟨hf, hty⟩ := h
  refine .inl ⟨hf, ?_⟩
  rcases hty with e | e
  · exact .inl e
  · exact .inr (.inl e)

theorem IsTSout.of_isTS {fo : Format} {tyo : Ty} (h : IsTS fo tyo) : IsTSout fo tyo := by
  obtain ⟨hf, hty⟩ := h
  refine ⟨hf, ?_⟩
  rcases hty with e | e
  · exact .inl e
  · exact .inr (.inr (.inl ⟨_, e⟩))

theorem IsTextOut.keep {fo : Format} {tyo : Ty} (h : IsTextOut fo tyo) : KeepTy tyo := by
  rcases h with ⟨_, h⟩ | ⟨_, rfl⟩
  · exact h
  · exact .inr (.inl rfl)

theorem marshal_string_time (ext : Ext) (t : GoTime) (ty : Ty)
    (h0 : 0 ≤ Time.year t) (h1 : Time.year t ≤ 9999) :
    RowPrint.marshalVal ⟨genTables, ext⟩ (.cell (.time t) .string ty) =
      .ok (JsonWrite.quote (Time.formatRFC3339 t)) := by
  rw [marshalVal_cell_ok (CasterFacts.export_single rfl
    (CasterFacts.toString_time ext t h0 h1) (by simp)), marshalExported_str]

theorem marshal_text_time (ext : Ext) (t : GoTime) {fo : Format} {tyo : Ty} (ho : IsTextOut fo tyo)
    (h0 : 0 ≤ Time.year t) (h1 : Time.year t ≤ 9999) :
    RowPrint.marshalVal ⟨genTables, ext⟩ (.cell (.time t) fo tyo) =
      .ok (JsonWrite.quote (Time.formatRFC3339 t)) := by
  rcases ho with ⟨rfl, _⟩ | ⟨rfl, _⟩
  · exact LineTime.marshal_datetime_time ext t tyo h0 h1
  · exact marshal_string_time ext t tyo h0 h1

/-- What is written is `{"k":"<text>"}` and a newline, `<text>` = `t.Format(time.RFC3339)`: the instant read at the
    offset read, no fraction.  No domain hypothesis at all (`parsed_domain`). -/
theorem text_line_written (ext : Ext) (k : Bytes) {fi fo : Format} {tyi tyo : Ty}
    (hi : IsDTin fi tyi) (ho : IsTextOut fo tyo) (line s : Bytes) (t : GoTime)
    (hline : Json.unmarshal line = (.cons k (.str s) .nil, true))
    (hp : Time.parseRFC3339 s = some t) :
    jlLine ⟨genTables, ext⟩ (withCol [] k fi tyi) (withCol [] k fo tyo) line =
      .ok (objText k (JsonWrite.quote (Time.formatRFC3339 t)) ++ [0x0A], none) := by
  have hd := LineTime.parsed_domain hp
  refine line_of_marshal ext k hi ho.keep ?_ line s t _ hline hp
    (marshal_text_time ext t ho hd.1 hd.2.1)
  rcases ho with ⟨rfl, _⟩ | ⟨rfl, _⟩ <;> simp


/-- The conclusion of `text_line` on the bytes `b`. -/
def SameTimeText (k : Bytes) (t : GoTime) (b : Bytes) : Prop :=
  ∃ body tree, b = body ++ [0x0A] ∧ Json.unmarshal body = (tree, true) ∧
    ∃ s', LineSpec.lookupJV tree k = some (.str s') ∧
      ∃ t', Time.parseRFC3339 s' = some t' ∧ t'.sec = t.sec ∧ t'.off = t.off ∧ t'.nsec = 0

/-- 1(a), for every descriptor pair: the emitted member `k` is a string that parses to the same instant AND the same
    offset, with no sub-second part. -/
theorem text_line (ext : Ext) (k : Bytes) (hk : sanitize k = k) {fi fo : Format} {tyi tyo : Ty}
    (hi : IsDTin fi tyi) (ho : IsTextOut fo tyo) (line s : Bytes) (t : GoTime)
    (hline : Json.unmarshal line = (.cons k (.str s) .nil, true))
    (hp : Time.parseRFC3339 s = some t) (hlo : -86400 < t.off) (hhi : t.off < 86400) :
    (∃ b, jlLine ⟨genTables, ext⟩ (withCol [] k fi tyi) (withCol [] k fo tyo) line = .ok (b, none)) ∧
    ∀ b, jlLine ⟨genTables, ext⟩ (withCol [] k fi tyi) (withCol [] k fo tyo) line = .ok (b, none) →
      SameTimeText k t b :=
  have hd := LineTime.parsed_domain hp
  read_back (text_line_written ext k hi ho line s t hline hp)
    (LineTime.unmarshal_datetime_out hk t)
    ⟨_, lookupJV_single _ _, _, Time.C14_parse_format t hd.1 hd.2.1 hd.2.2 hlo hhi, rfl, rfl,
      rfl⟩

/-- 1(b), date-time in, timestamp out, for every descriptor pair.  Whether or not the second fits `T`:
    `cast.To(T, time.Time)` fails before looking at the value (`timestamp(int16)` does NOT reject a 2021 instant),
    the cell keeps the `time.Time`, and `ToTimestamp` of it is `Unix()`. -/
theorem ts_line_written (ext : Ext) (k : Bytes) {fi fo : Format} {tyi tyo : Ty}
    (hi : IsDTin fi tyi) (ho : IsTSout fo tyo) (line s : Bytes) (t : GoTime)
    (hline : Json.unmarshal line = (.cons k (.str s) .nil, true))
    (hp : Time.parseRFC3339 s = some t) :
    jlLine ⟨genTables, ext⟩ (withCol [] k fi tyi) (withCol [] k fo tyo) line =
      .ok (objText k (formatInt t.sec) ++ [0x0A], none) := by
  obtain ⟨rfl, hty⟩ := ho
  exact line_of_marshal ext k hi hty (by simp) line s t _ hline hp
    (LineTime.marshal_timestamp_time ext t tyo)

end Jl.LineTimeMore

namespace Jl.LineTime

/-! ### 1(a). Date-time in, date-time out -/

theorem datetime_line_literal (ext : Ext) (k : Bytes) (hk : sanitize k = k) {fi fo : Format}
    {tyi tyo : Ty} (hi : IsDT fi tyi) (ho : IsDT fo tyo) (s : Bytes) (t : GoTime)
    (hp : Time.parseRFC3339 s = some t) (hy0 : 0 ≤ Time.year t) (hy1 : Time.year t ≤ 9999)
    (h60 : t.off % 60 = 0) (hlo : -86400 < t.off) (hhi : t.off < 86400) :
    ∃ body tree s' t',
      jlLine ⟨genTables, ext⟩ (withCol [] k fi tyi) (withCol [] k fo tyo) (lineOfStr k s) =
        .ok (body ++ [0x0A], none) ∧
      Json.unmarshal body = (tree, true) ∧ LineSpec.lookupJV tree k = some (.str s') ∧
      Time.parseRFC3339 s' = some t' ∧ t'.sec = t.sec ∧ t'.off = t.off ∧ t'.nsec = 0 := by
  obtain ⟨⟨b, hb⟩, hall⟩ := LineTimeMore.text_line ext k hk (.of_isDT hi) (.of_isDT ho) (lineOfStr k s) s t
    (unmarshal_lineOfStr hk (sanitize_parsed hp)) hp hlo hhi
  obtain ⟨body, tree, rfl, hu, s', hl, t', ht', h1, h2, h3⟩ := hall b hb
  exact ⟨body, tree, s', t', hb, hu, hl, ht', h1, h2, h3⟩

theorem datetime_line_zone_independent (ext₁ ext₂ : Ext) (k : Bytes) {fi fo : Format} {tyi tyo : Ty}
    (hi : IsDT fi tyi) (ho : IsDT fo tyo) (line s : Bytes) (t : GoTime)
    (hline : Json.unmarshal line = (.cons k (.str s) .nil, true))
    (hp : Time.parseRFC3339 s = some t) (hy0 : 0 ≤ Time.year t) (hy1 : Time.year t ≤ 9999) :
    jlLine ⟨genTables, ext₁⟩ (withCol [] k fi tyi) (withCol [] k fo tyo) line =
      jlLine ⟨genTables, ext₂⟩ (withCol [] k fi tyi) (withCol [] k fo tyo) line := by
  rw [LineTimeMore.text_line_written ext₁ k (.of_isDT hi) (.of_isDT ho) line s t hline hp,
    LineTimeMore.text_line_written ext₂ k (.of_isDT hi) (.of_isDT ho) line s t hline hp]

/-! ### 1(c). Unix seconds in, date-time out -/

theorem parse_sec (t : GoTime) (hy0 : 0 ≤ Time.year t) (hy1 : Time.year t ≤ 9999)
    (hlo : -86400 < t.off) (hhi : t.off < 86400) :
    parseInt0 (formatInt t.sec) 64 = some t.sec := by
  have hb := Time.sec_range_of_year t hy0 hy1 hlo hhi
  rw [parseInt0_formatInt, if_pos]
  constructor <;> simp <;> omega

theorem import_timestamp_num (ext : Ext) {tyi : Ty} (hty : tyi = .none ∨ tyi = .int .i64)
    (lit : Bytes) (n : Int) (h : parseInt0 lit 64 = some n) :
    importCell ⟨genTables, ext⟩ .timestamp tyi (.num lit) =
      .ok (.cell (.int .i64 n) .timestamp tyi, none) := by
  rcases hty with rfl | rfl
  · refine CasterFacts.importCell_untyped rfl ?_ trivial
    rw [CasterFacts.toInt64_num ext lit, h]
  · refine CasterFacts.importCell_cast (f := .timestamp) (name := "ToInt64") rfl rfl ?_ trivial
    rw [CasterFacts.toInt64_num ext lit, h]

theorem marshal_datetime_int64 (ext : Ext) (n off : Int) (ty : Ty)
    (hz : ext.zoneOffset n = some off) (hlo : -(2 ^ 62 : Int) < n) (hhi : n < 2 ^ 62)
    (h0 : 0 ≤ Time.year ⟨n, 0, off⟩) (h1 : Time.year ⟨n, 0, off⟩ ≤ 9999) :
    RowPrint.marshalVal ⟨genTables, ext⟩ (.cell (.int .i64 n) .datetime ty) =
      .ok (JsonWrite.quote (Time.formatRFC3339 ⟨n, 0, off⟩)) := by
  rw [marshalVal_cell_ok (CasterFacts.export_via rfl
    (TimeShape.toTime_of_int64 ext n off hz hlo hhi) (TimeShape.toString_of_time ext _ h0 h1)
    (by simp)), marshalExported_str]

theorem unix_line_written (ext : Ext) (k : Bytes) {fi fo : Format} {tyi tyo : Ty}
    (hi : IsTS fi tyi) (ho : IsDT fo tyo) (line lit : Bytes) (n off : Int)
    (hline : Json.unmarshal line = (.cons k (.num lit) .nil, true))
    (hn : parseInt0 lit 64 = some n) (hz : ext.zoneOffset n = some off)
    (hy0 : 0 ≤ Time.year ⟨n, 0, off⟩) (hy1 : Time.year ⟨n, 0, off⟩ ≤ 9999)
    (hlo : -86400 < off) (hhi : off < 86400) :
    jlLine ⟨genTables, ext⟩ (withCol [] k fi tyi) (withCol [] k fo tyo) line =
      .ok (objText k (JsonWrite.quote (Time.formatRFC3339 ⟨n, 0, off⟩)) ++ [0x0A], none) := by
  obtain ⟨rfl, hti⟩ := hi
  obtain ⟨rfl, hto⟩ := ho
  obtain ⟨hb1, hb2⟩ := Time.sec_bounds_of_year ⟨n, 0, off⟩ hy0 hy1 hlo hhi
  have himp := import_timestamp_num ext hti lit n hn
  -- the exporter's cell holds the `int64` itself (no raw type) or `time.Unix(n, 0)` in the process zone
  rcases hto with rfl | rfl
  · exact LineLevel.jlLine_col _ k (gen_newValue_nil ext _ _) (gen_newValue_nil ext _ _) line (.num lit) (.num lit) _ _ _ hline
      rfl himp (by simp [newValue, Cells.raw, gen_castTo_none]) (by simp [Cells.format])
      (marshal_datetime_int64 ext n off .none hz hb1 hb2 hy0 hy1)
  · exact LineLevel.jlLine_col _ k (gen_newValue_nil ext _ _) (gen_newValue_nil ext _ _) line (.num lit) (.num lit) _ _ _ hline
      rfl himp
      (by simp [newValue, Cells.raw, CasterFacts.castTo_cast ext (ty := .time) rfl,
        CasterFacts.toTime_i64 ext n off hz ⟨hb1, hb2⟩])
      (by simp [Cells.format]) (marshal_datetime_time ext _ .time hy0 hy1)

/-- 1(c): the emitted member `k` is a string that parses to exactly `⟨n, 0, off⟩` — instant `n`, at the process
    zone's offset at that instant. -/
theorem unix_line (ext : Ext) (k : Bytes) (hk : sanitize k = k) {fi fo : Format} {tyi tyo : Ty}
    (hi : IsTS fi tyi) (ho : IsDT fo tyo) (line lit : Bytes) (n off : Int)
    (hline : Json.unmarshal line = (.cons k (.num lit) .nil, true))
    (hn : parseInt0 lit 64 = some n) (hz : ext.zoneOffset n = some off)
    (hy0 : 0 ≤ Time.year ⟨n, 0, off⟩) (hy1 : Time.year ⟨n, 0, off⟩ ≤ 9999)
    (h60 : off % 60 = 0) (hlo : -86400 < off) (hhi : off < 86400) :
    (∃ b, jlLine ⟨genTables, ext⟩ (withCol [] k fi tyi) (withCol [] k fo tyo) line = .ok (b, none)) ∧
    ∀ b, jlLine ⟨genTables, ext⟩ (withCol [] k fi tyi) (withCol [] k fo tyo) line = .ok (b, none) →
      ∃ body tree, b = body ++ [0x0A] ∧ Json.unmarshal body = (tree, true) ∧
        ∃ s', LineSpec.lookupJV tree k = some (.str s') ∧
          Time.parseRFC3339 s' = some ⟨n, 0, off⟩ :=
  read_back (unix_line_written ext k hi ho line lit n off hline hn hz hy0 hy1 hlo hhi)
    (unmarshal_datetime_out hk _)
    ⟨_, lookupJV_single _ _, Time.C14_parse_format ⟨n, 0, off⟩ hy0 hy1 h60 hlo hhi⟩

theorem unix_line_literal (ext : Ext) (k : Bytes) (hk : sanitize k = k) {fi fo : Format}
    {tyi tyo : Ty} (hi : IsTS fi tyi) (ho : IsDT fo tyo) (n off : Int)
    (hz : ext.zoneOffset n = some off)
    (hy0 : 0 ≤ Time.year ⟨n, 0, off⟩) (hy1 : Time.year ⟨n, 0, off⟩ ≤ 9999)
    (h60 : off % 60 = 0) (hlo : -86400 < off) (hhi : off < 86400) :
    ∃ body tree s',
      jlLine ⟨genTables, ext⟩ (withCol [] k fi tyi) (withCol [] k fo tyo) (lineOfInt k n) =
        .ok (body ++ [0x0A], none) ∧
      Json.unmarshal body = (tree, true) ∧ LineSpec.lookupJV tree k = some (.str s') ∧
      Time.parseRFC3339 s' = some ⟨n, 0, off⟩ := by
  have hw := unix_line_written ext k hi ho (lineOfInt k n) (formatInt n) n off
    (unmarshal_lineOfInt hk n) (parse_sec ⟨n, 0, off⟩ hy0 hy1 hlo hhi) hz hy0 hy1 hlo hhi
  exact ⟨_, _, _, hw, unmarshal_datetime_out hk _, lookupJV_single _ _,
    Time.C14_parse_format ⟨n, 0, off⟩ hy0 hy1 h60 hlo hhi⟩


/-! ### 2. The oracle's own words

  `Driver.Line.c14LineViolation` judges the implementation's observation (`panic` / rejected /
  accepted with bytes) against the input text.  Restated here over a model outcome (no module of Proofs/
  imports Driver/; nothing compares the two texts): its accepted branch whole and, of its rejected branch, the
  FIRST clause only (`c14Rejected`, `explicit-offset-string-rejected`); the second, `integer-timestamp-rejected`
  (a line whose members are all integers 0 .. 253402214400 is not rejected), is not restated, so on rejected lines
  `c14Violation` is weaker than the driver's oracle. -/

/-- The body of the oracle's fold: one input member against the output tree. -/
def c14Step (outMs : JVMembers) (acc : Option String) (kv : Bytes × JV) : Option String :=
  match acc with
  | some _ => acc
  | none =>
    match kv.2 with
    | .str s =>
      match Time.parseRFC3339 s with
      | some want =>
        match LineSpec.lookupJV outMs kv.1 with
        | some (.str out) =>
          (match Time.parseRFC3339 out with
           | some back =>
             if back.sec != want.sec then some "instant-changed"
             else if back.off != want.off then some "offset-changed"
             else if back.nsec != 0 then some "subsecond-not-dropped"
             else none
           | none => some "written-text-unreadable")
        | some (.num lit) =>
          (match IntText.parseInt0 lit 64 with
           | some v => if v == want.sec then none else some "timestamp-differs-from-instant"
           | none => some "timestamp-not-an-integer")
        | _ => some "member-missing-or-wrong-type"
      | none => none
    | _ => none

/-- The fold, over the input members with repeated names resolved. -/
def c14Trees (inMs outMs : JVMembers) : Option String :=
  (LineSpec.normDup inMs).toList.foldl (c14Step outMs) none

def c14Accepted (input bytes : Bytes) : Option String :=
  match bytes.reverse with
  | 0x0A :: revBody =>
    let (outMs, okOut) := Json.unmarshal revBody.reverse
    let (inMs, okIn) := Json.unmarshal input
    if !okOut || !okIn then some "invalid-json-object"
    else c14Trees inMs outMs
  | _ => some "no-trailing-newline"

/-- The first clause of the rejected branch: a line all of whose members are readable date-times in the
    domain must not be rejected. -/
def c14Rejected (input : Bytes) : Option String :=
  let (inMs, okIn) := Json.unmarshal input
  if okIn && inMs.toList.all (fun kv => match kv.2 with
      | .str s => (match Time.parseRFC3339 s with
        | some t => let y := Time.year t; 0 ≤ y && y ≤ 9999 && t.off % 60 == 0 && t.off.natAbs < 86400
        | none => false)
      | _ => false) && !inMs.toList.isEmpty then some "explicit-offset-string-rejected"
  else none

def c14Violation (input : Bytes) (o : Outcome (Bytes × Option ErrClass)) : Option String :=
  match o with
  | .panic _ => some "panic"
  | .ok (b, none) => c14Accepted input b
  | _ => c14Rejected input

theorem c14Accepted_of_trees (input body : Bytes) (inMs outMs : JVMembers)
    (hin : Json.unmarshal input = (inMs, true)) (hout : Json.unmarshal body = (outMs, true)) :
    c14Accepted input (body ++ [0x0A]) = c14Trees inMs outMs := by
  simp [c14Accepted, List.reverse_append, hin, hout]

theorem c14Violation_written {line k s txt : Bytes} {v : JV}
    (hline : Json.unmarshal line = (.cons k (.str s) .nil, true))
    (hu : Json.unmarshal (objText k txt) = (.cons k v .nil, true)) :
    c14Violation line (.ok (objText k txt ++ [0x0A], none)) =
      c14Step (.cons k v .nil) none (k, .str s) := by
  simp only [c14Violation]
  rw [c14Accepted_of_trees line _ _ _ hline hu, c14Trees,
    normDup_single k (.str s) (by simp [LineSpec.normDupV]), List.foldl_cons, List.foldl_nil]

theorem c14Step_datetime (k s : Bytes) (t : GoTime) (hp : Time.parseRFC3339 s = some t)
    (hlo : -86400 < t.off) (hhi : t.off < 86400) :
    c14Step (.cons k (.str (Time.formatRFC3339 t)) .nil) none (k, .str s) = none := by
  have hd := parsed_domain hp
  simp [c14Step, hp, lookupJV_single, Time.C14_parse_format t hd.1 hd.2.1 hd.2.2 hlo hhi]

theorem c14Step_timestamp (k s : Bytes) (t : GoTime) (hp : Time.parseRFC3339 s = some t)
    (hlo : -86400 < t.off) (hhi : t.off < 86400) :
    c14Step (.cons k (.num (formatInt t.sec)) .nil) none (k, .str s) = none := by
  have hd := parsed_domain hp
  simp [c14Step, hp, lookupJV_single, parse_sec t hd.1 hd.2.1 hlo hhi]

theorem datetime_line_oracle (ext : Ext) (k : Bytes) (hk : sanitize k = k) {fi fo : Format}
    {tyi tyo : Ty} (hi : IsDT fi tyi) (ho : IsDT fo tyo) (line s : Bytes) (t : GoTime)
    (hline : Json.unmarshal line = (.cons k (.str s) .nil, true))
    (hp : Time.parseRFC3339 s = some t) (hy0 : 0 ≤ Time.year t) (hy1 : Time.year t ≤ 9999)
    (h60 : t.off % 60 = 0) (hlo : -86400 < t.off) (hhi : t.off < 86400) :
    c14Violation line
      (jlLine ⟨genTables, ext⟩ (withCol [] k fi tyi) (withCol [] k fo tyo) line) = none := by
  rw [LineTimeMore.text_line_written ext k (.of_isDT hi) (.of_isDT ho) line s t hline hp,
    c14Violation_written hline (unmarshal_datetime_out hk t)]
  exact c14Step_datetime k s t hp hlo hhi

theorem timestamp_line_oracle (ext : Ext) (k : Bytes) (hk : sanitize k = k) {fi fo : Format}
    {tyi tyo : Ty} (hi : IsDT fi tyi) (ho : IsTS fo tyo) (line s : Bytes) (t : GoTime)
    (hline : Json.unmarshal line = (.cons k (.str s) .nil, true))
    (hp : Time.parseRFC3339 s = some t) (hy0 : 0 ≤ Time.year t) (hy1 : Time.year t ≤ 9999)
    (hlo : -86400 < t.off) (hhi : t.off < 86400) :
    c14Violation line
      (jlLine ⟨genTables, ext⟩ (withCol [] k fi tyi) (withCol [] k fo tyo) line) = none := by
  rw [LineTimeMore.ts_line_written ext k (.of_isDT hi) (.of_isTS ho) line s t hline hp,
    c14Violation_written hline (unmarshal_lineOfInt hk t.sec)]
  exact c14Step_timestamp k s t hp hlo hhi

/-- The oracle is not vacuous on such a line: had the line been rejected, or the second changed,
    it would say so. -/
theorem c14Rejected_fires (line k s : Bytes) (t : GoTime)
    (hline : Json.unmarshal line = (.cons k (.str s) .nil, true))
    (hp : Time.parseRFC3339 s = some t) (hy0 : 0 ≤ Time.year t) (hy1 : Time.year t ≤ 9999)
    (h60 : t.off % 60 = 0) (hlo : -86400 < t.off) (hhi : t.off < 86400) (e : ErrClass) :
    c14Violation line (.ok ([], some e)) = some "explicit-offset-string-rejected" := by
  have hab : t.off.natAbs < 86400 := by omega
  simp [c14Violation, c14Rejected, hline, JVMembers.toList, hp, hy0, hy1, h60, hab]

theorem c14Step_fires (k s : Bytes) (t : GoTime) (hp : Time.parseRFC3339 s = some t) :
    c14Step (.cons k (.num (formatInt (t.sec + 1))) .nil) none (k, .str s) ≠ none := by
  simp only [c14Step, hp, lookupJV_single]
  rw [parseInt0_formatInt]
  -- the range test as `parseInt0_formatInt` leaves it at `bits := 64`
  by_cases hc : -(2 ^ ((if 64 = 0 then 64 else 64) - 1) : Int) ≤ t.sec + 1 ∧
      t.sec + 1 < 2 ^ ((if 64 = 0 then 64 else 64) - 1)
  · rw [if_pos hc]
    have : ¬ (t.sec + 1 = t.sec) := by omega
    simp [this]
  · rw [if_neg hc]
    simp


/-! ### 3. Templates with several columns

  `LineLevel.followed_same_names` follows a declared column through an accepted line for every environment; added
  here is where the way of an RFC 3339 text through a time column ends. -/

/-- The conclusion of 1(a) / 1(b) for one column, on the tree the reader delivers for the emitted text. -/
def TimeKept (tree : JVMembers) (name : Bytes) (fo : Format) (tyo : Ty) (t : GoTime) : Prop :=
  (LineTimeMore.IsTextOut fo tyo → ∃ s', LineSpec.lookupJV tree name = some (.str s') ∧
    ∃ t', Time.parseRFC3339 s' = some t' ∧ t'.sec = t.sec ∧ t'.off = t.off ∧ t'.nsec = 0) ∧
  (LineTimeMore.IsTSout fo tyo → LineSpec.lookupJV tree name = some (.num (formatInt t.sec)))

theorem way_time (ext : Ext) {fi fo : Format} {tyi tyo : Ty} (hi : LineTimeMore.IsDTin fi tyi)
    (hk : LineTimeMore.KeepTy tyo) {s : Bytes} {t : GoTime}
    (hp : Time.parseRFC3339 s = some t) {c' : Val}
    (h : LineLevel.Way ⟨genTables, ext⟩ fi tyi fo tyo (.str s) c') : c' = .cell (.time t) fo tyo := by
  obtain ⟨c, ⟨x, hx, himp⟩, hn⟩ := h
  cases hx
  rw [LineTimeMore.import_in_string ext hi s t hp] at himp
  cases himp
  rw [Cells.raw, LineTimeMore.newValue_time_keep ext _ hk t] at hn
  exact (Outcome.ok.inj hn).symm

theorem timeKept_of_way (ext : Ext) {fi fo : Format} {tyi tyo : Ty} (hi : LineTimeMore.IsDTin fi tyi)
    {s : Bytes} {t : GoTime} (hp : Time.parseRFC3339 s = some t) (hlo : -86400 < t.off)
    (hhi : t.off < 86400)
    {c' : Val} (hw : LineLevel.Way ⟨genTables, ext⟩ fi tyi fo tyo (.str s) c') {tree : JVMembers}
    {name : Bytes}
    (hout : fo ≠ .hidden → ∃ txt, RowPrint.marshalVal ⟨genTables, ext⟩ c' = .ok txt ∧
      ∀ m, JsonPrint.ReadsAs txt m → LineSpec.lookupJV tree name = some m) :
    TimeKept tree name fo tyo t := by
  obtain ⟨hy0, hy1, h60⟩ := parsed_domain hp
  constructor <;> intro ho
  · obtain rfl := way_time ext hi ho.keep hp hw
    obtain ⟨txt, hm, hread⟩ := hout (by rcases ho with ⟨h, _⟩ | ⟨h, _⟩ <;> rw [h] <;> decide)
    cases (LineTimeMore.marshal_text_time ext t ho hy0 hy1).symm.trans hm
    exact ⟨_, hread _ (reads_rfc3339 t), _, Time.C14_parse_format t hy0 hy1 h60 hlo hhi, rfl, rfl, rfl⟩
  · obtain rfl := way_time ext hi ho.2 hp hw
    obtain ⟨rfl, _⟩ := ho
    obtain ⟨txt, hm, hread⟩ := hout (by decide)
    cases (marshal_timestamp_time ext t tyo).symm.trans hm
    exact hread _ (JsonPrint.readsAs_number (isValidNumber_formatInt _))

/-- `LineLevel.followed_same_names` on time columns.  The input member is the last of its name, as the oracle reads
    the input (`LineSpec.normDup`); `FloatTextOK` is only there because OTHER columns may print floats. -/
theorem emitted_line_times_same_names (ext : Ext) (ti to : Tmpl) (line b : Bytes)
    (h : jlLine ⟨genTables, ext⟩ ti to line = .ok (b, none)) (hx : FloatTextOK ext)
    (hto : (OMap.keys to).Nodup) (hperm : (OMap.keys ti).Perm (OMap.keys to))
    (hutf : ∀ k ∈ OMap.keys to, sanitize k = k) :
    ∃ body tree, b = body ++ [0x0A] ∧ Json.unmarshal body = (tree, true) ∧
      ∀ k raw₁ fi tyi raw₂ fo tyo s t,
        (k, Val.cell raw₁ fi tyi) ∈ ti → (k, Val.cell raw₂ fo tyo) ∈ to → LineTimeMore.IsDTin fi tyi →
        LineSpec.lookupJV (LineSpec.normDup (Json.unmarshal line).1) k = some (.str s) →
        Time.parseRFC3339 s = some t → -86400 < t.off → t.off < 86400 →
        TimeKept tree k fo tyo t := by
  obtain ⟨body, tree, hb, hu, hall⟩ :=
    LineLevel.followed_same_names ⟨genTables, ext⟩ ti to line b h hx hto hperm hutf
  refine ⟨body, tree, hb, hu, ?_⟩
  intro k raw₁ fi tyi raw₂ fo tyo s t hmi hmo hdt hlast hp hlo hhi
  obtain ⟨c', hw, hout⟩ := hall k _ _ _ hmi hmo hlast rfl
  exact timeKept_of_way ext hdt hp hlo hhi hw hout

/-! #### The oracle on the whole emitted line -/

theorem lookupJV_normDup_of_mem {ms : JVMembers} {k : Bytes} {v : JV}
    (hm : (k, v) ∈ (LineSpec.normDup ms).toList) :
    LineSpec.lookupJV (LineSpec.normDup ms) k = some v := by
  rw [LineSpec.normDup, LineValues.jv_toList_ofList] at hm
  rw [LineSpec.normDup, LineValues.lookupJV_ofList]
  exact OMap.lookup_of_mem (LineValues.nodup_normDupM ms [] List.nodup_nil) hm

theorem c14Step_of_timeKept (tree : JVMembers) (k s : Bytes) (t : GoTime) (fo : Format) (tyo : Ty)
    (hp : Time.parseRFC3339 s = some t) (hlo : -86400 < t.off) (hhi : t.off < 86400)
    (hk : TimeKept tree k fo tyo t) (ho : LineTimeMore.IsTextOut fo tyo ∨ LineTimeMore.IsTSout fo tyo) :
    c14Step tree none (k, .str s) = none := by
  rcases ho with ho | ho
  · obtain ⟨s', hl, t', ht', h1, h2, h3⟩ := hk.1 ho
    simp [c14Step, hp, hl, ht', h1, h2, h3]
  · have hd := parsed_domain hp
    simp [c14Step, hp, hk.2 ho, parse_sec t hd.1 hd.2.1 hlo hhi]

/-- `hcols`: every input member (as the oracle reads the input) that is an RFC 3339 text has an offset below 24 h and
    sits under time columns of section 1.  Then the oracle finds no violation on the emitted line, whatever the
    other columns and members are. -/
theorem emitted_line_oracle (ext : Ext) (ti to : Tmpl) (line b : Bytes)
    (h : jlLine ⟨genTables, ext⟩ ti to line = .ok (b, none)) (hx : FloatTextOK ext)
    (hto : (OMap.keys to).Nodup) (hperm : (OMap.keys ti).Perm (OMap.keys to))
    (hutf : ∀ k ∈ OMap.keys to, sanitize k = k)
    (hcols : ∀ k s t, (k, JV.str s) ∈ (LineSpec.normDup (Json.unmarshal line).1).toList →
      Time.parseRFC3339 s = some t →
      (-86400 < t.off ∧ t.off < 86400) ∧
      ∃ raw₁ fi tyi raw₂ fo tyo, (k, Val.cell raw₁ fi tyi) ∈ ti ∧ (k, Val.cell raw₂ fo tyo) ∈ to ∧
        LineTimeMore.IsDTin fi tyi ∧ (LineTimeMore.IsTextOut fo tyo ∨ LineTimeMore.IsTSout fo tyo)) :
    c14Violation line (jlLine ⟨genTables, ext⟩ ti to line) = none := by
  obtain ⟨body, tree, hb, hu, hall⟩ :=
    emitted_line_times_same_names ext ti to line b h hx hto hperm hutf
  have hline := LineLevel.accepted_reads h
  rw [h, hb]
  simp only [c14Violation]
  rw [c14Accepted_of_trees line body _ tree hline hu, c14Trees]
  apply LineLevel.foldl_none
  intro kv hkv
  obtain ⟨k, v⟩ := kv
  cases v with
  | str s =>
    cases hp : Time.parseRFC3339 s with
    | none => simp [c14Step, hp]
    | some t =>
      obtain ⟨⟨hlo, hhi⟩, raw₁, fi, tyi, raw₂, fo, tyo, hmi, hmo, hdt, ho⟩ := hcols k s t hkv hp
      exact c14Step_of_timeKept tree k s t fo tyo hp hlo hhi
        (hall k raw₁ fi tyi raw₂ fo tyo s t hmi hmo hdt (lookupJV_normDup_of_mem hkv) hp hlo hhi) ho
  | _ => simp [c14Step]

/-! ### 4. A concrete line, computed end to end

  `ti = to =` one date-time column `t`; `{"t":"2021-09-24T21:21:00.999+05:30"}` comes out as
  `{"t":"2021-09-24T21:21:00+05:30"}` and a newline, over the empty stdlib oracle (no process zone is ever asked). -/
namespace Demo
open RowPrint JsonWrite

def env : Env := ⟨genTables, Ext.empty⟩

def tmpl : Tmpl := withCol [] [0x74] .datetime .none

/-- `2021-09-24T21:21:00.999+05:30` -/
def inS : Bytes :=
  [0x32, 0x30, 0x32, 0x31, 0x2D, 0x30, 0x39, 0x2D, 0x32, 0x34, 0x54, 0x32, 0x31, 0x3A, 0x32, 0x31,
   0x3A, 0x30, 0x30, 0x2E, 0x39, 0x39, 0x39, 0x2B, 0x30, 0x35, 0x3A, 0x33, 0x30]

/-- `2021-09-24T21:21:00+05:30` -/
def outS : Bytes :=
  [0x32, 0x30, 0x32, 0x31, 0x2D, 0x30, 0x39, 0x2D, 0x32, 0x34, 0x54, 0x32, 0x31, 0x3A, 0x32, 0x31,
   0x3A, 0x30, 0x30, 0x2B, 0x30, 0x35, 0x3A, 0x33, 0x30]

/-- `{"t":"2021-09-24T21:21:00.999+05:30"}` -/
def line : Bytes := [0x7B, 0x22, 0x74, 0x22, 0x3A, 0x22] ++ inS ++ [0x22, 0x7D]

/-- `{"t":"2021-09-24T21:21:00+05:30"}` -/
def out : Bytes := [0x7B, 0x22, 0x74, 0x22, 0x3A, 0x22] ++ outS ++ [0x22, 0x7D]

/-- 2021-09-24T15:51:00.999Z, rendered at +05:30 -/
def tm : GoTime := ⟨1632498660, 999000000, 19800⟩

theorem parse_inS : Time.parseRFC3339 inS = some tm := by decide +kernel

theorem unmarshal_line : Json.unmarshal line = (.cons [0x74] (.str inS) .nil, true) := by
  decide +kernel

theorem dt : IsDT .datetime .none := ⟨rfl, .inl rfl⟩

theorem jlLine_line : jlLine env tmpl tmpl line = .ok (out ++ [0x0A], none) :=
  (LineTimeMore.text_line_written Ext.empty [0x74] (.of_isDT dt) (.of_isDT dt) line inS tm unmarshal_line
    parse_inS).trans
    (by decide +kernel)

/-- The conclusion of 1(a) (`LineTimeMore.text_line`) on it: the 999 ms dropped, not rounded up to `:01`. -/
example : ∃ tree s' t', Json.unmarshal out = (tree, true) ∧
    LineSpec.lookupJV tree [0x74] = some (.str s') ∧ Time.parseRFC3339 s' = some t' ∧
    t'.sec = 1632498660 ∧ t'.off = 19800 ∧ t'.nsec = 0 := by
  obtain ⟨_, hall⟩ := LineTimeMore.text_line Ext.empty [0x74] LineLevel.DemoDT.sanitize_t (.of_isDT dt) (.of_isDT dt) line inS tm
    unmarshal_line parse_inS (by decide +kernel) (by decide +kernel)
  obtain ⟨body, tree, hb, hu, s', hl, t', ht', h1, h2, h3⟩ := hall _ jlLine_line
  cases List.append_cancel_right hb
  exact ⟨tree, s', t', hu, hl, ht', h1, h2, h3⟩

example : c14Violation line (jlLine env tmpl tmpl line) = none :=
  have hd := parsed_domain parse_inS
  datetime_line_oracle Ext.empty [0x74] LineLevel.DemoDT.sanitize_t dt dt line inS tm unmarshal_line parse_inS
    hd.1 hd.2.1 hd.2.2 (by decide +kernel) (by decide +kernel)

/-- The same column written as a timestamp: `{"t":1632498660}`. -/
example : jlLine env tmpl (withCol [] [0x74] .timestamp (.int .i64)) line =
    .ok ([0x7B, 0x22, 0x74, 0x22, 0x3A, 0x31, 0x36, 0x33, 0x32, 0x34, 0x39, 0x38, 0x36, 0x36, 0x30,
      0x7D, 0x0A], none) :=
  (LineTimeMore.ts_line_written Ext.empty [0x74] (.of_isDT dt) (.of_isTS ⟨rfl, .inr rfl⟩) line inS tm
    unmarshal_line parse_inS).trans (by decide +kernel)


/-! #### The offset bound of 1(a) is needed

  `{"t":"2021-09-24T21:21:00+24:60"}`: the parser (as `time.Parse` does) takes an offset hour of 24
  and an offset minute of 60, i.e. 25 h.  The line is accepted and `+25:00` is written, which the
  parser refuses: the emitted member is not read back at all (the oracle's `written-text-unreadable`). -/

/-- `2021-09-24T21:21:00+24:60` -/
def farS : Bytes :=
  [0x32, 0x30, 0x32, 0x31, 0x2D, 0x30, 0x39, 0x2D, 0x32, 0x34, 0x54, 0x32, 0x31, 0x3A, 0x32, 0x31,
   0x3A, 0x30, 0x30, 0x2B, 0x32, 0x34, 0x3A, 0x36, 0x30]

/-- `2021-09-24T21:21:00+25:00` -/
def farOut : Bytes :=
  [0x32, 0x30, 0x32, 0x31, 0x2D, 0x30, 0x39, 0x2D, 0x32, 0x34, 0x54, 0x32, 0x31, 0x3A, 0x32, 0x31,
   0x3A, 0x30, 0x30, 0x2B, 0x32, 0x35, 0x3A, 0x30, 0x30]

/-- The literal line `{"t":"2021-09-24T21:21:00+24:60"}` satisfies the hypothesis of
    `C14.line_offset_bound_needed`. -/
example : Json.unmarshal (lineOfStr [0x74] farS) = (.cons [0x74] (.str farS) .nil, true) := by
  decide +kernel

/-! #### The importer column of 1(a), 1(b) has to be a date-time column

  Under a TIMESTAMP importer column `Import` goes through `ToInt64` (not `ToTimestamp`), which does not read
  date-time texts.  The line is rejected — and the oracle, whose rejected branch does not look at the column
  declarations, reports it. -/

theorem timestamp_importer_rejects_text :
    jlLine env (withCol [] [0x74] .timestamp .none) tmpl line = .ok ([], some .unsupportedImport) := by
  decide +kernel

example : c14Violation line (jlLine env (withCol [] [0x74] .timestamp .none) tmpl line) =
    some "explicit-offset-string-rejected" := by
  have hd := parsed_domain parse_inS
  rw [timestamp_importer_rejects_text]
  exact c14Rejected_fires line [0x74] inS tm unmarshal_line parse_inS hd.1 hd.2.1 hd.2.2
    (by decide +kernel) (by decide +kernel) _

/-! #### Section 3 is not vacuous: two columns, a numeric one beside the date-time one

  The conclusion of `emitted_line_times_same_names` for column `t` is the timestamp clause: the member is the
  literal `1632498660`. -/

def ti2 : Tmpl := withCol (withCol [] [0x6E] .numeric .none) [0x74] .datetime .none
def to2 : Tmpl := withCol (withCol [] [0x6E] .numeric .none) [0x74] .timestamp (.int .i64)

/-- `{"t":"2021-09-24T21:21:00.999+05:30","n":1}` -/
def line2 : Bytes :=
  [0x7B, 0x22, 0x74, 0x22, 0x3A, 0x22] ++ inS ++ [0x22, 0x2C, 0x22, 0x6E, 0x22, 0x3A, 0x31, 0x7D]

theorem ti2_eq : ti2 = [([0x6E], .cell .nil .numeric .none), ([0x74], .cell .nil .datetime .none)] := rfl
theorem to2_eq :
    to2 = [([0x6E], .cell .nil .numeric .none), ([0x74], .cell .nil .timestamp (.int .i64))] := rfl

def imported2 : List (Bytes × Val) :=
  [([0x6E], .cell (.num [0x31]) .numeric .none), ([0x74], .cell (.time tm) .datetime .none)]

def created2 : List (Bytes × Val) :=
  [([0x6E], .cell (.num [0x31]) .numeric .none), ([0x74], .cell (.time tm) .timestamp (.int .i64))]

theorem runs :
    Order.inputKeys line2 = [[0x74], [0x6E]] ∧
    (LineSpec.normDup (Json.unmarshal line2).1).toList = [([0x74], .str inS), ([0x6E], .num [0x31])] ∧
    importCell ⟨genTables, Ext.empty⟩ .numeric .none (.num [0x31]) =
      .ok (.cell (.num [0x31]) .numeric .none, none) ∧
    getRow env ti2 line2 = .ok (imported2, none) ∧
    createRow env to2 (.val (.row (Members.ofList imported2))) = .ok (created2, none) := by
  decide +kernel

theorem inputKeys_line2 : Order.inputKeys line2 = [[0x74], [0x6E]] := runs.1

theorem import_n : importCell ⟨genTables, Ext.empty⟩ .numeric .none (.num [0x31]) =
    .ok (.cell (.num [0x31]) .numeric .none, none) := runs.2.2.1

theorem createRow_imported2 :
    createRow env to2 (.val (.row (Members.ofList imported2))) = .ok (created2, none) := runs.2.2.2.2

theorem jlLine_line2 : ∃ body, jlLine env ti2 to2 line2 = .ok (body ++ [0x0A], none) :=
  ⟨_, Order.jlLine_of_steps runs.2.2.2.1 createRow_imported2
    (JsonPrint.marshalRow_eq env _
      (JsonPrint.marshalMembers_cons env _ _ _ (by decide +kernel) (marshal_number _ _ (by decide))
        (JsonPrint.marshalMembers_cons env _ _ _ (by decide +kernel)
          (marshal_timestamp_time Ext.empty tm (.int .i64)) (JsonPrint.marshalMembers_nil env))))⟩

theorem floatOK : FloatTextOK env.ext := LineLevel.floatOK_empty

theorem keys2_fixed : ∀ k ∈ OMap.keys to2, sanitize k = k := by
  intro k hk
  rw [to2_eq] at hk
  simp only [OMap.keys, List.map_cons, List.map_nil, List.mem_cons, List.not_mem_nil,
    or_false] at hk
  rcases hk with rfl | rfl
  · exact sanitize_n
  · exact LineLevel.DemoDT.sanitize_t

example : ∃ body tree, jlLine env ti2 to2 line2 = .ok (body ++ [0x0A], none) ∧
    Json.unmarshal body = (tree, true) ∧
    LineSpec.lookupJV tree [0x74] = some (.num (formatInt 1632498660)) := by
  obtain ⟨body0, hj⟩ := jlLine_line2
  obtain ⟨body, tree, hb, hu, hall⟩ :=
    emitted_line_times_same_names Ext.empty ti2 to2 line2 _ hj floatOK (by decide +kernel)
      (List.Perm.refl _) keys2_fixed
  cases List.append_cancel_right hb
  exact ⟨_, tree, hj, hu, (hall [0x74] .nil .datetime .none .nil .timestamp (.int .i64) inS tm
    (.tail _ (.head _)) (.tail _ (.head _)) (.of_isDT dt)
    (lookupJV_normDup_of_mem (by rw [runs.2.1]; exact .head _)) parse_inS
    (by decide +kernel) (by decide +kernel)).2 (.of_isTS ⟨rfl, .inr rfl⟩)⟩

example : c14Violation line2 (jlLine env ti2 to2 line2) = none := by
  obtain ⟨body0, hj⟩ := jlLine_line2
  refine emitted_line_oracle Ext.empty ti2 to2 line2 _ hj floatOK (by decide +kernel)
    (List.Perm.refl _) keys2_fixed ?_
  intro k s t hm hp
  rw [runs.2.1] at hm
  simp only [List.mem_cons, Prod.mk.injEq, JV.str.injEq, List.not_mem_nil, or_false, reduceCtorEq,
    and_false] at hm
  obtain ⟨rfl, rfl⟩ := hm
  cases parse_inS.symm.trans hp
  exact ⟨by decide +kernel, .nil, .datetime, .none, .nil, .timestamp, .int .i64, .tail _ (.head _),
    .tail _ (.head _), .of_isDT dt, .inr (.of_isTS ⟨rfl, .inr rfl⟩)⟩

/-! #### 1(c) is not vacuous: `{"t":0}` in a process zone one hour east of UTC

  `TimeShape.extPlus1` answers +3600 at every instant: the member written is a text that parses to
  `⟨0, 0, 3600⟩` — the epoch, at +01:00. -/
example : ∃ body tree s',
    jlLine ⟨genTables, TimeShape.extPlus1⟩ (withCol [] [0x74] .timestamp .none)
      (withCol [] [0x74] .datetime .none) (lineOfInt [0x74] 0) = .ok (body ++ [0x0A], none) ∧
    Json.unmarshal body = (tree, true) ∧ LineSpec.lookupJV tree [0x74] = some (.str s') ∧
    Time.parseRFC3339 s' = some ⟨0, 0, 3600⟩ :=
  unix_line_literal TimeShape.extPlus1 [0x74] LineLevel.DemoDT.sanitize_t ⟨rfl, .inl rfl⟩ dt 0 3600 rfl
    (by decide +kernel) (by decide +kernel) (by decide +kernel) (by decide +kernel) (by decide +kernel)

end Demo

end Jl.LineTime
