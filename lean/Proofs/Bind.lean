/-
  Proofs.Bind — the operations of the model in `bind` form.  The model spells error and panic propagation out
  (`| .err e => .err e | .panic s => .panic s` under every call); here an operation that does so gets ONE equation
  `op … = (call …).bind k`, proved by cases on the call, and what a successful or panicking `bind` did is said
  once (`bind_eq_ok`, `bind_eq_panic`; for classes of failures `Within.bind` in Proofs.Walk and `NP.bind` in
  Proofs.NoPanic).  The line-level operations (`getRow`, `createRow`, `unmarshalInto`, `exportLine`, `jlLine`,
  `marshalRow`) are taken apart by these equations or by the stages in Proofs.Order and opened nowhere else,
  `FlowTie.createRow_is_createRow` and `RoundTrip.Dup.dup_imports_first` apart.  No binds, and not here: the
  matches whose `.err` arm tells the EXT marker from the code's own errors (`newValue`, `importByFormat`,
  `exportFail`, `importFail`).
-/
import Model.Template
import Model.Stream

namespace Jl
namespace Outcome
variable {α β : Type}

@[simp] theorem bind_ok (a : α) (f : α → Outcome β) : (Outcome.ok a).bind f = f a := rfl
@[simp] theorem bind_err (e : ErrClass) (f : α → Outcome β) : (Outcome.err e).bind f = .err e := rfl
@[simp] theorem bind_panic (s : String) (f : α → Outcome β) : (Outcome.panic s).bind f = .panic s := rfl

theorem bind_eq_ok {o : Outcome α} {f : α → Outcome β} {b : β} :
    o.bind f = .ok b ↔ ∃ a, o = .ok a ∧ f a = .ok b := by
  cases o <;> simp

theorem bind_eq_panic {o : Outcome α} {f : α → Outcome β} {s : String} :
    o.bind f = .panic s ↔ o = .panic s ∨ ∃ a, o = .ok a ∧ f a = .panic s := by
  cases o <;> simp

end Outcome

open Value Template

variable {env : Env}

/-! ### Model.Value -/

theorem ofJV_arr_eq (xs : JVList) :
    ofJV env (.arr xs) = (ofJVList env xs).bind fun l => .ok (.arr (DynList.ofList l)) := by
  rw [ofJV]; cases ofJVList env xs <;> rfl

theorem ofJV_obj_eq (ms : JVMembers) :
    ofJV env (.obj ms) = (ofJVMembers env ms).bind fun l =>
      (parseMembers env [] l).bind fun p => .ok (.val (.row (Members.ofList p.1))) := by
  rw [ofJV]
  cases ofJVMembers env ms with
  | ok l => simp only [Outcome.bind_ok]; rcases parseMembers env [] l with ⟨o, e⟩ | e | s <;> rfl
  | _ => rfl

theorem ofJVList_cons_eq (x : JV) (xs : JVList) :
    ofJVList env (.cons x xs) =
      (ofJV env x).bind fun d => (ofJVList env xs).bind fun l => .ok (d :: l) := by
  rw [ofJVList]
  cases ofJV env x with
  | ok d => simp only [Outcome.bind_ok]; cases ofJVList env xs <;> rfl
  | _ => rfl

theorem ofJVMembers_cons_eq (k : Bytes) (v : JV) (ms : JVMembers) :
    ofJVMembers env (.cons k v ms) =
      (ofJV env v).bind fun d => (ofJVMembers env ms).bind fun l => .ok ((k, d) :: l) := by
  rw [ofJVMembers]
  cases ofJV env v with
  | ok d => simp only [Outcome.bind_ok]; cases ofJVMembers env ms <;> rfl
  | _ => rfl

theorem importFromBinary_eq (val : Dyn) (typ : Ty) :
    importFromBinary env val typ = (importFail (Cast.castNamed env.T env.ext "ToString" val)).bind fun d =>
      match d with
      | .str s =>
        match Base64.decode s with
        | none => .err .unsupportedImport
        | some b =>
          match typ with
          | .none => .ok (.bytes b)
          | _ => importFail (Cast.castTo env.T env.ext typ (.bytes b))
      | .nil => .panic "interface conversion: interface {} is nil, not string"
      | _ => .panic "interface conversion: not string" := by
  unfold importFromBinary
  rcases importFail (Cast.castNamed env.T env.ext "ToString" val) with d | e | s
  · cases d <;> rfl
  · rfl
  · rfl

theorem importInto_arr_eq (fuel : Nat) (ms : Members) (xs : DynList) :
    importInto env (fuel + 1) (.row ms) (.arr xs) =
      (importSliceWith (importInto env fuel) ms.toList 0 xs.toList).bind fun p =>
        .ok (.row (Members.ofList p.1), p.2) := by
  rw [importInto]
  rcases importSliceWith (importInto env fuel) ms.toList 0 xs.toList with ⟨o, e⟩ | e | s <;> rfl

theorem importInto_gomap_eq (fuel : Nat) (ms : Members) (kvs : DynMap) :
    importInto env (fuel + 1) (.row ms) (.gomap kvs) =
      (importMapWith (importInto env fuel) ms.toList kvs.toList).bind fun p =>
        .ok (.row (Members.ofList p.1), p.2) := by
  rw [importInto]
  rcases importMapWith (importInto env fuel) ms.toList kvs.toList with ⟨o, e⟩ | e | s <;> rfl

/-- What `UnmarshalJSON` reports after `parseobject`: the member's error, else a syntax error for a
    text that is not one object. -/
def afterParse (accepted : Bool) (p : List (Bytes × Val) × Option ErrClass) :
    List (Bytes × Val) × Option ErrClass :=
  (p.1, p.2.or (if accepted then none else some .syntax))

theorem unmarshalInto_eq (o : List (Bytes × Val)) (text : Bytes) :
    unmarshalInto env o text = (ofJVMembers env (Json.unmarshal text).1).bind fun l =>
      (parseMembers env o l).bind fun p => .ok (afterParse (Json.unmarshal text).2 p) := by
  unfold unmarshalInto
  obtain ⟨ms, acc⟩ := Json.unmarshal text
  simp only
  cases ofJVMembers env ms with
  | ok l =>
    simp only [Outcome.bind_ok]
    rcases parseMembers env o l with ⟨o', _ | e⟩ | e | s <;> rfl
  | _ => rfl

/-! ### Model.Template -/

theorem getRow_eq (ti : Tmpl) (line : Bytes) :
    getRow env ti line = (cloneRow env ti).bind fun ri => unmarshalInto env ri line := by
  unfold getRow createRowEmpty; cases cloneRow env ti <;> rfl

theorem fillSlice_cons_eq (row : List (Bytes × Val)) (i : Nat) (x : Dyn) (xs : List Dyn) :
    fillSlice env row i (x :: xs) =
      (fill env row (OMap.keyAt row i) x).bind fun r => fillSlice env r (i + 1) xs := by
  rw [fillSlice]; cases fill env row (OMap.keyAt row i) x <;> rfl

theorem createRow_eq (t : Tmpl) (v : Dyn) :
    createRow env t v = (cloneRow env t).bind fun row =>
      match v with
      | .arr xs => (fillSlice env row 0 xs.toList).bind fun r => .ok (r, none)
      | .gomap kvs => (fillPairs env row kvs.toList).bind fun r => .ok (r, none)
      | .val (.row ms) =>
        (fillPairs env row (ms.toList.map fun (k, c) => (k, Cells.raw c))).bind fun r => .ok (r, none)
      | .bytes s | .str s => unmarshalInto env row s
      | _ => .ok (row, some .unsupportedImport) := by
  unfold createRow
  cases cloneRow env t with
  | ok row =>
    simp only [Outcome.bind_ok]
    cases v with
    | arr xs => simp only; cases fillSlice env row 0 xs.toList <;> rfl
    | gomap kvs => simp only; cases fillPairs env row kvs.toList <;> rfl
    | val c =>
      cases c with
      | row ms => simp only; cases fillPairs env row _ <;> rfl
      | cell _ _ _ => rfl
    | _ => rfl
  | _ => rfl

/-- What `Export` hands on for the row it created: the error of `CreateRow`, or the printed row and a
    newline, or the printer's error. -/
def printLine (env : Env) (p : List (Bytes × Val) × Option ErrClass) : Outcome (Bytes × Option ErrClass) :=
  match p with
  | (_, some e) => .ok ([], some e)
  | (row, none) =>
    match RowPrint.marshalRow env (Members.ofList row) with
    | .ok b => .ok (b ++ [0x0A], none)
    | .err .ext => .err .ext
    | .err e => .ok ([], some e)
    | .panic s => .panic s

theorem printLine_accepted {p : List (Bytes × Val) × Option ErrClass} {b : Bytes} :
    printLine env p = .ok (b, none) ↔
      p.2 = none ∧ ∃ body, RowPrint.marshalRow env (Members.ofList p.1) = .ok body ∧ b = body ++ [0x0A] := by
  obtain ⟨row, _ | e⟩ := p
  · simp only [printLine, true_and]
    constructor
    · intro h
      split at h <;> cases h
      exact ⟨_, ‹_›, rfl⟩
    · rintro ⟨body, hm, rfl⟩
      rw [hm]
  · exact ⟨fun h => (by cases h), fun h => (by cases h.1)⟩

theorem printLine_rejected {p : List (Bytes × Val) × Option ErrClass} {b : Bytes} {e : ErrClass}
    (h : printLine env p = .ok (b, some e)) :
    b = [] ∧ (p.2 = some e ∨ p.2 = none ∧ RowPrint.marshalRow env (Members.ofList p.1) = .err e) := by
  obtain ⟨row, _ | e'⟩ := p
  · simp only [printLine] at h
    split at h <;> cases h
    exact ⟨rfl, .inr ⟨rfl, ‹_›⟩⟩
  · cases h; exact ⟨rfl, .inl rfl⟩

theorem exportLine_eq (to : Tmpl) (v : Dyn) :
    exportLine env to v = (createRow env to v).bind (printLine env) := by
  unfold exportLine
  rcases createRow env to v with ⟨row, _ | e⟩ | e | s <;> rfl

theorem jlLine_eq (ti to : Tmpl) (line : Bytes) :
    jlLine env ti to line = (getRow env ti line).bind fun p =>
      match p with
      | (_, some e) => .ok ([], some e)
      | (row, none) => exportLine env to (.val (.row (Members.ofList row))) := by
  unfold jlLine
  rcases getRow env ti line with ⟨row, _ | e⟩ | e | s <;> rfl

/-! ### Model.RowPrint -/

theorem marshalVal_cell_eq (raw : Dyn) (f : Format) (ty : Ty) :
    RowPrint.marshalVal env (.cell raw f ty) =
      (exportVal env (.cell raw f ty)).bind fun e => RowPrint.marshalExported env e raw := by
  rw [RowPrint.marshalVal.eq_def]
  simp only
  cases exportVal env (.cell raw f ty) <;> rfl

theorem marshalVal_cell_ok {raw e : Dyn} {f : Format} {ty : Ty}
    (h : exportVal env (.cell raw f ty) = .ok e) :
    RowPrint.marshalVal env (.cell raw f ty) = RowPrint.marshalExported env e raw := by
  rw [marshalVal_cell_eq, h, Outcome.bind_ok]

theorem exportVal_nil (env : Env) (f : Format) (ty : Ty) : exportVal env (.cell .nil f ty) = .ok .nil := by
  rw [exportVal]

theorem exportVal_bad (env : Env) {raw : Dyn} (hraw : raw ≠ .nil) (ty : Ty) :
    exportVal env (.cell raw .bad ty) = .err .unsupportedFormat := by
  rw [exportVal]; exact hraw

theorem importCell_nil (env : Env) (f : Format) (ty : Ty) : importCell env f ty .nil = .ok (.cell .nil f ty, none) := rfl

theorem exportVal_auto (env : Env) (raw : Dyn) (ty : Ty) : exportVal env (.cell raw .auto ty) = .ok raw := by
  cases raw <;> rfl

theorem exportVal_hidden (env : Env) (raw : Dyn) (ty : Ty) : exportVal env (.cell raw .hidden ty) = .ok raw := by
  cases raw <;> rfl

theorem marshalExported_nil (env : Env) (raw : Dyn) : RowPrint.marshalExported env .nil raw = .ok RowPrint.null := by
  rw [RowPrint.marshalExported.eq_def]

theorem marshalExported_bool (env : Env) (b : Bool) (raw : Dyn) :
    RowPrint.marshalExported env (.bool b) raw = .ok (if b then RowPrint.tru else RowPrint.fls) := by
  rw [RowPrint.marshalExported.eq_def]

theorem marshalExported_int (env : Env) (t : IntTy) (v : Int) (raw : Dyn) :
    RowPrint.marshalExported env (.int t v) raw = .ok (IntText.formatInt v) := by
  rw [RowPrint.marshalExported.eq_def]

theorem marshalExported_str (env : Env) (s : Bytes) (raw : Dyn) :
    RowPrint.marshalExported env (.str s) raw = .ok (JsonWrite.quote s) := by
  rw [RowPrint.marshalExported.eq_def]

theorem marshalExported_num (env : Env) (l : Bytes) (raw : Dyn) :
    RowPrint.marshalExported env (.num l) raw =
      if l.isEmpty then .ok [0x30] else if JsonWrite.isValidNumber l then .ok l else .err .marshal := by
  rw [RowPrint.marshalExported.eq_def]

/-- For the kinds `marshalExported` does not print on its own, its fallback is the raw value. -/
theorem marshalExported_self (env : Env) (raw : Dyn) :
    RowPrint.marshalExported env raw raw = RowPrint.marshalDyn env raw := by
  rw [RowPrint.marshalExported.eq_def]
  cases raw <;> simp only <;> rw [RowPrint.marshalDyn.eq_def]

theorem marshalVal_row_eq (ms : Members) :
    RowPrint.marshalVal env (.row ms) = (RowPrint.marshalMembers env ms).bind fun parts =>
      .ok (0x7B :: (RowPrint.joinComma parts ++ [0x7D])) := by
  rw [RowPrint.marshalVal.eq_def]
  simp only
  cases RowPrint.marshalMembers env ms <;> rfl

theorem marshalRow_bind (ms : Members) :
    RowPrint.marshalRow env ms = (RowPrint.marshalMembers env ms).bind fun parts =>
      .ok (0x7B :: (RowPrint.joinComma parts ++ [0x7D])) :=
  marshalVal_row_eq ms

theorem marshalDyn_arr_eq (xs : DynList) :
    RowPrint.marshalDyn env (.arr xs) = (RowPrint.marshalList env xs).bind fun parts =>
      .ok (0x5B :: (RowPrint.joinComma parts ++ [0x5D])) := by
  rw [RowPrint.marshalDyn.eq_def]
  simp only
  cases RowPrint.marshalList env xs <;> rfl

theorem marshalDyn_gomap_eq (kvs : DynMap) :
    RowPrint.marshalDyn env (.gomap kvs) = (RowPrint.marshalMap env kvs).bind fun parts =>
      .ok (0x7B :: (RowPrint.joinComma parts ++ [0x7D])) := by
  rw [RowPrint.marshalDyn.eq_def]
  simp only
  cases RowPrint.marshalMap env kvs <;> rfl

theorem marshalList_cons_eq (x : Dyn) (xs : DynList) :
    RowPrint.marshalList env (.cons x xs) = (RowPrint.marshalDyn env x).bind fun b =>
      (RowPrint.marshalList env xs).bind fun rest => .ok (b :: rest) := by
  rw [RowPrint.marshalList.eq_def]
  simp only
  cases RowPrint.marshalDyn env x with
  | ok b => simp only [Outcome.bind_ok]; cases RowPrint.marshalList env xs <;> rfl
  | _ => rfl

theorem marshalMap_cons_eq (k : Bytes) (x : Dyn) (m : DynMap) :
    RowPrint.marshalMap env (.cons k x m) = (RowPrint.marshalDyn env x).bind fun b =>
      (RowPrint.marshalMap env m).bind fun rest => .ok ((JsonWrite.quote k ++ 0x3A :: b) :: rest) := by
  rw [RowPrint.marshalMap.eq_def]
  simp only
  cases RowPrint.marshalDyn env x with
  | ok b => simp only [Outcome.bind_ok]; cases RowPrint.marshalMap env m <;> rfl
  | _ => rfl

theorem marshalMembers_cons_eq (k : Bytes) (v : Val) (ms : Members) :
    RowPrint.marshalMembers env (.cons k v ms) =
      if Cells.format v == .hidden then RowPrint.marshalMembers env ms
      else (RowPrint.marshalVal env v).bind fun b =>
        (RowPrint.marshalMembers env ms).bind fun rest =>
          .ok ((JsonWrite.quote k ++ 0x3A :: b) :: rest) := by
  rw [RowPrint.marshalMembers.eq_def]
  simp only
  split
  · rfl
  · cases RowPrint.marshalVal env v with
    | ok b => simp only [Outcome.bind_ok]; cases RowPrint.marshalMembers env ms <;> rfl
    | _ => rfl

/-! ### Model.Stream -/

theorem mapOutcomes_cons_eq (cfg : Stream.Cfg) (l : Bytes) (rest : List Bytes) :
    Stream.mapOutcomes cfg (l :: rest) = (Stream.lineOutcome cfg l).bind fun o =>
      (Stream.mapOutcomes cfg rest).bind fun os => .ok (o :: os) := by
  rw [Stream.mapOutcomes]
  cases Stream.lineOutcome cfg l with
  | ok o => simp only [Outcome.bind_ok]; cases Stream.mapOutcomes cfg rest <;> rfl
  | _ => rfl

-- Here and not in Proofs.RowRoundTrip: Proofs.LineCast, Proofs.LineLevel and Proofs.ExportText cite it under this
-- name and do not import that module.
namespace RowRoundTrip
open RowPrint

theorem marshalVal_num {env : Env} {raw : Dyn} {f : Format} {ty : Ty} {l : Bytes}
    (h : exportVal env (.cell raw f ty) = .ok (.num l)) (hl : JsonWrite.isValidNumber l = true) :
    marshalVal env (.cell raw f ty) = .ok l := by
  have hne : l.isEmpty = false := by
    cases l with
    | nil => exact absurd hl (by decide)
    | cons c r => rfl
  rw [marshalVal_cell_ok h, marshalExported_num]
  simp [hne, hl]

end RowRoundTrip

-- Here and not in Proofs.JsonPrint: Proofs.Stream uses it and imports this module, not the printer's correctness.
namespace JsonPrint
open RowPrint

theorem exportLine_write {env : Env} {t : Template.Tmpl} {v : Dyn} {w : Bytes}
    {e : Option ErrClass} (h : Template.exportLine env t v = .ok (w, e)) :
    (e = none → ∃ row bs, marshalRow env (Members.ofList row) = .ok bs ∧ w = bs ++ [0x0A]) ∧
    (e ≠ none → w = []) := by
  rw [exportLine_eq, Outcome.bind_eq_ok] at h
  obtain ⟨p, _, h⟩ := h
  cases e with
  | none =>
    obtain ⟨_, bs, hb, rfl⟩ := printLine_accepted.1 h
    exact ⟨fun _ => ⟨p.1, bs, hb, rfl⟩, fun h => absurd rfl h⟩
  | some e => exact ⟨nofun, fun _ => (printLine_rejected h).1⟩

end JsonPrint

end Jl
