/-
  Proofs.LineInts — C09 (and the last sentence of C10) at LINE level: a JSON integer literal under a column declared
  numeric(T) / string(T) / timestamp(T) / auto(T) with an integer raw type T is emitted as the same mathematical
  integer when it fits T, and the line is rejected otherwise — never a wrapped value.  The cell-level statements
  are in Props/C09, C10, C12 (over Proofs.CastInt, Proofs.IntText); here they are carried through `jlLine` over the
  regenerated cast tables and EVERY `Ext`, in the manner of Proofs.LineTime.

  "Rejected" is the outcome `.ok ([], some e)` of `jlLine`: the error reported for the line, nothing
  to write.  The input line is given by what the reader delivers for it
  (`Json.unmarshal line = (.cons k (.num lit) .nil, true)`: any spelling of the one-member object);
  `LineTime.lineOfInt` / `lineOfStr` are the literal spellings, for which that hypothesis is proved.
-/
import Proofs.LineColumn
import Proofs.LineCast
import Proofs.CastFuel
import Proofs.IntTextJson
import Proofs.DecEq

namespace Jl.LineInts
open Jl Jl.Value Jl.Template Jl.Cast Jl.CastTyped
open Jl.JsonQuote (sanitize)
open Jl.JsonPrint (treeDyn treeVal treeMembers treeExported numText FloatTextOK)
open Jl.IntText
-- these stand in namespace `LineTime` in Proofs.LineKeys / Proofs.LineColumn (Proofs.LineTime is not imported)
open Jl.LineTime (objText lineOfInt lineOfStr unmarshal_lineOfInt)
open Jl.LineLevel (lookupJV_single)
open Jl.LineCast


/-! ### 0. Cell-level facts about the regenerated tables, at the fuel `cast.To` leaves -/

/-- `cast.To(sample of integer type t, x)` is the caster of that type, at fuel 23: `castTo` starts `evalBranch`
    at 24 (Model/Cast.lean) and the dispatch branch spends one. -/
theorem castTo_int (ext : Ext) (t : IntTy) (x : Dyn) :
    castTo genTables ext (.int t) x = callNamed genTables ext 23 (casterOfInt t) x :=
  castTo_tail (CastFuel.dispatch_toCaster rfl) ext x

theorem toNumber_int (ext : Ext) (t : IntTy) (v : Int) (hv : t.inRange v) :
    castNamed genTables ext "ToNumber" (.int t v) = .ok (.num (formatInt v)) :=
  toNumber_of_int ext t v hv

theorem toString_int (ext : Ext) (t : IntTy) (v : Int) (hv : t.inRange v) :
    castNamed genTables ext "ToString" (.int t v) = .ok (.str (formatInt v)) :=
  toString_of_int ext t v hv

/-! ### 1. One column: the line's way through importer and exporter

  Over `LineLevel.jlLine_col_rejected` (`Import` fails: nothing reaches the exporter) and `LineLevel.jlLine_one`
  (the line is import, `NewValue`, `MarshalJSON` of the one cell). -/

/-! #### The cell steps for an integer column -/

def IntFmt (f : Format) : Prop := f = .numeric ∨ f = .string ∨ f = .timestamp ∨ f = .auto

/-- The error class a failed `Import` leaves on the line: `Import` of an Auto column hands the cast
    error through, the other formats wrap it (`ErrUnsupportedImport`). -/
def rejClass (f : Format) : ErrClass := if f = .auto then .cast else .unsupportedImport

/-- What `MarshalJSON` writes for the Go integer `v` under format `f`. -/
def cellText (f : Format) (v : Int) : Bytes :=
  if f = .string then JsonWrite.quote (formatInt v) else formatInt v

/-- The member the reader delivers for `cellText f v`. -/
def cellJV (f : Format) (v : Int) : JV :=
  if f = .string then .str (formatInt v) else .num (formatInt v)

def IsCarrier (x : Dyn) (lit : Bytes) : Prop := x = .num lit ∨ x = .str lit

/-- Both carriers end in the string clause of the caster (a json.Number is cast as `string(val)`):
    `strconv.ParseInt` / `ParseUint(lit, 0, bits of T)`, whatever the text. -/
theorem castTo_int_text (ext : Ext) (t : IntTy) {x : Dyn} {lit : Bytes} (hx : IsCarrier x lit) :
    castTo genTables ext (.int t) x =
      match textVal t lit with
      | some v => .ok (.int t v)
      | none => .err .cast := by
  rw [CasterFacts.castTo_cast ext (ty := .int t) rfl]
  rcases hx with rfl | rfl
  · rw [cast_num ext t lit]
    exact cast_text ext t lit
  · exact cast_text ext t lit

theorem importCell_carrier (env : Env) {f : Format} (hf : IntFmt f) {ty : Ty} (hty : ty ≠ .none)
    {x : Dyn} {lit : Bytes} (hx : IsCarrier x lit) :
    importCell env f ty x =
      match castTo env.T env.ext ty x with
      | .ok r => .ok (.cell r f ty, none)
      | .err .ext => .err .ext
      | .err e => .ok (.cell .nil f ty, some (if f = .auto then e else .unsupportedImport))
      | .panic s => .panic s := by
  have hs : CasterFacts.Scalar x := by rcases hx with rfl | rfl <;> trivial
  rcases hf with rfl | rfl | rfl | rfl <;>
    first
    | rw [CasterFacts.importCell_from env rfl ty hs, CasterFacts.importFrom_typed env _ x hty]
    | rw [CasterFacts.importCell_castTo env (.inl rfl) ty hs]
  all_goals
    cases castTo env.T env.ext ty x with
    | err e => cases e <;> rfl
    | _ => rfl

theorem import_int (ext : Ext) {f : Format} (hf : IntFmt f) (t : IntTy) (v : Int) {x : Dyn}
    (hx : IsCarrier x (formatInt v)) :
    importCell ⟨genTables, ext⟩ f (.int t) x =
      if t.inRange v then .ok (.cell (.int t v) f (.int t), none)
      else .ok (.cell .nil f (.int t), some (rejClass f)) := by
  rw [importCell_carrier _ hf (by simp) hx, castTo_int_text ext t hx, textVal_formatInt]
  by_cases hv : t.inRange v
  · rw [if_pos hv, if_pos hv]
  · rw [if_neg hv, if_neg hv]
    rfl

theorem newValue_int (ext : Ext) (f : Format) (t : IntTy) (v : Int) :
    newValue ⟨genTables, ext⟩ (.int t v) f (.int t) = .ok (.cell (.int t v) f (.int t)) :=
  newValue_keeps ext f (.inr (.inr rfl))

theorem marshal_string_str (ext : Ext) (s : Bytes) (ty : Ty) :
    RowPrint.marshalVal ⟨genTables, ext⟩ (.cell (.str s) .string ty) = .ok (JsonWrite.quote s) := by
  rw [marshalVal_cell_ok
    (CasterFacts.export_single rfl (CasterFacts.toString_str ext s) (by simp)),
    marshalExported_str]

theorem formatInt_isEmpty (v : Int) : (formatInt v).isEmpty = false := by
  unfold formatInt
  split
  · rfl
  · cases h : natDigits v.toNat with
    | nil => exact absurd h (natDigits_ne_nil _)
    | cons _ _ => rfl

/-- Under a timestamp column `Export` is `ToTimestamp`, i.e. `ToInt64`: the value has to fit `int64` (only `uint` /
    `uint64` hold others). -/
theorem marshal_int (ext : Ext) {f : Format} (hf : IntFmt f) (t : IntTy) (v : Int) (ty : Ty)
    (hv : t.inRange v) :
    RowPrint.marshalVal ⟨genTables, ext⟩ (.cell (.int t v) f ty) =
      if f = .timestamp → IntTy.i64.inRange v then .ok (cellText f v)
      else .err .unsupportedExport := by
  rcases hf with rfl | rfl | rfl | rfl
  · rw [marshalVal_cell_ok (CasterFacts.export_single rfl (toNumber_int ext t v hv) (by simp)),
      marshalExported_num]
    simp [formatInt_isEmpty, isValidNumber_formatInt, cellText]
  · rw [marshalVal_cell_ok (CasterFacts.export_single rfl (toString_int ext t v hv) (by simp)),
      marshalExported_str]
    simp [cellText]
  · rw [marshalVal_cell_eq, CasterFacts.exportVal_single (name := "ToTimestamp") rfl (by simp),
      CasterFacts.toTimestamp_int_eq ext t v hv]
    by_cases h64 : IntTy.i64.inRange v
    · simp [h64, exportFail, marshalExported_int, cellText]
    · simp [h64, exportFail]
  · rw [marshalVal_cell_ok (exportVal_auto _ _ _), marshalExported_int]
    simp [cellText]


/-! ### 1, the line: one integer column `k` on both sides -/

def IsCarrierJV (jv : JV) (lit : Bytes) : Prop := jv = .num lit ∨ jv = .str lit

theorem ofJV_carrier (env : Env) {jv : JV} {lit : Bytes} (h : IsCarrierJV jv lit) :
    ∃ x, ofJV env jv = .ok x ∧ IsCarrier x lit := by
  rcases h with rfl | rfl
  · exact ⟨.num lit, rfl, .inl rfl⟩
  · exact ⟨.str lit, rfl, .inr rfl⟩

theorem intFmt_visible {f : Format} (hf : IntFmt f) : f ≠ .hidden := by
  rcases hf with rfl | rfl | rfl | rfl <;> decide

theorem int_line_rejected (ext : Ext) (k : Bytes) {fi : Format} (fo : Format) (tyo : Ty)
    (hfi : IntFmt fi) (t : IntTy) (v : Int) (line : Bytes) (jv : JV)
    (hline : Json.unmarshal line = (.cons k jv .nil, true)) (hjv : IsCarrierJV jv (formatInt v))
    (hv : ¬ t.inRange v) :
    jlLine ⟨genTables, ext⟩ (withCol [] k fi (.int t)) (withCol [] k fo tyo) line =
      .ok ([], some (rejClass fi)) := by
  obtain ⟨x, hx, hc⟩ := ofJV_carrier ⟨genTables, ext⟩ hjv
  have himp := import_int ext hfi t v hc
  rw [if_neg hv] at himp
  exact LineLevel.jlLine_col_rejected _ k (gen_newValue_nil ext fi _) _ line jv x _ _ hline hx himp

/-- The outcome in every case, for any two formats.  The middle one (`uint` / `uint64` only): the value is imported
    and then refused by the exporter — rejected, not written with a wrapped value. -/
theorem int_line (ext : Ext) (k : Bytes) {fi fo : Format} (hfi : IntFmt fi) (hfo : IntFmt fo)
    (t : IntTy) (v : Int) (line : Bytes) (jv : JV)
    (hline : Json.unmarshal line = (.cons k jv .nil, true)) (hjv : IsCarrierJV jv (formatInt v)) :
    jlLine ⟨genTables, ext⟩ (withCol [] k fi (.int t)) (withCol [] k fo (.int t)) line =
      if t.inRange v then
        if fo = .timestamp → IntTy.i64.inRange v then
          .ok (objText k (cellText fo v) ++ [0x0A], none)
        else .ok ([], some .unsupportedExport)
      else .ok ([], some (rejClass fi)) := by
  obtain ⟨x, hx, hc⟩ := ofJV_carrier ⟨genTables, ext⟩ hjv
  rw [LineLevel.jlLine_one _ k (gen_newValue_nil ext fi _) (gen_newValue_nil ext fo _) (intFmt_visible hfo)
    hline hx, import_int ext hfi t v hc]
  by_cases hv : t.inRange v
  · simp only [if_pos hv, Outcome.bind_ok, Cells.raw, newValue_int, marshal_int ext hfo t v _ hv]
    split <;> rfl
  · simp only [if_neg hv]
    rfl

theorem int_line_written (ext : Ext) (k : Bytes) {fi fo : Format} (hfi : IntFmt fi)
    (hfo : IntFmt fo) (t : IntTy) (v : Int) (line : Bytes) (jv : JV)
    (hline : Json.unmarshal line = (.cons k jv .nil, true)) (hjv : IsCarrierJV jv (formatInt v))
    (hv : t.inRange v) (hts : fo = .timestamp → IntTy.i64.inRange v) :
    jlLine ⟨genTables, ext⟩ (withCol [] k fi (.int t)) (withCol [] k fo (.int t)) line =
      .ok (objText k (cellText fo v) ++ [0x0A], none) := by
  rw [int_line ext k hfi hfo t v line jv hline hjv, if_pos hv, if_pos hts]

/-! #### The reader's side of what was written -/

theorem sanitize_formatInt (v : Int) : sanitize (formatInt v) = formatInt v := by
  refine JsonPrint.sanitize_of_ascii _ fun b hb => ?_
  rcases formatInt_bytes v b hb with rfl | h
  · decide
  · have := h.2
    exact UInt8.lt_iff_toNat_lt.mpr (by simp; omega)

theorem reads_cellText (f : Format) (v : Int) : JsonPrint.ReadsAs (cellText f v) (cellJV f v) := by
  unfold cellText cellJV
  split
  · have := JsonPrint.readsAs_quote (formatInt v)
    rwa [sanitize_formatInt] at this
  · exact JsonPrint.readsAs_number (isValidNumber_formatInt v)

theorem unmarshal_cellText {k : Bytes} (hk : sanitize k = k) (f : Format) (v : Int) :
    Json.unmarshal (objText k (cellText f v)) = (.cons k (cellJV f v) .nil, true) := by
  rw [LineLevel.unmarshal_objText (reads_cellText f v), hk]

/-- C09 on the line, general form: exact value or rejection, never a wrapped value.  No `panic`, no `.err`
    outcome, no other bytes. -/
theorem int_line_exact_or_rejected (ext : Ext) (k : Bytes) (hk : sanitize k = k) {fi fo : Format}
    (hfi : IntFmt fi) (hfo : IntFmt fo) (t : IntTy) (v : Int) (line : Bytes) (jv : JV)
    (hline : Json.unmarshal line = (.cons k jv .nil, true)) (hjv : IsCarrierJV jv (formatInt v)) :
    (t.inRange v ∧ (fo = .timestamp → IntTy.i64.inRange v) ∧
      jlLine ⟨genTables, ext⟩ (withCol [] k fi (.int t)) (withCol [] k fo (.int t)) line =
        .ok (objText k (cellText fo v) ++ [0x0A], none) ∧
      Json.unmarshal (objText k (cellText fo v)) = (.cons k (cellJV fo v) .nil, true) ∧
      LineSpec.lookupJV (.cons k (cellJV fo v) .nil) k = some (cellJV fo v)) ∨
    ((¬ t.inRange v ∨ (fo = .timestamp ∧ ¬ IntTy.i64.inRange v)) ∧
      ∃ e, jlLine ⟨genTables, ext⟩ (withCol [] k fi (.int t)) (withCol [] k fo (.int t)) line =
        .ok ([], some e)) := by
  have h := int_line ext k hfi hfo t v line jv hline hjv
  by_cases hv : t.inRange v
  · by_cases hts : fo = .timestamp → IntTy.i64.inRange v
    · rw [if_pos hv, if_pos hts] at h
      exact .inl ⟨hv, hts, h, unmarshal_cellText hk fo v, lookupJV_single _ _⟩
    · rw [if_pos hv, if_neg hts] at h
      exact .inr ⟨.inr (Classical.not_imp.mp hts), _, h⟩
  · rw [if_neg hv] at h
    exact .inr ⟨.inl hv, _, h⟩


/-! #### Format by format (`fi = fo = f`) -/

def AcceptedWith (o : Outcome (Bytes × Option ErrClass)) (k : Bytes) (want : JV) : Prop :=
  (∃ b, o = .ok (b, none)) ∧
  ∀ b, o = .ok (b, none) → ∃ body tree, b = body ++ [0x0A] ∧ Json.unmarshal body = (tree, true) ∧
    LineSpec.lookupJV tree k = some want

theorem acceptedWith_of_written {o : Outcome (Bytes × Option ErrClass)} {k txt : Bytes} {want : JV}
    (hw : o = .ok (objText k txt ++ [0x0A], none))
    (hu : Json.unmarshal (objText k txt) = (.cons k want .nil, true)) : AcceptedWith o k want :=
  LineLevel.read_back hw hu (lookupJV_single _ _)

theorem int_line_accepted (ext : Ext) (k : Bytes) (hk : sanitize k = k) {f : Format} (hf : IntFmt f)
    (t : IntTy) (v : Int) (line : Bytes) (jv : JV)
    (hline : Json.unmarshal line = (.cons k jv .nil, true)) (hjv : IsCarrierJV jv (formatInt v))
    (hv : t.inRange v) (hts : f = .timestamp → IntTy.i64.inRange v) :
    AcceptedWith (jlLine ⟨genTables, ext⟩ (withCol [] k f (.int t)) (withCol [] k f (.int t)) line)
      k (cellJV f v) :=
  acceptedWith_of_written (int_line_written ext k hf hf t v line jv hline hjv hv hts)
    (unmarshal_cellText hk f v)

theorem numeric_line (ext : Ext) (k : Bytes) (hk : sanitize k = k) (t : IntTy) (v : Int)
    (line : Bytes) (hline : Json.unmarshal line = (.cons k (.num (formatInt v)) .nil, true))
    (hv : t.inRange v) :
    AcceptedWith (jlLine ⟨genTables, ext⟩ (withCol [] k .numeric (.int t))
      (withCol [] k .numeric (.int t)) line) k (.num (formatInt v)) :=
  int_line_accepted ext k hk (.inl rfl) t v line _ hline (.inl rfl) hv nofun

theorem string_line (ext : Ext) (k : Bytes) (hk : sanitize k = k) (t : IntTy) (v : Int)
    (line : Bytes) (jv : JV) (hline : Json.unmarshal line = (.cons k jv .nil, true))
    (hjv : IsCarrierJV jv (formatInt v)) (hv : t.inRange v) :
    AcceptedWith (jlLine ⟨genTables, ext⟩ (withCol [] k .string (.int t))
      (withCol [] k .string (.int t)) line) k (.str (formatInt v)) :=
  int_line_accepted ext k hk (.inr (.inl rfl)) t v line jv hline hjv hv nofun

theorem string_line_rejected (ext : Ext) (k : Bytes) (t : IntTy) (v : Int)
    (line : Bytes) (jv : JV) (hline : Json.unmarshal line = (.cons k jv .nil, true))
    (hjv : IsCarrierJV jv (formatInt v)) (hv : ¬ t.inRange v) :
    jlLine ⟨genTables, ext⟩ (withCol [] k .string (.int t)) (withCol [] k .string (.int t)) line =
      .ok ([], some .unsupportedImport) :=
  int_line_rejected ext k _ _ (.inr (.inl rfl)) t v line jv hline hjv hv

/-- `Export` hands the typed Go integer to json.Marshal, which prints its decimal literal. -/
theorem auto_line (ext : Ext) (k : Bytes) (hk : sanitize k = k) (t : IntTy) (v : Int)
    (line : Bytes) (jv : JV) (hline : Json.unmarshal line = (.cons k jv .nil, true))
    (hjv : IsCarrierJV jv (formatInt v)) (hv : t.inRange v) :
    AcceptedWith (jlLine ⟨genTables, ext⟩ (withCol [] k .auto (.int t))
      (withCol [] k .auto (.int t)) line) k (.num (formatInt v)) :=
  int_line_accepted ext k hk (.inr (.inr (.inr rfl))) t v line jv hline hjv hv nofun

theorem auto_line_rejected (ext : Ext) (k : Bytes) (t : IntTy) (v : Int)
    (line : Bytes) (jv : JV) (hline : Json.unmarshal line = (.cons k jv .nil, true))
    (hjv : IsCarrierJV jv (formatInt v)) (hv : ¬ t.inRange v) :
    jlLine ⟨genTables, ext⟩ (withCol [] k .auto (.int t)) (withCol [] k .auto (.int t)) line =
      .ok ([], some .cast) :=
  int_line_rejected ext k _ _ (.inr (.inr (.inr rfl))) t v line jv hline hjv hv

theorem timestamp_line_i64 (ext : Ext) (k : Bytes) (hk : sanitize k = k) (v : Int)
    (line : Bytes) (hline : Json.unmarshal line = (.cons k (.num (formatInt v)) .nil, true))
    (hv : IntTy.i64.inRange v) :
    AcceptedWith (jlLine ⟨genTables, ext⟩ (withCol [] k .timestamp (.int .i64))
      (withCol [] k .timestamp (.int .i64)) line) k (.num (formatInt v)) :=
  int_line_accepted ext k hk (.inr (.inr (.inl rfl))) .i64 v line _ hline (.inl rfl) hv fun _ => hv

theorem timestamp_line (ext : Ext) (k : Bytes) (hk : sanitize k = k) (t : IntTy)
    (ht : t ≠ .uint ∧ t ≠ .u64) (v : Int)
    (line : Bytes) (jv : JV) (hline : Json.unmarshal line = (.cons k jv .nil, true))
    (hjv : IsCarrierJV jv (formatInt v)) (hv : t.inRange v) :
    AcceptedWith (jlLine ⟨genTables, ext⟩ (withCol [] k .timestamp (.int t))
      (withCol [] k .timestamp (.int t)) line) k (.num (formatInt v)) :=
  int_line_accepted ext k hk (.inr (.inr (.inl rfl))) t v line jv hline hjv hv fun _ => by
    cases t <;> first | exact absurd rfl ht.1 | exact absurd rfl ht.2 |
      exact ⟨Int.le_trans (by decide) hv.1, Int.le_trans hv.2 (by decide)⟩

theorem timestamp_line_rejected (ext : Ext) (k : Bytes) (t : IntTy) (v : Int)
    (line : Bytes) (jv : JV) (hline : Json.unmarshal line = (.cons k jv .nil, true))
    (hjv : IsCarrierJV jv (formatInt v)) (hv : ¬ t.inRange v) :
    jlLine ⟨genTables, ext⟩ (withCol [] k .timestamp (.int t)) (withCol [] k .timestamp (.int t))
      line = .ok ([], some .unsupportedImport) :=
  int_line_rejected ext k _ _ (.inr (.inr (.inl rfl))) t v line jv hline hjv hv

theorem numeric_line_literal (ext : Ext) (k : Bytes) (hk : sanitize k = k) (t : IntTy) (v : Int) :
    (t.inRange v → AcceptedWith (jlLine ⟨genTables, ext⟩ (withCol [] k .numeric (.int t))
      (withCol [] k .numeric (.int t)) (lineOfInt k v)) k (.num (formatInt v))) ∧
    (¬ t.inRange v → jlLine ⟨genTables, ext⟩ (withCol [] k .numeric (.int t))
      (withCol [] k .numeric (.int t)) (lineOfInt k v) = .ok ([], some .unsupportedImport)) :=
  ⟨fun hv => int_line_accepted ext k hk (.inl rfl) t v _ _ (unmarshal_lineOfInt hk v) (.inl rfl) hv
    nofun,
   int_line_rejected ext k _ _ (.inl rfl) t v _ _ (unmarshal_lineOfInt hk v) (.inl rfl)⟩

/-! ### 2. Carrier independence on the line (C09 "by decimal text or by json.Number") -/

/-- The decimal text as a JSON string has the outcome of the number literal. -/
theorem numeric_line_string_input (ext : Ext) (k : Bytes) (t : IntTy) (v : Int) (line : Bytes)
    (hline : Json.unmarshal line = (.cons k (.str (formatInt v)) .nil, true)) :
    jlLine ⟨genTables, ext⟩ (withCol [] k .numeric (.int t)) (withCol [] k .numeric (.int t)) line =
      if t.inRange v then .ok (objText k (formatInt v) ++ [0x0A], none)
      else .ok ([], some .unsupportedImport) := by
  rw [int_line ext k (.inl rfl) (.inl rfl) t v line _ hline (.inr rfl)]
  split <;> rfl


/-! ### 3. Templates with any number of columns

  `LineLevel.followed` follows a declared column through an accepted line for every environment; added here is
  where the way of a decimal text through an integer column ends. -/

theorem IsCarrierJV.scalar {jv : JV} {lit : Bytes} (h : IsCarrierJV jv lit) :
    LineSpec.isContainer jv = false := by
  rcases h with rfl | rfl <;> rfl

/-- An integer column ACCEPTED the decimal text of `v`: otherwise `Import` would have left an error on the line. -/
theorem imported_int (ext : Ext) {f : Format} (hf : IntFmt f) (t : IntTy) {jv : JV} (v : Int)
    (hjv : IsCarrierJV jv (formatInt v)) {c : Val}
    (h : LineLevel.Imported ⟨genTables, ext⟩ f (.int t) jv c) :
    t.inRange v ∧ c = .cell (.int t v) f (.int t) := by
  obtain ⟨x, hx, hi⟩ := h
  obtain ⟨x', hx', hc⟩ := ofJV_carrier ⟨genTables, ext⟩ hjv
  cases hx.symm.trans hx'
  rw [import_int ext hf t v hc] at hi
  by_cases hv : t.inRange v
  · simp only [if_pos hv, Outcome.ok.injEq, Prod.mk.injEq, and_true] at hi
    exact ⟨hv, hi.symm⟩
  · simp [if_neg hv] at hi

theorem way_int (ext : Ext) {fi : Format} (hfi : IntFmt fi) (fo : Format) (t : IntTy) {jv : JV} (v : Int)
    (hjv : IsCarrierJV jv (formatInt v)) {c' : Val}
    (h : LineLevel.Way ⟨genTables, ext⟩ fi (.int t) fo (.int t) jv c') :
    t.inRange v ∧ c' = .cell (.int t v) fo (.int t) := by
  obtain ⟨c, hc, hn⟩ := h
  obtain ⟨hv, rfl⟩ := imported_int ext hfi t v hjv hc
  rw [Cells.raw, newValue_int] at hn
  exact ⟨hv, (Outcome.ok.inj hn).symm⟩

/-- `LineLevel.followed` on integer columns.  The input member is the last of its name, as the oracle reads the
    input (`LineSpec.normDup`); the separation hypothesis is that of `LineLevel.followed` (no other key of the
    line is written like `k`); `FloatTextOK` is there because OTHER columns may print floats. -/
theorem emitted_line_ints_pointwise (ext : Ext) (ti to : Tmpl) (line b : Bytes)
    (h : jlLine ⟨genTables, ext⟩ ti to line = .ok (b, none)) (hx : FloatTextOK ext)
    (hti : (OMap.keys ti).Nodup) (hto : (OMap.keys to).Nodup) :
    ∃ body tree, b = body ++ [0x0A] ∧ Json.unmarshal body = (tree, true) ∧
      ∀ k ci co t v jv, OMap.lookup ti k = some ci → OMap.lookup to k = some co →
        IntFmt (Cells.format ci) → Cells.rawType ci = .int t →
        IntFmt (Cells.format co) → Cells.rawType co = .int t →
        (∀ k' ∈ OMap.keys to ++ OMap.keys ti ++ Order.inputKeys line,
          sanitize k' = sanitize k → k' = k) →
        LineSpec.lookupJV (LineSpec.normDup (Json.unmarshal line).1) k = some jv →
        IsCarrierJV jv (formatInt v) →
        t.inRange v ∧ (Cells.format co = .timestamp → IntTy.i64.inRange v) ∧
          LineSpec.lookupJV tree (sanitize k) = some (cellJV (Cells.format co) v) := by
  obtain ⟨body, tree, hb, hu, hall⟩ := LineLevel.followed ⟨genTables, ext⟩ ti to line b h hx hti hto
  refine ⟨body, tree, hb, hu, ?_⟩
  intro k ci co t v jv hci hco hfi htyi hfo htyo hsep hlast hjv
  obtain ⟨c', hw, hout⟩ := hall k ci co jv hci hco hsep hlast hjv.scalar
  rw [htyi, htyo] at hw
  obtain ⟨hv, rfl⟩ := way_int ext hfi _ t v hjv hw
  -- the cell was printed: a timestamp column exported its value
  obtain ⟨txt, hm, hread⟩ := hout (intFmt_visible hfo)
  rw [marshal_int ext hfo t v _ hv] at hm
  split at hm
  · cases hm
    exact ⟨hv, ‹_›, hread _ (reads_cellText _ v)⟩
  · cases hm

/-- Templates declaring the same distinct, sanitize-fixed names (as every `jl` definition does), the member names
    of the input fixed by the escaper too: no separation hypothesis is left, and the member is found under the
    column's own name.  Stated for numeric(T) columns and a number-literal member. -/
theorem emitted_line_ints_same_names (ext : Ext) (ti to : Tmpl) (line b : Bytes)
    (h : jlLine ⟨genTables, ext⟩ ti to line = .ok (b, none)) (hx : FloatTextOK ext)
    (hto : (OMap.keys to).Nodup) (hperm : (OMap.keys ti).Perm (OMap.keys to))
    (hutf : ∀ k ∈ OMap.keys to, sanitize k = k)
    (hin : ∀ k ∈ Order.inputKeys line, sanitize k = k) :
    ∃ body tree, b = body ++ [0x0A] ∧ Json.unmarshal body = (tree, true) ∧
      ∀ k raw₁ raw₂ t v,
        (k, Val.cell raw₁ .numeric (.int t)) ∈ ti → (k, Val.cell raw₂ .numeric (.int t)) ∈ to →
        LineSpec.lookupJV (LineSpec.normDup (Json.unmarshal line).1) k =
          some (.num (formatInt v)) →
        t.inRange v ∧ LineSpec.lookupJV tree k = some (.num (formatInt v)) := by
  have hti : (OMap.keys ti).Nodup := hperm.nodup_iff.mpr hto
  obtain ⟨body, tree, hb, hu, hall⟩ := emitted_line_ints_pointwise ext ti to line b h hx hti hto
  refine ⟨body, tree, hb, hu, ?_⟩
  intro k raw₁ raw₂ t v hmi hmo hlast
  have hko : k ∈ OMap.keys to := List.mem_map_of_mem (f := Prod.fst) hmo
  have := hall k _ _ t v _ (OMap.lookup_of_mem hti hmi)
    (OMap.lookup_of_mem hto hmo) (.inl rfl) rfl (.inl rfl) rfl
    (LineLevel.separated_of_same_names hperm hutf k hko) hlast (.inl rfl)
  rw [hutf k hko] at this
  exact ⟨this.1, this.2.2⟩


/-! ### What the hypothesis `lit = formatInt v` leaves out

  The theorems above speak of the CANONICAL decimal literal.  For any other text the integer casters are
  `strconv.ParseInt(s, 0, bits)` / `ParseUint`: a JSON number in fraction or exponent form (`1.0`,
  `1e2`) is a syntax error for them, so the line is REJECTED even though the number denotes an
  integer that fits (never a wrapped or rounded value — but not "the mathematical integer" either);
  and base 0 means a STRING member `"010"` is read as octal 8, `"0x10"` as 16 (a JSON number literal
  cannot have a leading zero, so this only concerns string input).  See `Demo`. -/

theorem int_line_unparsed_rejected (ext : Ext) (k : Bytes) {fi : Format} (fo : Format) (tyo : Ty)
    (hfi : IntFmt fi) (t : IntTy) (lit : Bytes) (line : Bytes) (jv : JV)
    (hline : Json.unmarshal line = (.cons k jv .nil, true)) (hjv : IsCarrierJV jv lit)
    (hp : parseFor t lit = none) :
    jlLine ⟨genTables, ext⟩ (withCol [] k fi (.int t)) (withCol [] k fo tyo) line =
      .ok ([], some (rejClass fi)) := by
  obtain ⟨x, hx, hc⟩ := ofJV_carrier ⟨genTables, ext⟩ hjv
  refine LineLevel.jlLine_col_rejected _ k (gen_newValue_nil ext fi _) _ line jv x
    (.cell .nil fi (.int t)) _ hline hx ?_
  rw [importCell_carrier _ hfi (by simp) hc, castTo_int_text ext t hc, show textVal t lit = none from hp]
  rfl

/-! ### 4. Concrete lines, computed end to end over `genTables` and `Ext.empty` -/
namespace Demo
open RowPrint JsonWrite

def env : Env := ⟨genTables, Ext.empty⟩

/-- numeric(int8) column `n` -/
def tmpl8 : Tmpl := withCol [] [0x6E] .numeric (.int .i8)
/-- numeric(uint64) column `n` -/
def tmplU64 : Tmpl := withCol [] [0x6E] .numeric (.int .u64)

/-- `{"n":` -/
def pre : Bytes := [0x7B, 0x22, 0x6E, 0x22, 0x3A]

/-- `{"n":127}` -/
def line127 : Bytes := pre ++ [0x31, 0x32, 0x37, 0x7D]
/-- `{"n":128}` -/
def line128 : Bytes := pre ++ [0x31, 0x32, 0x38, 0x7D]
/-- `{"n":-129}` -/
def lineM129 : Bytes := pre ++ [0x2D, 0x31, 0x32, 0x39, 0x7D]
/-- `{"n":-128}` -/
def lineM128 : Bytes := pre ++ [0x2D, 0x31, 0x32, 0x38, 0x7D]
/-- `{"n":18446744073709551615}` -/
def lineMaxU64 : Bytes := pre ++ [0x31, 0x38, 0x34, 0x34, 0x36, 0x37, 0x34, 0x34, 0x30, 0x37, 0x33,
  0x37, 0x30, 0x39, 0x35, 0x35, 0x31, 0x36, 0x31, 0x35, 0x7D]
/-- `{"n":18446744073709551616}` -/
def lineOverU64 : Bytes := pre ++ [0x31, 0x38, 0x34, 0x34, 0x36, 0x37, 0x34, 0x34, 0x30, 0x37, 0x33,
  0x37, 0x30, 0x39, 0x35, 0x35, 0x31, 0x36, 0x31, 0x36, 0x7D]
/-- `{"n":"127"}` -/
def lineS127 : Bytes := pre ++ [0x22, 0x31, 0x32, 0x37, 0x22, 0x7D]
/-- `{"n":"128"}` -/
def lineS128 : Bytes := pre ++ [0x22, 0x31, 0x32, 0x38, 0x22, 0x7D]

theorem literal (t : IntTy) (v : Int) {line : Bytes} (jv : JV) (hjv : IsCarrierJV jv (formatInt v))
    (hl : Json.unmarshal line = (.cons [0x6E] jv .nil, true)) :
    jlLine env (withCol [] [0x6E] .numeric (.int t)) (withCol [] [0x6E] .numeric (.int t)) line =
      if t.inRange v then .ok (objText [0x6E] (formatInt v) ++ [0x0A], none)
      else .ok ([], some .unsupportedImport) :=
  (int_line Ext.empty [0x6E] (.inl rfl) (.inl rfl) t v line jv hl hjv).trans (by simp [cellText, rejClass])

theorem int8_127 : jlLine env tmpl8 tmpl8 line127 = .ok (line127 ++ [0x0A], none) :=
  (literal .i8 127 _ (.inl rfl) (by decide +kernel)).trans (by decide +kernel)

theorem int8_m128 : jlLine env tmpl8 tmpl8 lineM128 = .ok (lineM128 ++ [0x0A], none) :=
  (literal .i8 (-128) _ (.inl rfl) (by decide +kernel)).trans (by decide +kernel)

/-- Rejected, not written as `{"n":-128}`. -/
theorem int8_128 : jlLine env tmpl8 tmpl8 line128 = .ok ([], some .unsupportedImport) :=
  (literal .i8 128 _ (.inl rfl) (by decide +kernel)).trans (by decide +kernel)

/-- Not `{"n":127}`. -/
theorem int8_m129 : jlLine env tmpl8 tmpl8 lineM129 = .ok ([], some .unsupportedImport) :=
  (literal .i8 (-129) _ (.inl rfl) (by decide +kernel)).trans (by decide +kernel)

theorem uint64_max : jlLine env tmplU64 tmplU64 lineMaxU64 = .ok (lineMaxU64 ++ [0x0A], none) :=
  (literal .u64 18446744073709551615 _ (.inl rfl) (by decide +kernel)).trans (by decide +kernel)

/-- Not `{"n":0}`. -/
theorem uint64_over : jlLine env tmplU64 tmplU64 lineOverU64 = .ok ([], some .unsupportedImport) :=
  (literal .u64 18446744073709551616 _ (.inl rfl) (by decide +kernel)).trans (by decide +kernel)

/-- Carrier independence, computed. -/
theorem int8_s127 : jlLine env tmpl8 tmpl8 lineS127 = .ok (line127 ++ [0x0A], none) :=
  (literal .i8 127 _ (.inr rfl) (by decide +kernel)).trans (by decide +kernel)

theorem int8_s128 : jlLine env tmpl8 tmpl8 lineS128 = .ok ([], some .unsupportedImport) :=
  (literal .i8 128 _ (.inr rfl) (by decide +kernel)).trans (by decide +kernel)

example : ∃ tree, Json.unmarshal line127 = (tree, true) ∧
    LineSpec.lookupJV tree [0x6E] = some (.num [0x31, 0x32, 0x37]) :=
  ⟨.cons [0x6E] (.num [0x31, 0x32, 0x37]) .nil, by decide +kernel, lookupJV_single _ _⟩

/-- `ToTimestamp` is `ToInt64`: under timestamp(uint64) MaxUint64 is imported, then refused by the
    exporter — rejected, not written as `-1`. -/
example : jlLine env (withCol [] [0x6E] .timestamp (.int .u64)) (withCol [] [0x6E] .timestamp (.int .u64))
    lineMaxU64 = .ok ([], some .unsupportedExport) := by
  rw [show lineMaxU64 = lineOfInt [0x6E] 18446744073709551615 by decide +kernel]
  exact int_line Ext.empty [0x6E] (.inr (.inr (.inl rfl))) (.inr (.inr (.inl rfl))) .u64
    18446744073709551615 _ _ (unmarshal_lineOfInt LineTime.Demo.sanitize_n _) (.inl rfl)

/-! #### Outside the canonical literal -/

/-- `1e2` -/
def lit1e2 : Bytes := [0x31, 0x65, 0x32]
/-- `1.0` -/
def lit1p0 : Bytes := [0x31, 0x2E, 0x30]

/-- `{"n":1e2}` (one hundred, which fits int8) is REJECTED: `ParseInt("1e2", 0, 8)` is a syntax error. -/
theorem int8_1e2 (ext : Ext) : jlLine ⟨genTables, ext⟩ tmpl8 tmpl8 (pre ++ lit1e2 ++ [0x7D]) =
    .ok ([], some .unsupportedImport) :=
  int_line_unparsed_rejected ext [0x6E] .numeric _ (.inl rfl) .i8 lit1e2 _ (.num lit1e2)
    (by decide +kernel) (.inl rfl) (by decide +kernel)

theorem int8_1p0 (ext : Ext) : jlLine ⟨genTables, ext⟩ tmpl8 tmpl8 (pre ++ lit1p0 ++ [0x7D]) =
    .ok ([], some .unsupportedImport) :=
  int_line_unparsed_rejected ext [0x6E] .numeric _ (.inl rfl) .i8 lit1p0 _ (.num lit1p0)
    (by decide +kernel) (.inl rfl) (by decide +kernel)

/-- `{"n":"010"}` ↦ `{"n":8}`: base 0 reads the string as octal. -/
theorem int8_octal (ext : Ext) :
    jlLine ⟨genTables, ext⟩ tmpl8 tmpl8 (pre ++ [0x22, 0x30, 0x31, 0x30, 0x22, 0x7D]) =
      .ok (pre ++ [0x38, 0x7D, 0x0A], none) := by
  have hi : importCell ⟨genTables, ext⟩ .numeric (.int .i8) (.str [0x30, 0x31, 0x30]) =
      .ok (.cell (.int .i8 8) .numeric (.int .i8), none) := by
    rw [importCell_carrier _ (.inl rfl) (by simp) (.inr rfl), castTo_int_text ext .i8 (.inr rfl),
      show textVal .i8 [0x30, 0x31, 0x30] = some 8 by decide +kernel]
  exact (LineLevel.jlLine_col _ [0x6E] (gen_newValue_nil ext .numeric _) (gen_newValue_nil ext .numeric _)
    _ (.str [0x30, 0x31, 0x30]) _ _ _ _
    (by decide +kernel) rfl hi (newValue_int ext .numeric .i8 8) (by simp [Cells.format])
    ((marshal_int ext (f := .numeric) (.inl rfl) .i8 8 _ (by decide +kernel)).trans (if_pos nofun))).trans
    (by decide +kernel)

/-! #### Section 3 is not vacuous: two columns, a string one beside the numeric(int8) one

  The conclusion of `emitted_line_ints_same_names` for column `n`: 127 fits int8 and the emitted member is the
  literal `127`. -/

def ti2 : Tmpl := withCol (withCol [] [0x73] .string .none) [0x6E] .numeric (.int .i8)

/-- `{"s":"x","n":127}` -/
def line2 : Bytes :=
  [0x7B, 0x22, 0x73, 0x22, 0x3A, 0x22, 0x78, 0x22, 0x2C, 0x22, 0x6E, 0x22, 0x3A, 0x31, 0x32, 0x37, 0x7D]

theorem ti2_eq :
    ti2 = [([0x73], .cell .nil .string .none), ([0x6E], .cell .nil .numeric (.int .i8))] := rfl

theorem sanitize_s : sanitize [0x73] = [0x73] := by decide +kernel

theorem inputKeys_line2 : Order.inputKeys line2 = [[0x73], [0x6E]] := by decide +kernel

/-- the row `GetRow` delivers, which is also the row `CreateRow` makes of it -/
def imported2 : List (Bytes × Val) :=
  [([0x73], .cell (.str [0x78]) .string .none), ([0x6E], .cell (.int .i8 127) .numeric (.int .i8))]

theorem import_s : importCell env .string .none (.str [0x78]) =
    .ok (.cell (.str [0x78]) .string .none, none) :=
  CasterFacts.importCell_untyped rfl (CasterFacts.toString_str _ _) trivial

theorem steps2 : getRow env ti2 line2 = .ok (imported2, none) ∧
    createRow env ti2 (.val (.row (Members.ofList imported2))) = .ok (imported2, none) := by
  decide +kernel

theorem jlLine_line2 : ∃ body, jlLine env ti2 ti2 line2 = .ok (body ++ [0x0A], none) :=
  ⟨_, Order.jlLine_of_steps steps2.1 steps2.2 (JsonPrint.marshalRow_eq env _
    (JsonPrint.marshalMembers_cons env _ _ _ (by decide +kernel) (marshal_string_str _ _ _)
      (JsonPrint.marshalMembers_cons env _ _ _ (by decide +kernel)
        ((marshal_int Ext.empty (f := .numeric) (.inl rfl) .i8 127 _ (by decide +kernel)).trans
          (if_pos nofun))
        (JsonPrint.marshalMembers_nil env))))⟩

theorem floatOK : FloatTextOK env.ext := LineLevel.floatOK_empty

example : ∃ body tree, jlLine env ti2 ti2 line2 = .ok (body ++ [0x0A], none) ∧
    Json.unmarshal body = (tree, true) ∧ IntTy.i8.inRange 127 ∧
    LineSpec.lookupJV tree [0x6E] = some (.num [0x31, 0x32, 0x37]) := by
  obtain ⟨body0, hj⟩ := jlLine_line2
  obtain ⟨body, tree, hb, hu, hall⟩ :=
    emitted_line_ints_same_names Ext.empty ti2 ti2 line2 _ hj floatOK (by decide +kernel)
      (List.Perm.refl _) (by decide +kernel) (LineValues.inputKeys_fixed _)
  cases List.append_cancel_right hb
  have := hall [0x6E] .nil .nil .i8 127 (.tail _ (.head _)) (.tail _ (.head _))
    (by decide +kernel)
  rw [show formatInt 127 = [0x31, 0x32, 0x37] by decide +kernel] at this
  exact ⟨_, tree, hj, hu, this.1, this.2⟩

/-- `{"s":"x","n":128}`: not accepted under the same templates. -/
def line2' : Bytes :=
  [0x7B, 0x22, 0x73, 0x22, 0x3A, 0x22, 0x78, 0x22, 0x2C, 0x22, 0x6E, 0x22, 0x3A, 0x31, 0x32, 0x38, 0x7D]

theorem unmarshal_line2' : Json.unmarshal line2' =
    (.cons [0x73] (.str [0x78]) (.cons [0x6E] (.num [0x31, 0x32, 0x38]) .nil), true) := by
  decide +kernel

example (b : Bytes) : jlLine env ti2 ti2 line2' ≠ .ok (b, none) := fun h => by
  obtain ⟨c, hc⟩ := LineLevel.accepted_imported _ ti2 ti2 line2' b h (by decide +kernel) (k := [0x6E])
    (ci := .cell .nil .numeric (.int .i8)) (by decide +kernel) (jv := .num (formatInt 128)) (by decide +kernel) rfl
  exact absurd (imported_int Ext.empty (.inl rfl) .i8 128 (.inl rfl) hc).1 (by decide +kernel)

end Demo

end Jl.LineInts
