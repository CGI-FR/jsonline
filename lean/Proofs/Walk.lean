/-
  Proofs.Walk — the row loops of template.go, value.go and row.go are one walk.  `CloneRow`, `CreateRow`'s fill,
  `parseobject` and `Import(map)` each go through a list of (key, input) pairs and store under every key what a
  step function makes of the cell that was there, stopping at the first error.  `walk` is that loop with the
  step as a parameter (`WalkStep`); each loop of the model is `walk` at its own step, and what the proofs need
  of the loops is proved of `walk` once.
-/
import Model.Template
import Proofs.Row

namespace Jl

variable {C X E : Type}

/-- What one input makes of the cell under its key (`none`: the key is new): the cell to store, and
    the error reported with it. -/
abbrev WalkStep (C X E : Type) := Option C → X → Outcome (C × Option E)

/-- One store: `SetValue(k, …)` of what the step makes of the cell under `k`. -/
def store (step : WalkStep C X E) (o : OMap C) (k : Bytes) (x : X) : Outcome (OMap C × Option E) :=
  match step (OMap.lookup o k) x with
  | .ok (c, e) => .ok (OMap.upsert o k c, e)
  | .err e => .err e
  | .panic s => .panic s

def walk (step : WalkStep C X E) : OMap C → List (Bytes × X) → Outcome (OMap C × Option E)
  | o, [] => .ok (o, none)
  | o, (k, x) :: l =>
    match store step o k x with
    | .ok (o', none) => walk step o' l
    | .ok (o', some e) => .ok (o', some e)
    | .err e => .err e
    | .panic s => .panic s

variable {step : WalkStep C X E}

theorem store_inv {o o' : OMap C} {k : Bytes} {x : X} {e : Option E}
    (h : store step o k x = .ok (o', e)) :
    ∃ c, step (OMap.lookup o k) x = .ok (c, e) ∧ o' = OMap.upsert o k c := by
  rw [store] at h
  split at h
  · rename_i c e' hc; cases h; exact ⟨c, hc, rfl⟩
  · cases h
  · cases h

theorem store_of_step {o : OMap C} {k : Bytes} {x : X} {c : C} {e : Option E}
    (h : step (OMap.lookup o k) x = .ok (c, e)) : store step o k x = .ok (OMap.upsert o k c, e) := by
  rw [store, h]

theorem store_lookup_ne {o o' : OMap C} {k k' : Bytes} {x : X} {e : Option E}
    (h : store step o k' x = .ok (o', e)) (hk : ¬ k = k') : OMap.lookup o' k = OMap.lookup o k := by
  obtain ⟨c, _, rfl⟩ := store_inv h
  exact OMap.lookup_upsert_ne o c hk

/-! ### Classes of failures -/

/-- "No panic" is `P := fun _ => False`; "the only `.err` is the EXT marker" is `Q := (· = .ext)`. -/
def Within (Q : ErrClass → Prop) (P : String → Prop) {α : Type} : Outcome α → Prop
  | .ok _ => True
  | .err e => Q e
  | .panic s => P s

section
variable {Q : ErrClass → Prop} {P : String → Prop} {α β : Type}

theorem Within.err {o : Outcome α} (h : Within Q P o) {e : ErrClass} (he : o = .err e) : Q e := by
  rw [he] at h; exact h

theorem Within.panic {o : Outcome α} (h : Within Q P o) {s : String} (hs : o = .panic s) : P s := by
  rw [hs] at h; exact h

theorem Within.bind {o : Outcome α} {f : α → Outcome β} (h : Within Q P o)
    (hf : ∀ a, Within Q P (f a)) : Within Q P (o.bind f) := by
  cases o with
  | ok a => exact hf a
  | err e => exact h
  | panic s => exact h

theorem store_within (hs : ∀ p x, Within Q P (step p x)) (o : OMap C) (k : Bytes) (x : X) :
    Within Q P (store step o k x) := by
  rw [store]
  split
  · trivial
  · exact (hs _ _).err ‹_›
  · exact (hs _ _).panic ‹_›

end

namespace walk

theorem cons_of_store {o o1 : OMap C} {k : Bytes} {x : X} (l : List (Bytes × X))
    (h : store step o k x = .ok (o1, none)) : walk step o ((k, x) :: l) = walk step o1 l := by
  rw [walk, h]

/-! ### Columns are independent -/

def valuesAt (k : Bytes) (l : List (Bytes × X)) : List X :=
  l.filterMap fun kx => if kx.1 = k then some kx.2 else none

theorem valuesAt_cons_self (k : Bytes) (x : X) (l : List (Bytes × X)) :
    valuesAt k ((k, x) :: l) = x :: valuesAt k l := by
  simp [valuesAt]

theorem valuesAt_cons_ne {k k' : Bytes} (x : X) (l : List (Bytes × X)) (h : ¬ k' = k) :
    valuesAt k ((k', x) :: l) = valuesAt k l := by
  simp [valuesAt, h]

theorem mem_of_mem_valuesAt {k : Bytes} {x : X} {l : List (Bytes × X)} (h : x ∈ valuesAt k l) :
    (k, x) ∈ l := by
  obtain ⟨kx, hm, he⟩ := List.mem_filterMap.1 h
  split at he
  · rename_i hk; cases he; rw [← hk]; exact hm
  · cases he

theorem valuesAt_eq_nil {k : Bytes} {l : List (Bytes × X)} (h : k ∉ l.map Prod.fst) :
    valuesAt k l = [] :=
  List.eq_nil_iff_forall_not_mem.2 fun _ hx =>
    h (List.mem_map_of_mem (f := Prod.fst) (mem_of_mem_valuesAt hx))

theorem valuesAt_of_count {k : Bytes} {x : X} : ∀ {l : List (Bytes × X)},
    (l.map Prod.fst).count k = 1 → (k, x) ∈ l → valuesAt k l = [x]
  | (k0, x0) :: l, hc, hm => by
    rw [List.map_cons, List.count_cons] at hc
    by_cases hk : k0 = k
    · subst hk
      have hnl : k0 ∉ l.map Prod.fst := List.count_eq_zero.mp (by simpa using hc)
      rw [valuesAt_cons_self, valuesAt_eq_nil hnl]
      rcases List.mem_cons.1 hm with e | hm
      · cases e; rfl
      · exact absurd (List.mem_map.2 ⟨(k0, x), hm, rfl⟩) hnl
    · have hbeq : (k0 == k) = false := by simpa using hk
      rw [valuesAt_cons_ne x0 l hk, valuesAt_of_count (by simpa [hbeq] using hc)
        ((List.mem_cons.1 hm).resolve_left fun e => hk (congrArg Prod.fst e).symm)]

/-- The cells a key holds in turn: `At step p xs q` says the inputs `xs`, stored one after the
    other without error into a cell that was `p`, leave `q`. -/
inductive At (step : WalkStep C X E) : Option C → List X → Option C → Prop
  | nil (p : Option C) : At step p [] p
  | cons {p q : Option C} {x : X} {c : C} {xs : List X} :
      step p x = .ok (c, none) → At step (some c) xs q → At step p (x :: xs) q

theorem at_key {l : List (Bytes × X)} {o o' : OMap C} (h : walk step o l = .ok (o', none)) (k : Bytes) :
    At step (OMap.lookup o k) (valuesAt k l) (OMap.lookup o' k) := by
  fun_induction walk step o l with
  | case1 => cases h; exact .nil _
  | case2 o k0 x l o1 h1 ih =>
    obtain ⟨c, hc, rfl⟩ := store_inv h1
    have ih := ih h
    by_cases hk : k0 = k
    · subst hk
      rw [valuesAt_cons_self]
      rw [OMap.lookup_upsert_self] at ih
      exact .cons hc ih
    · rw [valuesAt_cons_ne x l hk]
      rwa [OMap.lookup_upsert_ne _ _ (fun e => hk e.symm)] at ih
  | case3 | case4 | case5 => cases h

theorem At.single_inv {p q : Option C} {x : X} (h : At step p [x] q) :
    ∃ c, step p x = .ok (c, none) ∧ q = some c := by
  cases h with
  | cons hc h' => cases h'; exact ⟨_, hc, rfl⟩

/-- When every store keeps an invariant `I` of the cell under the key and, under it, puts a cell that depends on
    the input alone (`F x c`), the key ends with what its LAST input gave.  `P` restricts the inputs `hs` is asked
    about (`last_at_key` takes `(k, x) ∈ l`). -/
theorem At.last {I : Option C → Prop} {F : X → C → Prop} {P : X → Prop}
    (hs : ∀ p x c, P x → I p → step p x = .ok (c, none) → I (some c) ∧ F x c) :
    ∀ {xs : List X} {p q : Option C}, At step p xs q → (∀ x ∈ xs, P x) → I p →
      I q ∧ (xs = [] → q = p) ∧ ∀ x, xs.getLast? = some x → ∃ c, q = some c ∧ F x c
  | _, _, _, .nil p, _, hp => ⟨hp, fun _ => rfl, fun _ h => by cases h⟩
  | x :: xs, p, q, .cons hc h, hP, hp => by
    obtain ⟨hI, hF⟩ := hs p x _ (hP x List.mem_cons_self) hp hc
    obtain ⟨hq, hnil, hl⟩ := At.last hs h (fun y hy => hP y (List.mem_cons_of_mem _ hy)) hI
    refine ⟨hq, ⟨fun h => absurd h (List.cons_ne_nil x xs), fun y hy => ?_⟩⟩
    cases xs with
    | nil => cases hy; exact ⟨_, hnil rfl, hF⟩
    | cons z zs => exact hl y (by rwa [List.getLast?_cons_cons] at hy)

theorem lookup_of_count {l : List (Bytes × X)} {o o' : OMap C} (h : walk step o l = .ok (o', none))
    {k : Bytes} {x : X} (hc : (l.map Prod.fst).count k = 1) (hx : (k, x) ∈ l) :
    ∃ c, step (OMap.lookup o k) x = .ok (c, none) ∧ OMap.lookup o' k = some c := by
  have := at_key h k
  rw [valuesAt_of_count hc hx] at this
  exact this.single_inv

theorem lookup_of_mem {l : List (Bytes × X)} {o o' : OMap C} (h : walk step o l = .ok (o', none))
    (hnd : (l.map Prod.fst).Nodup) {k : Bytes} {x : X} (hx : (k, x) ∈ l) :
    ∃ c, step (OMap.lookup o k) x = .ok (c, none) ∧ OMap.lookup o' k = some c :=
  lookup_of_count h (by rw [hnd.count, if_pos (List.mem_map.2 ⟨(k, x), hx, rfl⟩)]) hx

def lastAt (k : Bytes) (l : List (Bytes × X)) : Option X := (valuesAt k l).getLast?

theorem lastAt_cons (k k' : Bytes) (x : X) (l : List (Bytes × X)) :
    lastAt k ((k', x) :: l) = (lastAt k l).or (if k' = k then some x else none) := by
  unfold lastAt
  by_cases hk : k' = k
  · subst hk
    rw [valuesAt_cons_self, if_pos rfl, List.getLast?_cons]
    cases (valuesAt k' l).getLast? <;> rfl
  · rw [valuesAt_cons_ne x l hk, if_neg hk, Option.or_none]

theorem lastAt_map {Y : Type} (f : X → Y) (k : Bytes) (l : List (Bytes × X)) :
    lastAt k (l.map fun kx => (kx.1, f kx.2)) = (lastAt k l).map f := by
  induction l with
  | nil => rfl
  | cons kx l ih =>
    rw [List.map_cons, lastAt_cons, lastAt_cons, ih]
    cases lastAt k l with
    | some y => rfl
    | none => rw [Option.map_none, Option.none_or, Option.none_or]; split <;> rfl

theorem lastAt_eq_none_iff {k : Bytes} {l : List (Bytes × X)} :
    lastAt k l = none ↔ k ∉ l.map Prod.fst := by
  rw [lastAt, List.getLast?_eq_none_iff]
  refine ⟨fun h hk => ?_, valuesAt_eq_nil⟩
  obtain ⟨kx, hm, rfl⟩ := List.mem_map.1 hk
  have : kx.2 ∈ valuesAt kx.1 l := List.mem_filterMap.2 ⟨kx, hm, if_pos rfl⟩
  rw [h] at this
  cases this

theorem last_at_key {l : List (Bytes × X)} {o o' : OMap C} (h : walk step o l = .ok (o', none))
    (k : Bytes) {I : Option C → Prop} {F : X → C → Prop}
    (hs : ∀ p x c, (k, x) ∈ l → I p → step p x = .ok (c, none) → I (some c) ∧ F x c)
    (hI : I (OMap.lookup o k)) :
    I (OMap.lookup o' k) ∧ (lastAt k l = none → OMap.lookup o' k = OMap.lookup o k) ∧
      ∀ x, lastAt k l = some x → ∃ c, OMap.lookup o' k = some c ∧ F x c := by
  obtain ⟨h1, h2, h3⟩ := At.last (P := fun x => (k, x) ∈ l) hs (at_key h k)
    (fun x => mem_of_mem_valuesAt) hI
  exact ⟨h1, fun hn => h2 (List.getLast?_eq_none_iff.1 hn), h3⟩

/-! ### Errors, relations, panics -/

/-- `rel` with the error the walk stopped at in the relation. -/
theorem post {Q : OMap C → OMap C × Option E → Prop} (refl : ∀ o, Q o (o, none))
    (trans : ∀ {a b r}, Q a (b, none) → Q b r → Q a r) {l : List (Bytes × X)} {o : OMap C}
    {r : OMap C × Option E} (hs : ∀ kx ∈ l, ∀ o r, store step o kx.1 kx.2 = .ok r → Q o r)
    (h : walk step o l = .ok r) : Q o r := by
  fun_induction walk step o l with
  | case1 o => cases h; exact refl o
  | case2 o k x l o1 h1 ih =>
    exact trans (hs _ List.mem_cons_self o _ h1) (ih (fun kx hkx => hs kx (List.mem_cons_of_mem _ hkx)) h)
  | case3 o k x l o1 e h1 => cases h; exact hs _ List.mem_cons_self o _ h1
  | case4 | case5 => cases h

theorem rel {R : OMap C → OMap C → Prop} (refl : ∀ o, R o o)
    (trans : ∀ {a b c}, R a b → R b c → R a c) {l : List (Bytes × X)} {o o' : OMap C} {e : Option E}
    (hs : ∀ kx ∈ l, ∀ o o1 e, store step o kx.1 kx.2 = .ok (o1, e) → R o o1)
    (h : walk step o l = .ok (o', e)) : R o o' :=
  post (Q := fun a r => R a r.1) refl trans (fun kx hkx o r => hs kx hkx o r.1 r.2) h

theorem lookup_of_not_mem {l : List (Bytes × X)} {o o' : OMap C} {e : Option E}
    (h : walk step o l = .ok (o', e)) {k : Bytes} (hk : k ∉ l.map Prod.fst) :
    OMap.lookup o' k = OMap.lookup o k :=
  rel (R := fun a b => OMap.lookup b k = OMap.lookup a k) (fun _ => rfl) (fun h1 h2 => h2.trans h1)
    (fun _ hkx _ _ _ h1 =>
      store_lookup_ne h1 fun e => hk (e ▸ List.mem_map_of_mem (f := Prod.fst) hkx)) h

theorem within {Q : ErrClass → Prop} {P : String → Prop} (hs : ∀ p x, Within Q P (step p x))
    (l : List (Bytes × X)) (o : OMap C) : Within Q P (walk step o l) := by
  fun_induction walk step o l with
  | case1 | case3 => trivial
  | case2 _ _ _ _ _ _ ih => exact ih
  | case4 o k x _ _ h => exact (store_within hs o k x).err h
  | case5 o k x _ _ h => exact (store_within hs o k x).panic h

/-- Over distinct keys no store touches the cell another pair will meet: the walk is the pointwise update of the
    row it STARTS from (`P` carries what is known of the cells made). -/
theorem pointwise {P : Bytes → C → Prop} : ∀ (l : List (Bytes × X)) (o : OMap C),
    (l.map Prod.fst).Nodup →
    (∀ k x, (k, x) ∈ l → ∃ c, step (OMap.lookup o k) x = .ok (c, none) ∧ P k c) →
    ∃ o', walk step o l = .ok (o', none) ∧
      (∀ k ∈ l.map Prod.fst, ∃ c, OMap.lookup o' k = some c ∧ P k c) ∧
      ∀ k, k ∉ l.map Prod.fst → OMap.lookup o' k = OMap.lookup o k
  | [], o, _, _ => ⟨o, rfl, fun _ h => (nomatch h), fun _ _ => rfl⟩
  | (k0, x0) :: l, o, hnd, h => by
    rw [List.map_cons, List.nodup_cons] at hnd
    obtain ⟨c0, hc0, hP0⟩ := h k0 x0 List.mem_cons_self
    obtain ⟨o', ho', hin, hout⟩ := pointwise (P := P) l (OMap.upsert o k0 c0) hnd.2 (fun k x hm => by
      have hne : ¬ k = k0 := fun e => hnd.1 (List.mem_map.2 ⟨(k, x), hm, e⟩)
      rw [OMap.lookup_upsert_ne _ _ hne]
      exact h k x (List.mem_cons_of_mem _ hm))
    refine ⟨o', by rw [cons_of_store _ (store_of_step hc0)]; exact ho', fun k hk => ?_, fun k hk => ?_⟩
    · rw [List.map_cons, List.mem_cons] at hk
      rcases hk with rfl | hk
      · exact ⟨c0, by rw [hout _ hnd.1, OMap.lookup_upsert_self], hP0⟩
      · exact hin k hk
    · rw [List.map_cons, List.mem_cons, not_or] at hk
      rw [hout k hk.2, OMap.lookup_upsert_ne _ _ hk.1]

theorem fresh {g : X → C} :
    ∀ (l : List (Bytes × X)) (o : OMap C), (∀ kx ∈ l, step none kx.2 = .ok (g kx.2, none)) →
      (∀ k ∈ l.map Prod.fst, OMap.lookup o k = none) →
      (l.map Prod.fst).Nodup → walk step o l = .ok (o ++ l.map fun kx => (kx.1, g kx.2), none)
  | [], o, _, _, _ => by rw [List.map_nil, List.append_nil]; rfl
  | (k, x) :: l, o, hs, hf, hnd => by
    rw [List.map_cons, List.nodup_cons] at hnd
    have hk := hf k List.mem_cons_self
    rw [cons_of_store l (store_of_step (by rw [hk]; exact hs _ List.mem_cons_self)),
      OMap.upsert_of_not_mem o k _ ((OMap.lookup_eq_none_iff o k).1 hk),
      fresh l _ (fun kx h => hs kx (List.mem_cons_of_mem _ h)) (fun k' hk' => by
        have hne : ¬ k = k' := fun e => hnd.1 (by rw [e]; exact hk')
        rw [OMap.lookup_append, hf k' (List.mem_cons_of_mem _ hk'), Option.none_or,
          OMap.lookup_cons_ne _ _ hne]
        rfl) hnd.2,
      List.map_cons, List.append_assoc, List.singleton_append]

end walk

/-! ### The loops of the model are walks -/

open Jl.Value Jl.Template

/-- A member of `parseobject`: `Import` into the cell that is there, an Auto cell under a new name. -/
def memberStep (env : Env) : WalkStep Val Dyn ErrClass
  | some c, x => importVal env c x
  | none, x => .ok (Cells.autoCell x, none)

theorem parseMember_eq_store (env : Env) (o : List (Bytes × Val)) (k : Bytes) (x : Dyn) :
    parseMember env o k x = store (memberStep env) o k x := by
  rw [parseMember, store, lookup]
  cases OMap.lookup o k with
  | none => rfl
  | some c => simp only [memberStep]; rcases importVal env c x with ⟨_, _⟩ | _ | _ <;> rfl

theorem parseMembers_eq_walk (env : Env) : ∀ (l : List (Bytes × Dyn)) (o : List (Bytes × Val)),
    parseMembers env o l = walk (memberStep env) o l
  | [], _ => rfl
  | (k, x) :: l, o => by
    rw [parseMembers, walk, parseMember_eq_store]
    rcases store (memberStep env) o k x with ⟨o', _ | e⟩ | _ | _
    · exact parseMembers_eq_walk env l o'
    all_goals rfl

/-- `ImportAtKey` under a cell importer `imp`: the argument itself (a Value) or an Auto cell under
    a new name. -/
def importStep (imp : Val → Dyn → Outcome (Val × Option ErrClass)) : WalkStep Val Dyn ErrClass
  | some c, x => imp c x
  | none, x => .ok (Cells.newCell x, none)

theorem importAtKeyWith_eq_store (imp : Val → Dyn → Outcome (Val × Option ErrClass))
    (o : List (Bytes × Val)) (k : Bytes) (x : Dyn) :
    importAtKeyWith imp o k x = store (importStep imp) o k x := by
  rw [importAtKeyWith, store, lookup]
  cases OMap.lookup o k with
  | none => rfl
  | some c => simp only [importStep]; rcases imp c x with ⟨_, _⟩ | _ | _ <;> rfl

theorem importMapWith_eq_walk (imp : Val → Dyn → Outcome (Val × Option ErrClass)) :
    ∀ (l : List (Bytes × Dyn)) (o : List (Bytes × Val)),
      importMapWith imp o l = walk (importStep imp) o l
  | [], _ => rfl
  | (k, x) :: l, o => by
    rw [importMapWith, walk, importAtKeyWith_eq_store]
    rcases store (importStep imp) o k x with ⟨o', _ | e⟩ | _ | _
    · exact importMapWith_eq_walk imp l o'
    all_goals rfl

/-- `CreateRow`'s fill of one name: `NewValue` under the descriptor of the cell that is there, an
    Auto cell under a new name; it reports no error of its own. -/
def fillStep (env : Env) : WalkStep Val Dyn ErrClass
  | some c0, x => (newValue env x (Cells.format c0) (Cells.rawType c0)).bind fun c => .ok (c, none)
  | none, x => .ok (Cells.autoCell x, none)

/-- `CloneRow`'s store of one entry: its `CloneValue`, whatever was there. -/
def cloneStep (env : Env) : WalkStep Val Val ErrClass :=
  fun _ v => (cloneValue env v).bind fun c => .ok (c, none)

/-- A loop that has no error of its own to report, seen as a walk. -/
def noErr (o : Outcome (List (Bytes × Val))) : Outcome (List (Bytes × Val) × Option ErrClass) :=
  o.bind fun r => .ok (r, none)

theorem noErr_eq_ok {o : Outcome (List (Bytes × Val))} {r : List (Bytes × Val)} {e : Option ErrClass} :
    noErr o = .ok (r, e) ↔ o = .ok r ∧ e = none := by
  cases o <;> simp [noErr, Outcome.bind, eq_comm]

theorem within_noErr {Q : ErrClass → Prop} {P : String → Prop} {o : Outcome (List (Bytes × Val))} :
    Within Q P (noErr o) ↔ Within Q P o := by
  cases o <;> exact Iff.rfl

theorem fillStep_some {env : Env} {c0 c : Val} {x : Dyn} {e : Option ErrClass} :
    fillStep env (some c0) x = .ok (c, e) ↔
      newValue env x (Cells.format c0) (Cells.rawType c0) = .ok c ∧ e = none := by
  rw [fillStep]
  cases newValue env x (Cells.format c0) (Cells.rawType c0) <;> simp [Outcome.bind, eq_comm]

theorem fillStep_none {env : Env} {c : Val} {x : Dyn} {e : Option ErrClass} :
    fillStep env none x = .ok (c, e) ↔ c = Cells.autoCell x ∧ e = none := by
  simp [fillStep, eq_comm]

theorem cloneStep_ok {env : Env} {p : Option Val} {v c : Val} {e : Option ErrClass} :
    cloneStep env p v = .ok (c, e) ↔ cloneValue env v = .ok c ∧ e = none := by
  rw [cloneStep]
  cases cloneValue env v <;> simp [Outcome.bind, eq_comm]

theorem fill_eq_store (env : Env) (row : List (Bytes × Val)) (k : Bytes) (x : Dyn) :
    noErr (fill env row k x) = store (fillStep env) row k x := by
  rw [fill, store, lookup]
  cases OMap.lookup row k with
  | none => rfl
  | some c0 => simp only [fillStep]; cases newValue env x (Cells.format c0) (Cells.rawType c0) <;> rfl

theorem fill_store {env : Env} {row row' : List (Bytes × Val)} {k : Bytes} {x : Dyn} :
    fill env row k x = .ok row' ↔ store (fillStep env) row k x = .ok (row', none) := by
  rw [← fill_eq_store, noErr_eq_ok, and_iff_left rfl]

theorem fillPairs_eq_walk (env : Env) : ∀ (l : List (Bytes × Dyn)) (row : List (Bytes × Val)),
    noErr (fillPairs env row l) = walk (fillStep env) row l
  | [], _ => rfl
  | (k, x) :: l, row => by
    rw [fillPairs, walk, ← fill_eq_store]
    cases fill env row k x with
    | ok r => exact fillPairs_eq_walk env l r
    | err e => rfl
    | panic s => rfl

theorem fillPairs_walk {env : Env} {l : List (Bytes × Dyn)} {row row' : List (Bytes × Val)} :
    fillPairs env row l = .ok row' ↔ walk (fillStep env) row l = .ok (row', none) := by
  rw [← fillPairs_eq_walk, noErr_eq_ok, and_iff_left rfl]

theorem cloneInto_eq_walk (env : Env) : ∀ (r acc : List (Bytes × Val)),
    noErr (cloneInto env acc r) = walk (cloneStep env) acc r
  | [], _ => rfl
  | (k, v) :: r, acc => by
    rw [cloneInto, walk, store]
    simp only [cloneStep]
    cases cloneValue env v with
    | ok c => exact cloneInto_eq_walk env r _
    | err e => rfl
    | panic s => rfl

theorem cloneInto_walk {env : Env} {r acc r' : List (Bytes × Val)} :
    cloneInto env acc r = .ok r' ↔ walk (cloneStep env) acc r = .ok (r', none) := by
  rw [← cloneInto_eq_walk, noErr_eq_ok, and_iff_left rfl]

end Jl
