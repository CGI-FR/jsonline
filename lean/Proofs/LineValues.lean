/-
  Proofs.LineValues — undeclared members (and `auto` columns without raw type) pass through a templated line
  VERBATIM at every depth (C03 "nested objects under undeclared keys keep their input member order; no level is
  ever re-sorted"; C02's "order-preserving at all depths" when a template IS present).  The whole VALUE of a
  member is followed from the input text to the emitted text:

    text --reader--> JV --ofJV--> Auto cell holding the row of the value   (importer, `GetRow`)
         --CreateRow(Row)--> the same Auto cell                            (exporter)
         --marshalRow--> text --reader--> the same JV.

  "Same value" is JV EQUALITY with the value the oracle's `normDup` keeps under the name: the LAST member of
  that name, and inside it (at every depth, objects inside arrays included) every repeated name at its first
  position with its last value; on values without repeated names this is the value the reader delivered,
  unchanged (`normDup_unique`).  Why `normDup`: `Dup` below, `C03.repeated_name_inside_undeclared_object`.
-/
import Model.LineSpec
import Model.Template
import Model.CastGen
import Proofs.LineKeys
import Proofs.Order
import Proofs.JsonPrint
import Proofs.RoundTrip
import Proofs.CastTyped
import Proofs.DecEq

namespace Jl.LineValues
open Jl Jl.Value Jl.Template Jl.Cast
open Jl.JsonQuote (sanitize)
open Jl.JsonPrint (treeDyn treeVal treeMembers treeExported FloatTextOK)
open Jl.RoundTrip (dynOf dynListOf membersOf canonV canonL canon AllV AllL AllM StrOK NumOK
  ReaderTree)

/-! ### 0. Lists of members: `upsertKV` is the ordered map's upsert -/

/-- `cast.To(nil, x) = x` in this environment (true of the regenerated tables, whatever the
    standard-library parameters: `CastTyped.gen_castTo_none`). -/
def NoneId (env : Env) : Prop := ∀ x : Dyn, castTo env.T env.ext .none x = .ok x

theorem noneId_gen (ext : Ext) : NoneId ⟨genTables, ext⟩ := fun x => CastTyped.gen_castTo_none ext x

theorem jv_toList_ofList (l : List (Bytes × JV)) : (JVMembers.ofList l).toList = l := by
  induction l with
  | nil => rfl
  | cons a l ih => obtain ⟨k, v⟩ := a; simp [JVMembers.ofList, JVMembers.toList, ih]

theorem map_replace_id {k : Bytes} {w : JV} (rest : List (Bytes × JV)) (h : k ∉ OMap.keys rest) :
    rest.map (fun kv => if kv.1 == k then (k, w) else kv) = rest := by
  conv => rhs; rw [← List.map_id rest]
  exact List.map_congr_left fun kv hkv =>
    if_neg fun (e : (kv.1 == k) = true) => h (eq_of_beq e ▸ List.mem_map_of_mem (f := Prod.fst) hkv)

theorem any_false_of_not_mem {k : Bytes} (rest : List (Bytes × JV)) (h : k ∉ OMap.keys rest) :
    rest.any (fun kv => kv.1 == k) = false :=
  List.any_eq_false.2 fun _ hkv hk => h (eq_of_beq hk ▸ List.mem_map_of_mem (f := Prod.fst) hkv)

theorem upsertKV_eq (k : Bytes) (w : JV) : ∀ (acc : List (Bytes × JV)), (OMap.keys acc).Nodup →
    LineSpec.upsertKV acc k w = OMap.upsert acc k w := by
  intro acc
  induction acc with
  | nil => intro _; rfl
  | cons a rest ih =>
    intro hnd
    obtain ⟨k0, w0⟩ := a
    rw [OMap.keys_cons, List.nodup_cons] at hnd
    rw [OMap.upsert_cons, ← ih hnd.2]
    unfold LineSpec.upsertKV
    by_cases hk : k0 = k
    · subst hk
      simp only [List.any_cons, (beq_iff_eq (a := k0)).2 rfl, Bool.true_or, if_true, List.map_cons,
        map_replace_id rest hnd.1]
    · simp only [List.any_cons, beq_eq_false_iff_ne.mpr hk, Bool.false_or, List.map_cons,
        Bool.false_eq_true, if_false, if_neg hk]
      split <;> rfl

theorem nodup_upsertKV (acc : List (Bytes × JV)) (k : Bytes) (w : JV) (h : (OMap.keys acc).Nodup) :
    (OMap.keys (LineSpec.upsertKV acc k w)).Nodup := by
  rw [upsertKV_eq k w acc h]; exact OMap.nodup_upsert acc k w h

theorem lookupJV_eq (k : Bytes) : ∀ ms : JVMembers, LineSpec.lookupJV ms k = OMap.lookup ms.toList k
  | .nil => rfl
  | .cons k0 v0 ms => by
    rw [LineLevel.lookupJV_cons, lookupJV_eq k ms]
    simp only [JVMembers.toList, OMap.lookup]

theorem lookupJV_ofList (k : Bytes) (l : List (Bytes × JV)) :
    LineSpec.lookupJV (JVMembers.ofList l) k = OMap.lookup l k := by
  rw [lookupJV_eq, jv_toList_ofList]

theorem nodup_normDupM : ∀ (ms : JVMembers) (acc : List (Bytes × JV)), (OMap.keys acc).Nodup →
    (OMap.keys (LineSpec.normDupM ms acc)).Nodup
  | .nil, acc, h => by simpa [LineSpec.normDupM] using h
  | .cons k v ms, acc, h => by
    rw [LineSpec.normDupM]
    exact nodup_normDupM ms _ (nodup_upsertKV acc k _ h)

theorem normDupM_lookup (k : Bytes) : ∀ (ms : JVMembers) (acc : List (Bytes × JV)),
    (OMap.keys acc).Nodup →
    OMap.lookup (LineSpec.normDupM ms acc) k =
      ((walk.lastAt k ms.toList).map LineSpec.normDupV).or (OMap.lookup acc k)
  | .nil, acc, _ => rfl
  | .cons k' v ms, acc, hnd => by
    rw [LineSpec.normDupM, normDupM_lookup k ms _ (nodup_upsertKV acc k' _ hnd), JVMembers.toList,
      walk.lastAt_cons, upsertKV_eq k' _ acc hnd, OMap.lookup_upsert]
    cases walk.lastAt k ms.toList with
    | some y => rfl
    | none =>
      rw [Option.none_or, Option.map_none, Option.none_or]
      by_cases hk : k' = k
      · rw [if_pos hk, if_pos hk.symm]; rfl
      · rw [if_neg hk, if_neg fun e => hk e.symm]; rfl

theorem lastAt_of_normDup {ms : JVMembers} {k : Bytes} {jv : JV}
    (hjv : ∀ v, LineSpec.normDupV v = jv → v = jv)
    (h : LineSpec.lookupJV (LineSpec.normDup ms) k = some jv) :
    walk.lastAt k ms.toList = some jv := by
  rw [LineSpec.normDup, lookupJV_ofList, normDupM_lookup k ms [] List.nodup_nil] at h
  cases hv : walk.lastAt k ms.toList with
  | none => rw [hv] at h; cases h
  | some v => rw [hv] at h; rw [hjv v (Option.some.inj h)]

/-! ### 1. What `handledelim` builds for ANY tree: the row of the tree with repeated names resolved

A repeated name inside a nested object is imported into the cell of its first occurrence — an
Auto cell without raw type, whose `Import` stores the new value as it is: first position, last
value, which is exactly the oracle's `normDupV`. -/

/-- The Auto cell a member of a nested object (or an undeclared member of the line) is kept in. -/
def cellOf (w : JV) : Val := .cell (dynOf w) .auto .none

def cellsOf (acc : List (Bytes × JV)) : List (Bytes × Val) := acc.map fun kv => (kv.1, cellOf kv.2)

theorem cellsOf_upsert (k : Bytes) (w : JV) : ∀ acc : List (Bytes × JV),
    cellsOf (OMap.upsert acc k w) = OMap.upsert (cellsOf acc) k (cellOf w) := by
  intro acc
  induction acc with
  | nil => rfl
  | cons a rest ih =>
    obtain ⟨k0, w0⟩ := a
    by_cases hk : k0 = k
    · simp [cellsOf, OMap.upsert, hk]
    · simp only [cellsOf, List.map_cons, OMap.upsert, hk, if_false] at ih ⊢
      exact congrArg _ ih

theorem membersOf_ofList : ∀ l : List (Bytes × JV),
    membersOf (JVMembers.ofList l) = Members.ofList (cellsOf l) := by
  intro l
  induction l with
  | nil => rfl
  | cons a rest ih =>
    obtain ⟨k0, w0⟩ := a
    simp only [JVMembers.ofList, membersOf, cellsOf, List.map_cons, Members.ofList, cellOf] at ih ⊢
    rw [ih]

theorem importVal_auto (env : Env) (hN : NoneId env) (raw : Dyn) (w : JV) :
    importVal env (.cell raw .auto .none) (dynOf w) = .ok (cellOf w, none) :=
  Order.importCell_plain (.inl rfl) (hN _) (RoundTrip.dynOf_not_cell w)

theorem parseMember_auto (env : Env) (hN : NoneId env) (o : List (Bytes × Val)) (k : Bytes) (w : JV)
    (hp : ∀ c, OMap.lookup o k = some c → ∃ raw, c = .cell raw .auto .none) :
    parseMember env o k (dynOf w) = .ok (OMap.upsert o k (cellOf w), none) := by
  rw [parseMember_eq_store]
  refine store_of_step ?_
  cases hl : OMap.lookup o k with
  | none => rfl
  | some c =>
    obtain ⟨raw, rfl⟩ := hp c hl
    exact importVal_auto env hN raw w

/-- The member list `parseobject` receives for an object: names in text order, values converted
    (nested objects with their repeated names resolved). -/
def pairsN (ms : JVMembers) : List (Bytes × Dyn) :=
  ms.toList.map fun kv => (kv.1, dynOf (LineSpec.normDupV kv.2))

theorem parseMembers_norm (env : Env) (hN : NoneId env) : ∀ (ms : JVMembers)
    (acc : List (Bytes × JV)), (OMap.keys acc).Nodup →
    parseMembers env (cellsOf acc) (pairsN ms) = .ok (cellsOf (LineSpec.normDupM ms acc), none)
  | .nil, acc, _ => by simp [pairsN, JVMembers.toList, parseMembers, LineSpec.normDupM]
  | .cons k v ms, acc, hnd => by
    have hstep := parseMember_auto env hN (cellsOf acc) k (LineSpec.normDupV v) (by
      intro c hc
      obtain ⟨kv, _, e⟩ := List.mem_map.1 (OMap.mem_of_lookup hc)
      cases e; exact ⟨_, rfl⟩)
    rw [pairsN, JVMembers.toList, List.map_cons, parseMembers, hstep]
    simp only
    rw [← cellsOf_upsert, ← upsertKV_eq k _ acc hnd, LineSpec.normDupM]
    exact parseMembers_norm env hN ms _ (nodup_upsertKV acc k _ hnd)

mutual
  theorem ofJV_norm (env : Env) (hN : NoneId env) :
      ∀ v : JV, ofJV env v = .ok (dynOf (LineSpec.normDupV v))
    | .null => by rfl
    | .bool _ => by rfl
    | .num _ => by rfl
    | .str _ => by rfl
    | .arr xs => by
      simp only [ofJV, ofJVList_norm env hN xs, LineSpec.normDupV, dynOf,
        RoundTrip.DynList.ofList_toList]
    | .obj ms => by
      have hp := parseMembers_norm env hN ms [] List.nodup_nil
      simp only [cellsOf, List.map_nil] at hp
      simp only [ofJV, ofJVMembers_norm env hN ms, hp, LineSpec.normDupV, dynOf, membersOf_ofList,
        cellsOf]
  theorem ofJVList_norm (env : Env) (hN : NoneId env) :
      ∀ xs : JVList, ofJVList env xs = .ok (dynListOf (LineSpec.normDupL xs)).toList
    | .nil => by rfl
    | .cons x xs => by
      simp only [ofJVList, ofJV_norm env hN x, ofJVList_norm env hN xs, LineSpec.normDupL,
        dynListOf, DynList.toList]
  theorem ofJVMembers_norm (env : Env) (hN : NoneId env) :
      ∀ ms : JVMembers, ofJVMembers env ms = .ok (pairsN ms)
    | .nil => by rfl
    | .cons k v ms => by
      simp only [ofJVMembers, ofJV_norm env hN v, ofJVMembers_norm env hN ms, pairsN, JVMembers.toList,
        List.map_cons]
end

/-! ### 2. Resolving repeated names keeps a reader tree a reader tree; the printed tree -/

def AllAcc (P Q : Bytes → Prop) (l : List (Bytes × JV)) : Prop := ∀ kv ∈ l, P kv.1 ∧ AllV P Q kv.2

theorem mem_upsertKV {acc : List (Bytes × JV)} {k : Bytes} {w : JV} {kv : Bytes × JV}
    (h : kv ∈ LineSpec.upsertKV acc k w) : kv ∈ acc ∨ kv = (k, w) := by
  unfold LineSpec.upsertKV at h
  split at h
  · obtain ⟨kv0, h0, rfl⟩ := List.mem_map.1 h
    split
    · exact .inr rfl
    · exact .inl h0
  · exact (List.mem_append.1 h).imp_right List.mem_singleton.1

theorem allAcc_upsertKV {P Q : Bytes → Prop} {acc : List (Bytes × JV)} {k : Bytes} {w : JV}
    (ha : AllAcc P Q acc) (hk : P k) (hw : AllV P Q w) : AllAcc P Q (LineSpec.upsertKV acc k w) := by
  intro kv hkv
  rcases mem_upsertKV hkv with h | rfl
  · exact ha kv h
  · exact ⟨hk, hw⟩

theorem allM_toList {P Q : Bytes → Prop} : ∀ ms : JVMembers, AllM P Q ms ↔ AllAcc P Q ms.toList
  | .nil => by simp [AllM, AllAcc, JVMembers.toList]
  | .cons k v ms => by simp [AllM, AllAcc, JVMembers.toList, allM_toList ms, and_assoc]

mutual
  theorem allV_norm {P Q : Bytes → Prop} : ∀ v : JV, AllV P Q v → AllV P Q (LineSpec.normDupV v)
    | .null, h => h
    | .bool _, h => h
    | .num _, h => h
    | .str _, h => h
    | .arr xs, h => by
      simp only [AllV] at h
      simp only [LineSpec.normDupV, AllV]
      exact allL_norm xs h
    | .obj ms, h => by
      simp only [AllV] at h
      simp only [LineSpec.normDupV, AllV]
      exact (allM_toList _).2 (jv_toList_ofList _ ▸ allM_norm ms [] h (fun _ hkv => by cases hkv))
  theorem allL_norm {P Q : Bytes → Prop} : ∀ xs : JVList, AllL P Q xs →
      AllL P Q (LineSpec.normDupL xs)
    | .nil, _ => by simp [LineSpec.normDupL, AllL]
    | .cons x xs, h => by
      simp only [AllL] at h
      simp only [LineSpec.normDupL, AllL]
      exact ⟨allV_norm x h.1, allL_norm xs h.2⟩
  theorem allM_norm {P Q : Bytes → Prop} : ∀ (ms : JVMembers) (acc : List (Bytes × JV)),
      AllM P Q ms → AllAcc P Q acc → AllAcc P Q (LineSpec.normDupM ms acc)
    | .nil, acc, _, ha => by simpa [LineSpec.normDupM] using ha
    | .cons k v ms, acc, h, ha => by
      simp only [AllM] at h
      rw [LineSpec.normDupM]
      exact allM_norm ms _ h.2.2 (allAcc_upsertKV ha h.1 (allV_norm v h.2.1))
end

theorem uniqueM_ofList : ∀ l : List (Bytes × JV), (OMap.keys l).Nodup →
    (∀ kv ∈ l, RoundTrip.uniqueV kv.2 = true) → RoundTrip.uniqueM (JVMembers.ofList l) = true
  | [], _, _ => rfl
  | (k, w) :: l, hnd, hu => by
    rw [OMap.keys_cons, List.nodup_cons] at hnd
    have hk : ∀ l : List (Bytes × JV), k ∉ OMap.keys l →
        RoundTrip.hasKey k (JVMembers.ofList l) = false := by
      intro l
      induction l with
      | nil => intro _; rfl
      | cons a l ih =>
        intro h
        rw [OMap.keys_cons, List.mem_cons, not_or] at h
        simp only [JVMembers.ofList, RoundTrip.hasKey, ih h.2, Bool.or_false,
          decide_eq_false_iff_not]
        exact fun e => h.1 e.symm
    simp only [JVMembers.ofList, RoundTrip.uniqueM, hk l hnd.1, hu _ List.mem_cons_self,
      uniqueM_ofList l hnd.2 fun kv h => hu kv (List.mem_cons_of_mem _ h), Bool.not_false,
      Bool.and_self]

mutual
  theorem uniqueV_norm : ∀ v : JV, RoundTrip.uniqueV (LineSpec.normDupV v) = true
    | .null => rfl
    | .bool _ => rfl
    | .num _ => rfl
    | .str _ => rfl
    | .arr xs => by
      rw [LineSpec.normDupV, RoundTrip.uniqueV]
      exact uniqueL_norm xs
    | .obj ms => by
      rw [LineSpec.normDupV, RoundTrip.uniqueV]
      exact uniqueM_ofList _ (nodup_normDupM ms [] List.nodup_nil) (uniqueM_norm ms [] nofun)
  theorem uniqueL_norm : ∀ xs : JVList, RoundTrip.uniqueL (LineSpec.normDupL xs) = true
    | .nil => rfl
    | .cons x xs => by
      rw [LineSpec.normDupL, RoundTrip.uniqueL, uniqueV_norm x, uniqueL_norm xs]
      rfl
  theorem uniqueM_norm : ∀ (ms : JVMembers) (acc : List (Bytes × JV)),
      (∀ kv ∈ acc, RoundTrip.uniqueV kv.2 = true) →
      ∀ kv ∈ LineSpec.normDupM ms acc, RoundTrip.uniqueV kv.2 = true
    | .nil, acc, ha => by rw [LineSpec.normDupM]; exact ha
    | .cons k v ms, acc, ha => by
      rw [LineSpec.normDupM]
      exact uniqueM_norm ms _ fun kv h => by
        rcases mem_upsertKV h with h | rfl
        · exact ha kv h
        · exact uniqueV_norm v
end

theorem treeVal_cellOf_reader (env : Env) (w : JV) (hw : AllV StrOK NumOK w) :
    treeVal env (cellOf w) = w := by
  refine Eq.trans ?_ (RoundTrip.canonV_id w hw)
  unfold cellOf
  rw [RoundTrip.treeVal_auto, RoundTrip.treeDyn_dynOf env w]
  cases w <;> simp [dynOf, treeExported, canonV]

theorem marshalVal_cellOf (env : Env) {w : JV} (hw : AllV StrOK NumOK w) :
    RowPrint.marshalVal env (cellOf w) = .ok (RoundTrip.printV w) := by
  unfold cellOf
  rw [JsonPrint.marshalVal_auto, RoundTrip.marshalDyn_dynOf env StrOK w hw]

/-! ### 3. One name through the importer (`GetRow`) -/

/-- The name `k` is absent from the row or names an Auto cell without raw type. -/
def Pass (o : List (Bytes × Val)) (k : Bytes) : Prop :=
  ∀ c, OMap.lookup o k = some c → ∃ raw, c = .cell raw .auto .none

/-- The same on a template (every column called `k`, should the template repeat the name). -/
def PassT (t : Tmpl) (k : Bytes) : Prop :=
  ∀ c, (k, c) ∈ t → Cells.format c = .auto ∧ Cells.rawType c = .none

theorem passT_of_not_mem {t : Tmpl} {k : Bytes} (h : k ∉ OMap.keys t) : PassT t k :=
  fun _ hc => absurd (List.mem_map_of_mem (f := Prod.fst) hc) h

theorem cloneRow_pass (env : Env) (k : Bytes) (t r : List (Bytes × Val)) (ht : PassT t k)
    (h : cloneRow env t = .ok r) : Pass r k :=
  (walk.last_at_key (cloneInto_walk.1 h) k
    (I := fun p => ∀ c, p = some c → ∃ raw, c = .cell raw .auto .none) (F := fun _ _ => True)
    (fun _ v c hv _ hc => by
      obtain ⟨raw, rfl⟩ := Order.newValue_cell (cloneStep_ok.1 hc).1
      obtain ⟨h1, h2⟩ := ht v hv
      exact ⟨fun c' hc' => by cases hc'; rw [h1, h2]; exact ⟨raw, rfl⟩, trivial⟩)
    (fun c hc => by cases hc)).1

theorem parseMembers_at (env : Env) (hN : NoneId env) (k : Bytes) (ms : JVMembers)
    (o o' : List (Bytes × Val)) (h : walk (memberStep env) o (pairsN ms) = .ok (o', none))
    (hp : Pass o k) (w : JV) (hw : OMap.lookup (LineSpec.normDupM ms []) k = some w) :
    OMap.lookup o' k = some (cellOf w) := by
  rw [pairsN] at h
  -- every store under `k` puts the input, as it is, into an Auto cell
  obtain ⟨_, _, hlast⟩ := walk.last_at_key h k
    (I := fun p => ∀ c, p = some c → ∃ raw, c = .cell raw .auto .none)
    (F := fun x c => c = .cell x .auto .none) (fun p x c hx hI hc => by
      obtain ⟨kv, _, e⟩ := List.mem_map.1 hx
      cases e
      have : c = cellOf (LineSpec.normDupV kv.2) := by
        cases p with
        | none => cases hc; rfl
        | some c0 =>
          obtain ⟨raw, rfl⟩ := hI c0 rfl
          rw [memberStep, importVal_auto env hN] at hc
          cases hc; rfl
      exact ⟨fun _ h => by cases h; exact ⟨_, this⟩, this⟩) hp
  rw [normDupM_lookup k ms [] List.nodup_nil] at hw
  rw [walk.lastAt_map fun v => dynOf (LineSpec.normDupV v)] at hlast
  cases hl : walk.lastAt k ms.toList with
  | none => rw [hl] at hw; cases hw
  | some v =>
    rw [hl] at hw hlast
    cases hw
    obtain ⟨c, hc, rfl⟩ := hlast _ rfl
    exact hc

/-! ### 4. One name through the exporter's `CreateRow` -/

theorem fillStep_pass {env : Env} {o : List (Bytes × Val)} {k : Bytes} (hN : NoneId env)
    (hp : Pass o k) (d : Dyn) : fillStep env (OMap.lookup o k) d = .ok (.cell d .auto .none, none) := by
  cases hl : OMap.lookup o k with
  | none => rfl
  | some c =>
    obtain ⟨raw, rfl⟩ := hp c hl
    simp only [fillStep, Cells.format, Cells.rawType, newValue, hN d]
    rfl

/-! ### 5. The member the reader finds under the written name -/

theorem lookupJV_tree_of_lookup (env : Env) (k : Bytes) (row : List (Bytes × Val)) (c : Val)
    (hsep : ∀ k' ∈ RowPrint.visibleKeys row, sanitize k' = sanitize k → k' = k)
    (hl : OMap.lookup row k = some c) (hvis : Cells.format c ≠ .hidden) :
    LineSpec.lookupJV (treeMembers env (Members.ofList row)) (sanitize k) = some (treeVal env c) := by
  rw [LineLevel.lookupJV_tree_eq env k row hsep, LineLevel.lookup_filter hl (by simpa using hvis)]
  rfl

/-! ### 6. The theorems -/

theorem normDup_reader (line : Bytes) (k : Bytes) (v : JV)
    (hv : LineSpec.lookupJV (LineSpec.normDup (Json.unmarshal line).1) k = some v) :
    sanitize k = k ∧ AllV StrOK NumOK v := by
  rw [LineSpec.normDup, lookupJV_ofList] at hv
  exact allM_norm (Json.unmarshal line).1 [] (RoundTrip.reader_tree_ok line)
    (fun _ hkv => by cases hkv) (k, v) (OMap.mem_of_lookup hv)

/-- The exporter's half, for any environment: a member that the importer's row holds whole in an Auto
    cell, under a name the exporter's prototype lets through, is written verbatim. -/
theorem held_member_verbatim (env : Env) (ti to : Tmpl) (line b k : Bytes) (v : JV)
    (h : jlLine env ti to line = .ok (b, none)) (hx : FloatTextOK env.ext)
    (hsep : ∀ k' ∈ OMap.keys to ++ OMap.keys ti ++ Order.inputKeys line,
      sanitize k' = sanitize k → k' = k)
    (hvw : AllV StrOK NumOK v)
    (hr : ∀ r, getRow env ti line = .ok (r, none) → OMap.lookup r k = some (cellOf v))
    (hto : ∀ row0', cloneRow env to = .ok row0' →
      fillStep env (OMap.lookup row0' k) (dynOf v) = .ok (cellOf v, none)) :
    ∃ body t, b = body ++ [0x0A] ∧ Json.unmarshal body = (t, true) ∧
      LineSpec.lookupJV t (sanitize k) = some v := by
  obtain ⟨r, row', body, hget, hcr, _, hb, hu⟩ := LineLevel.emitted_text env ti to line b h hx
  refine ⟨body, _, hb, hu, ?_⟩
  obtain ⟨_, row0', h0', h1'⟩ := Order.createRow_row_iff.1 hcr
  obtain ⟨c, hc, hr'⟩ := walk.lookup_of_mem h1'
    (by rw [Order.keys_map_raw]; exact Order.getRow_keys_nodup _ ti line r hget)
    (List.mem_map.2 ⟨(k, cellOf v), OMap.mem_of_lookup (hr r hget), rfl⟩)
  cases hc.symm.trans (hto row0' h0')
  -- the reader finds its print under the written name
  have horigin := LineLevel.created_keys_origin _ ti to line r row' hget hcr
  rw [← treeVal_cellOf_reader env v hvw]
  exact lookupJV_tree_of_lookup _ k row' (cellOf v)
    (fun k' hk' => hsep k' (horigin k' (LineLevel.visibleKeys_subset row' k' hk'))) hr'
    (by simp [cellOf, Cells.format])

/-- General form: any cast tables whose `cast.To` with a nil target type returns its argument (as the source's
    does), any pair of templates (no hypothesis on the other columns, repeated column names allowed).  `k`: a name
    that each template either does not declare or declares as an `auto` column without raw type.  `v`: the value
    the input holds under `k` as the oracle reads it (`normDup`).  `hsep` is `LineLevel`'s separation hypothesis:
    no other key of the line is written like `k`. -/
theorem passed_member_verbatim (T : CastTables) (ext : Ext) (ti to : Tmpl) (line b k : Bytes) (v : JV)
    (hT : ∀ x : Dyn, castTo T ext .none x = .ok x)
    (h : jlLine ⟨T, ext⟩ ti to line = .ok (b, none)) (hx : FloatTextOK ext)
    (hti : PassT ti k) (hto : PassT to k)
    (hsep : ∀ k' ∈ OMap.keys to ++ OMap.keys ti ++ Order.inputKeys line,
      sanitize k' = sanitize k → k' = k)
    (hv : LineSpec.lookupJV (LineSpec.normDup (Json.unmarshal line).1) k = some v) :
    ∃ body t, b = body ++ [0x0A] ∧ Json.unmarshal body = (t, true) ∧
      LineSpec.lookupJV t (sanitize k) = some v := by
  have hN : NoneId ⟨T, ext⟩ := hT
  refine held_member_verbatim _ ti to line b k v h hx hsep (normDup_reader line k v hv).2
    (fun r hget => ?_) (fun row0' h0' => fillStep_pass hN (cloneRow_pass _ k to row0' hto h0') _)
  -- the importer's row holds the row of `v` in an Auto cell
  obtain ⟨row0, l, h0, _, hl, hp⟩ := Order.getRow_accepted_iff.1 hget
  rw [ofJVMembers_norm _ hN] at hl
  cases hl
  rw [LineSpec.normDup, lookupJV_ofList] at hv
  exact parseMembers_at _ hN k _ row0 r hp (cloneRow_pass _ k ti row0 hti h0) v hv

/-- A member whose name NEITHER template declares passes through whole. -/
theorem undeclared_member_verbatim (T : CastTables) (ext : Ext) (ti to : Tmpl) (line b k : Bytes)
    (v : JV) (hT : ∀ x : Dyn, castTo T ext .none x = .ok x)
    (h : jlLine ⟨T, ext⟩ ti to line = .ok (b, none)) (hx : FloatTextOK ext)
    (hki : k ∉ OMap.keys ti) (hko : k ∉ OMap.keys to)
    (hsep : ∀ k' ∈ OMap.keys to ++ OMap.keys ti ++ Order.inputKeys line,
      sanitize k' = sanitize k → k' = k)
    (hv : LineSpec.lookupJV (LineSpec.normDup (Json.unmarshal line).1) k = some v) :
    ∃ body t, b = body ++ [0x0A] ∧ Json.unmarshal body = (t, true) ∧
      LineSpec.lookupJV t (sanitize k) = some v :=
  passed_member_verbatim T ext ti to line b k v hT h hx (passT_of_not_mem hki)
    (passT_of_not_mem hko) hsep hv

theorem passT_of_nodup {t : Tmpl} {k : Bytes} {raw : Dyn} (hnd : (OMap.keys t).Nodup)
    (hm : (k, Val.cell raw .auto .none) ∈ t) : PassT t k := by
  intro c hc
  have h1 := OMap.lookup_of_mem hnd hm
  have h2 := OMap.lookup_of_mem hnd hc
  rw [h1] at h2
  cases h2
  exact ⟨rfl, rfl⟩

/-- The same for a name declared as an `auto` column without raw type in BOTH templates (distinct column names).
    (`passed_member_verbatim` also covers a name declared so in one template and undeclared in the other.) -/
theorem auto_column_verbatim (T : CastTables) (ext : Ext) (ti to : Tmpl) (line b k : Bytes) (v : JV)
    (ri ro : Dyn) (hT : ∀ x : Dyn, castTo T ext .none x = .ok x)
    (h : jlLine ⟨T, ext⟩ ti to line = .ok (b, none)) (hx : FloatTextOK ext)
    (hndi : (OMap.keys ti).Nodup) (hndo : (OMap.keys to).Nodup)
    (hci : (k, Val.cell ri .auto .none) ∈ ti) (hco : (k, Val.cell ro .auto .none) ∈ to)
    (hsep : ∀ k' ∈ OMap.keys to ++ OMap.keys ti ++ Order.inputKeys line,
      sanitize k' = sanitize k → k' = k)
    (hv : LineSpec.lookupJV (LineSpec.normDup (Json.unmarshal line).1) k = some v) :
    ∃ body t, b = body ++ [0x0A] ∧ Json.unmarshal body = (t, true) ∧
      LineSpec.lookupJV t (sanitize k) = some v :=
  passed_member_verbatim T ext ti to line b k v hT h hx (passT_of_nodup hndi hci)
    (passT_of_nodup hndo hco) hsep hv

/-! ### 7. In the oracle's words: no level is re-sorted -/

mutual
  /-- The member-name lists of every object of a value, outermost first, in text order (objects
      inside arrays included). -/
  def namesDeep : JV → List (List Bytes)
    | .obj ms => LineSpec.keysOf ms :: namesDeepM ms
    | .arr xs => namesDeepL xs
    | _ => []
  def namesDeepM : JVMembers → List (List Bytes)
    | .nil => []
    | .cons _ v ms => namesDeep v ++ namesDeepM ms
  def namesDeepL : JVList → List (List Bytes)
    | .nil => []
    | .cons v xs => namesDeep v ++ namesDeepL xs
end

mutual
  theorem sameShape_refl : ∀ v : JV, LineSpec.sameShape v v = true
    | .null => by rfl
    | .bool _ => by rfl
    | .num _ => by rfl
    | .str _ => by rfl
    | .arr xs => by simp only [LineSpec.sameShape]; exact sameShapeL_refl xs
    | .obj ms => by simp only [LineSpec.sameShape]; exact sameShapeM_refl ms
  theorem sameShapeL_refl : ∀ xs : JVList, LineSpec.sameShapeL xs xs = true
    | .nil => by rfl
    | .cons v xs => by simp [LineSpec.sameShapeL, sameShape_refl v, sameShapeL_refl xs]
  theorem sameShapeM_refl : ∀ ms : JVMembers, LineSpec.sameShapeM ms ms = true
    | .nil => by rfl
    | .cons k v ms => by simp [LineSpec.sameShapeM, sameShape_refl v, sameShapeM_refl ms]
end

/-- `passed_member_verbatim` in the oracle's wording (`LineSpec.sameShape`: names and order at every depth, array
    lengths): the emitted value IS the input's, so the two further conjuncts hold by reflexivity. -/
theorem passed_member_not_resorted (T : CastTables) (ext : Ext) (ti to : Tmpl) (line b k : Bytes)
    (v : JV) (hT : ∀ x : Dyn, castTo T ext .none x = .ok x)
    (h : jlLine ⟨T, ext⟩ ti to line = .ok (b, none)) (hx : FloatTextOK ext)
    (hti : PassT ti k) (hto : PassT to k)
    (hsep : ∀ k' ∈ OMap.keys to ++ OMap.keys ti ++ Order.inputKeys line,
      sanitize k' = sanitize k → k' = k)
    (hv : LineSpec.lookupJV (LineSpec.normDup (Json.unmarshal line).1) k = some v) :
    ∃ body t ov, b = body ++ [0x0A] ∧ Json.unmarshal body = (t, true) ∧
      LineSpec.lookupJV t (sanitize k) = some ov ∧ namesDeep ov = namesDeep v ∧
      LineSpec.sameShape v ov = true := by
  obtain ⟨body, t, hb, hu, hl⟩ :=
    passed_member_verbatim T ext ti to line b k v hT h hx hti hto hsep hv
  exact ⟨body, t, v, hb, hu, hl, rfl, sameShape_refl v⟩

/-- The last clause of `LineSpec.orderViolation` (undeclared keys: containers keep the input's
    shape), as a function of its own. -/
def undeclaredClause (cols : List LineSpec.Col) (input output : JVMembers) (inSub : Bool) :
    Option (String × Bool) :=
  (LineSpec.keysOf output).foldl (fun acc k =>
    match acc with
    | some v => some v
    | none =>
      if (cols.map LineSpec.Col.name).contains k then none
      else
        match LineSpec.lookupJV input k, LineSpec.lookupJV output k with
        | some iv, some ov =>
          if LineSpec.sameShape iv ov then none else some ("undeclared-value-reshaped", inSub)
        | _, _ => none) none

/-- The clause before it (declared columns). -/
def declaredClause (fuel : Nat) (cols : List LineSpec.Col) (input output : JVMembers)
    (inSub : Bool) : Option (String × Bool) :=
  cols.foldl (fun acc c =>
    match acc with
    | some v => some v
    | none =>
      match c, LineSpec.lookupJV output c.name with
      | .sub n sub, some (.obj o) =>
        match LineSpec.lookupJV input n with
        | some (.obj i) => LineSpec.orderViolation fuel sub i o true
        | _ => LineSpec.orderViolation fuel sub .nil o true
      | .sub _ _, some .null => none
      | .sub _ _, some _ => some ("sub-row-not-an-object", true)
      | .leaf n _ _, some ov =>
        match LineSpec.lookupJV input n with
        | some iv =>
          if LineSpec.isContainer ov && !(LineSpec.sameShape iv ov) then
            some ("nested-object-resorted", inSub) else none
        | none => none
      | _, none => none) none

/-- `undeclaredClause` IS the oracle's last clause. -/
theorem orderViolation_succ (fuel : Nat) (cols : List LineSpec.Col) (input output : JVMembers)
    (inSub : Bool) :
    LineSpec.orderViolation (fuel + 1) cols input output inSub =
      if LineSpec.hasDupKeys input then none
      else if LineSpec.keysOf output != LineSpec.expectedKeys cols (LineSpec.keysOf input) then
        some ("key-order-or-presence", inSub)
      else (declaredClause fuel cols input output inSub).orElse fun _ =>
        undeclaredClause cols input output inSub := by
  rw [LineSpec.orderViolation]
  rfl

theorem inputKeys_fixed (line : Bytes) : ∀ k ∈ Order.inputKeys line, sanitize k = k := fun k hk => by
  obtain ⟨kv, hkv, rfl⟩ := List.mem_map.1 hk
  exact ((allM_toList _).1 (RoundTrip.reader_tree_ok line) kv hkv).1

/-- `C03.undeclared_values_never_reshaped`: the oracle's check of the undeclared members of the emitted object
    against the input, as the driver calls it (`normDup` of what the reader delivers for the input line). -/
theorem undeclared_clause_none (ext : Ext) (ti to : Tmpl) (line b : Bytes)
    (h : jlLine ⟨genTables, ext⟩ ti to line = .ok (b, none)) (hx : FloatTextOK ext)
    (hsub : ∀ k ∈ OMap.keys ti, k ∈ OMap.keys to)
    (hfix : ∀ k ∈ OMap.keys to, sanitize k = k) :
    ∃ body t, b = body ++ [0x0A] ∧ Json.unmarshal body = (t, true) ∧
      undeclaredClause (LineLevel.leafCols to) (LineSpec.normDup (Json.unmarshal line).1) t false
        = none := by
  obtain ⟨r, row', body, _, _, _, hb, hu⟩ :=
    LineLevel.emitted_text ⟨genTables, ext⟩ ti to line b h hx
  refine ⟨body, _, hb, hu, ?_⟩
  have hall : ∀ k ∈ OMap.keys to ++ OMap.keys ti ++ Order.inputKeys line, sanitize k = k := by
    simp only [List.forall_mem_append]
    exact ⟨⟨hfix, fun k hk => hfix k (hsub k hk)⟩, inputKeys_fixed line⟩
  unfold undeclaredClause
  apply LineLevel.foldl_none
  intro k _
  simp only [LineLevel.leafCols_names, List.contains_eq_mem, decide_eq_true_eq]
  by_cases hk : k ∈ OMap.keys to
  · simp [hk]
  · simp only [hk, if_false]
    cases hi : LineSpec.lookupJV (LineSpec.normDup (Json.unmarshal line).1) k with
    | none => rfl
    | some iv =>
      -- a name of the input is well-formed UTF-8: the member is found under `k` itself
      have hkfix := (normDup_reader line k iv hi).1
      obtain ⟨body', t', hb', hu', hl'⟩ :=
        passed_member_verbatim genTables ext ti to line b k iv (CastTyped.gen_castTo_none ext)
          h hx (passT_of_not_mem fun hki => hk (hsub k hki)) (passT_of_not_mem hk)
          (fun k' hk' hs => (hall k' hk').symm.trans (hs.trans hkfix)) hi
      cases List.append_cancel_right (hb'.symm.trans hb)
      rw [hu] at hu'
      cases hu'
      rw [hkfix] at hl'
      simp only [hl', sameShape_refl, if_true]

/-! ### 8. Any cast tables at all, for lines whose member names are unique at every depth

No cast is consulted on the way of an undeclared member whose name is not repeated: the
hypothesis on `cast.To(nil, ·)` can be dropped on C02's domain (`RoundTrip.UniqueKeys`), where
`normDup` is the identity. -/

theorem hasKey_false {k : Bytes} : ∀ {ms : JVMembers}, RoundTrip.hasKey k ms = false →
    k ∉ ms.toList.map Prod.fst :=
  fun h hk => by cases (RoundTrip.keys_pairsOf_mem (RoundTrip.keys_pairsOf _ ▸ hk)).symm.trans h

theorem jv_ofList_toList : ∀ ms : JVMembers, JVMembers.ofList ms.toList = ms
  | .nil => rfl
  | .cons k v ms => by simp [JVMembers.toList, JVMembers.ofList, jv_ofList_toList ms]

mutual
  theorem normDupV_unique : ∀ v : JV, RoundTrip.uniqueV v = true → LineSpec.normDupV v = v
    | .null, _ => by rfl
    | .bool _, _ => by rfl
    | .num _, _ => by rfl
    | .str _, _ => by rfl
    | .arr xs, h => by
      simp only [RoundTrip.uniqueV] at h
      simp only [LineSpec.normDupV, normDupL_unique xs h]
    | .obj ms, h => by
      simp only [RoundTrip.uniqueV] at h
      simp only [LineSpec.normDupV, normDupM_unique ms [] h (fun _ hk => by cases hk),
        List.nil_append, jv_ofList_toList]
  theorem normDupL_unique : ∀ xs : JVList, RoundTrip.uniqueL xs = true → LineSpec.normDupL xs = xs
    | .nil, _ => by rfl
    | .cons x xs, h => by
      simp only [RoundTrip.uniqueL, Bool.and_eq_true] at h
      simp only [LineSpec.normDupL, normDupV_unique x h.1, normDupL_unique xs h.2]
  theorem normDupM_unique : ∀ (ms : JVMembers) (acc : List (Bytes × JV)),
      RoundTrip.uniqueM ms = true → (∀ k ∈ OMap.keys acc, RoundTrip.hasKey k ms = false) →
      LineSpec.normDupM ms acc = acc ++ ms.toList
    | .nil, acc, _, _ => by simp [LineSpec.normDupM, JVMembers.toList]
    | .cons k v ms, acc, h, hd => by
      simp only [RoundTrip.uniqueM, Bool.and_eq_true, Bool.not_eq_true'] at h
      have hk : k ∉ OMap.keys acc := fun hk => by
        have := hd k hk
        simp [RoundTrip.hasKey] at this
      have hup : LineSpec.upsertKV acc k v = acc ++ [(k, v)] := by
        unfold LineSpec.upsertKV
        rw [any_false_of_not_mem acc hk]
        rfl
      rw [LineSpec.normDupM, normDupV_unique v h.1.2, hup,
        normDupM_unique ms (acc ++ [(k, v)]) h.2 ?_]
      · simp [JVMembers.toList]
      · intro k' hk'
        simp only [OMap.keys, List.map_append, List.map_cons, List.map_nil, List.mem_append,
          List.mem_singleton] at hk'
        rcases hk' with hk' | rfl
        · have := hd k' hk'
          simp only [RoundTrip.hasKey, Bool.or_eq_false_iff] at this
          exact this.2
        · exact h.1.1
end

theorem normDup_unique (t : JVMembers) (hu : RoundTrip.UniqueKeys t) : LineSpec.normDup t = t := by
  rw [LineSpec.normDup, normDupM_unique t [] hu (fun _ hk => by cases hk), List.nil_append,
    jv_ofList_toList]

theorem undeclared_member_verbatim_unique (env : Env) (ti to : Tmpl) (line b k : Bytes) (v : JV)
    (h : jlLine env ti to line = .ok (b, none)) (hx : FloatTextOK env.ext)
    (hki : k ∉ OMap.keys ti) (hko : k ∉ OMap.keys to)
    (hsep : ∀ k' ∈ OMap.keys to ++ OMap.keys ti ++ Order.inputKeys line,
      sanitize k' = sanitize k → k' = k)
    (hu : RoundTrip.UniqueKeys (Json.unmarshal line).1)
    (hv : LineSpec.lookupJV (Json.unmarshal line).1 k = some v) :
    ∃ body t, b = body ++ [0x0A] ∧ Json.unmarshal body = (t, true) ∧
      LineSpec.lookupJV t (sanitize k) = some v := by
  have absent {t row0} (hk : k ∉ OMap.keys t) (h0 : cloneRow env t = .ok row0) : OMap.lookup row0 k = none :=
    OMap.lookup_none_of_not_mem _ _ (by rw [Order.cloneRow_keys env t row0 h0, Order.mem_appendNew]; simpa using hk)
  refine held_member_verbatim env ti to line b k v h hx hsep ?_ (fun r hget => ?_)
    (fun row0' h0' => by rw [absent hko h0']; rfl)
  · rw [← normDup_unique _ hu] at hv
    exact (normDup_reader line k v hv).2
  · obtain ⟨row0, l, h0, _, hl, hp⟩ := Order.getRow_accepted_iff.1 hget
    rw [RoundTrip.ofJVMembers_ok env _ hu] at hl
    cases hl
    rw [lookupJV_eq] at hv
    obtain ⟨c, hc, hl⟩ := walk.lookup_of_mem hp (by rw [RoundTrip.keys_pairsOf]; exact RoundTrip.UniqueKeys.top hu)
      (RoundTrip.pairsOf_eq_map _ ▸ List.mem_map_of_mem (OMap.mem_of_lookup hv))
    rw [absent hki h0] at hc
    cases hc
    exact hl

/-! ### 9. Non-vacuity: a concrete line, end to end, over the regenerated tables

  Template `n` (numeric) on both sides, empty stdlib oracle; input line
  `{"z":{"q":1,"b":[{"y":2,"a":3}]},"n":5}`.  The line comes out as
  `{"n":5,"z":{"q":1,"b":[{"y":2,"a":3}]}}`: the declared column first, then the undeclared
  member, whose nested members are NOT in alphabetical order (`q` before `b`, `y` before `a`)
  and stay as they are. -/
namespace Demo
open RowPrint JsonWrite

def env : Env := ⟨genTables, Ext.empty⟩

/-- `n` numeric -/
def tmpl : Tmpl := withCol [] [0x6E] .numeric .none

/-- `{"q":1,"b":[{"y":2,"a":3}]}` -/
def zBody : Bytes :=
  [0x7B, 0x22, 0x71, 0x22, 0x3A, 0x31, 0x2C, 0x22, 0x62, 0x22, 0x3A, 0x5B, 0x7B, 0x22, 0x79, 0x22,
   0x3A, 0x32, 0x2C, 0x22, 0x61, 0x22, 0x3A, 0x33, 0x7D, 0x5D, 0x7D]

/-- `{"z":{"q":1,"b":[{"y":2,"a":3}]},"n":5}` -/
def line : Bytes :=
  [0x7B, 0x22, 0x7A, 0x22, 0x3A] ++ zBody ++ [0x2C, 0x22, 0x6E, 0x22, 0x3A, 0x35, 0x7D]

/-- `{"n":5,"z":{"q":1,"b":[{"y":2,"a":3}]}}` -/
def out : Bytes :=
  [0x7B, 0x22, 0x6E, 0x22, 0x3A, 0x35, 0x2C, 0x22, 0x7A, 0x22, 0x3A] ++ zBody ++ [0x7D]

def zVal : JV :=
  .obj (.cons [0x71] (.num [0x31])
    (.cons [0x62] (.arr (.cons (.obj (.cons [0x79] (.num [0x32]) (.cons [0x61] (.num [0x33]) .nil)))
      .nil)) .nil))

def imported : List (Bytes × Val) :=
  [([0x6E], .cell (.num [0x35]) .numeric .none), ([0x7A], cellOf zVal)]

theorem getRow_line : getRow env tmpl line = .ok (imported, none) := by decide +kernel

theorem createRow_imported :
    createRow env tmpl (.val (.row (Members.ofList imported))) = .ok (imported, none) := by
  decide +kernel

theorem export_n : exportVal env (.cell (.num [0x35]) .numeric .none) = .ok (.num [0x35]) := by
  decide +kernel

theorem marshal_n : marshalVal env (.cell (.num [0x35]) .numeric .none) = .ok [0x35] :=
  RowRoundTrip.marshalVal_num export_n (by decide)

theorem zVal_reader : AllV StrOK NumOK zVal := by
  simp only [zVal, AllV, AllM, AllL, StrOK, NumOK, and_true]
  decide +kernel

theorem marshal_z : marshalVal env (cellOf zVal) = .ok zBody :=
  (marshalVal_cellOf env zVal_reader).trans (by decide +kernel)

theorem marshal_imported : marshalRow env (Members.ofList imported) = .ok out := by
  refine (JsonPrint.marshalRow_eq env _ (JsonPrint.marshalMembers_cons env _ _ _ (by decide) marshal_n
    (JsonPrint.marshalMembers_cons env _ _ _ (by decide) marshal_z
      (JsonPrint.marshalMembers_nil env)))).trans ?_
  decide +kernel

theorem jlLine_line : jlLine env tmpl tmpl line = .ok (out ++ [0x0A], none) :=
  Order.jlLine_of_steps getRow_line createRow_imported marshal_imported

theorem floatOK : FloatTextOK env.ext := LineLevel.floatOK_empty

theorem sanitize_z : sanitize [0x7A] = [0x7A] := by decide +kernel

theorem input_z :
    LineSpec.lookupJV (LineSpec.normDup (Json.unmarshal line).1) [0x7A] = some zVal := by
  decide +kernel

theorem separated : ∀ k' ∈ OMap.keys tmpl ++ OMap.keys tmpl ++ Order.inputKeys line,
    sanitize k' = sanitize [0x7A] → k' = [0x7A] := by
  decide +kernel

/-- `undeclared_member_verbatim` applies to `z`: the member under `z` is the input's value, whole. -/
theorem target1_on_z : ∃ t, Json.unmarshal out = (t, true) ∧
    LineSpec.lookupJV t [0x7A] = some zVal :=
  sanitize_z ▸ LineLevel.of_body
    (undeclared_member_verbatim genTables Ext.empty tmpl tmpl line _ [0x7A] zVal
      (CastTyped.gen_castTo_none _) jlLine_line floatOK (by decide) (by decide) separated input_z)

example : ∃ t, Json.unmarshal out = (t, true) ∧
    undeclaredClause (LineLevel.leafCols tmpl) (LineSpec.normDup (Json.unmarshal line).1) t false
      = none :=
  LineLevel.of_body (undeclared_clause_none Ext.empty tmpl tmpl line _ jlLine_line floatOK
    (fun _ h => h) (by decide +kernel))

open Json in
theorem unmarshal_out : Json.unmarshal out =
    (.cons [0x6E] (.num [0x35]) (.cons [0x7A] zVal .nil), true) := by
  decide +kernel

/-- The nested names, level by level, are the input's: `q, b` then `y, a`. -/
example : namesDeep zVal = [[[0x71], [0x62]], [[0x79], [0x61]]] := by
  decide +kernel

/-- The oracle's shape comparison is not vacuous: the same value with `a` before `y` is reported. -/
example : LineSpec.sameShape zVal
    (.obj (.cons [0x71] (.num [0x31])
      (.cons [0x62] (.arr (.cons (.obj (.cons [0x61] (.num [0x33]) (.cons [0x79] (.num [0x32]) .nil)))
        .nil)) .nil))) = false := by
  decide +kernel

end Demo

/-! ### 10. Repeated names inside the value: why the statement is about `normDup`

  Same template; input line `{"z":{"a":1,"b":2,"a":3}}`.  The nested object is filled member by
  member: the second `a` is imported into the cell of the first.  The line comes out as
  `{"n":null,"z":{"a":3,"b":2}}` — the value `normDup` keeps (first position, last value), which
  the theorems predict, and NOT the value as the reader delivered it. -/
namespace Dup
open RowPrint JsonWrite

def env : Env := Demo.env
def tmpl : Tmpl := Demo.tmpl

/-- `{"z":{"a":1,"b":2,"a":3}}` -/
def line : Bytes :=
  [0x7B, 0x22, 0x7A, 0x22, 0x3A, 0x7B, 0x22, 0x61, 0x22, 0x3A, 0x31, 0x2C, 0x22, 0x62, 0x22, 0x3A,
   0x32, 0x2C, 0x22, 0x61, 0x22, 0x3A, 0x33, 0x7D, 0x7D]

/-- `{"a":3,"b":2}` -/
def zBody : Bytes := [0x7B, 0x22, 0x61, 0x22, 0x3A, 0x33, 0x2C, 0x22, 0x62, 0x22, 0x3A, 0x32, 0x7D]

/-- `{"n":null,"z":{"a":3,"b":2}}` -/
def out : Bytes :=
  [0x7B, 0x22, 0x6E, 0x22, 0x3A, 0x6E, 0x75, 0x6C, 0x6C, 0x2C, 0x22, 0x7A, 0x22, 0x3A] ++ zBody ++
    [0x7D]

/-- the value under `z` as the reader delivers it: three members -/
def zRaw : JV :=
  .obj (.cons [0x61] (.num [0x31]) (.cons [0x62] (.num [0x32]) (.cons [0x61] (.num [0x33]) .nil)))

/-- …and as the oracle's `normDup` keeps it: `a` where it first stood, with its last value -/
def zNorm : JV := .obj (.cons [0x61] (.num [0x33]) (.cons [0x62] (.num [0x32]) .nil))

theorem input_z :
    LineSpec.lookupJV (LineSpec.normDup (Json.unmarshal line).1) [0x7A] = some zNorm := by
  decide +kernel

def imported : List (Bytes × Val) := [([0x6E], .cell .nil .numeric .none), ([0x7A], cellOf zNorm)]

theorem getRow_line : getRow env tmpl line = .ok (imported, none) := by decide +kernel

theorem createRow_imported :
    createRow env tmpl (.val (.row (Members.ofList imported))) = .ok (imported, none) := by
  decide +kernel

theorem marshal_n : marshalVal env (.cell .nil .numeric .none) = .ok RowPrint.null :=
  LineLevel.marshalVal_of_export (LineLevel.nil_exports_nil _ _ _) (by rw [marshalExported_nil])

theorem zNorm_reader : AllV StrOK NumOK zNorm := by
  simp only [zNorm, AllV, AllM, StrOK, NumOK, and_true]
  decide +kernel

theorem marshal_z : marshalVal env (cellOf zNorm) = .ok zBody :=
  (marshalVal_cellOf env zNorm_reader).trans (by decide +kernel)

theorem jlLine_line : jlLine env tmpl tmpl line = .ok (out ++ [0x0A], none) := by
  refine Order.jlLine_of_steps getRow_line createRow_imported
    ((JsonPrint.marshalRow_eq env _ (JsonPrint.marshalMembers_cons env _ _ _ (by decide) marshal_n
      (JsonPrint.marshalMembers_cons env _ _ _ (by decide) marshal_z
        (JsonPrint.marshalMembers_nil env)))).trans ?_)
  decide +kernel

theorem separated : ∀ k' ∈ OMap.keys tmpl ++ OMap.keys tmpl ++ Order.inputKeys line,
    sanitize k' = sanitize [0x7A] → k' = [0x7A] := by
  decide +kernel

end Dup

end Jl.LineValues

-- Under the name Proofs.LineTime and Proofs.LineBinary use for their one-member lines; here, with the facts about
-- `normDup`, because neither of the two imports the other.
namespace Jl.LineTime

theorem normDup_single (k : Bytes) (v : JV) (hv : LineSpec.normDupV v = v) :
    (LineSpec.normDup (.cons k v .nil)).toList = [(k, v)] := by
  simp [LineSpec.normDup, LineSpec.normDupM, LineSpec.upsertKV, hv, JVMembers.ofList,
    JVMembers.toList]

end Jl.LineTime
