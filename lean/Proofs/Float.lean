/-
  Proofs.Float — the port of IEEE-754 binary64 / binary32 (Model.Float), facts about its definitions alone:
  what `decode` reads of a bit pattern laid out as sign · exponent · fraction (`decode_fields`), `toFVal` is
  well-formed, and Go's integer → float conversion is exact below 2^(mantissa bits + 1) (`toFVal_ofInt`).
-/
import Model.Float

namespace Jl.Float
open Jl

theorem toFVal_WF (f : Fmt) (b : Nat) : (toFVal f b).WF := by
  unfold toFVal
  cases decode f b with
  | nan => trivial
  | inf n => trivial
  | fin neg m e =>
    have key : ∀ (n : Nat) (fr neg : Bool), (FVal.fin (if neg then -(n : Int) else n) fr neg).WF := by
      intro n fr neg; cases neg <;> simp [FVal.WF] <;> omega
    simp only
    split <;> exact key _ _ _


/-! Go's integer → float conversion (`ofInt`, round to nearest even) is exact up to 2^53
    (2^24) in magnitude: the float decodes to the integer itself.  This is where the bounds of
    the float pairings come from: below them "the float whose value is `n`" is `float64(n)`
    (`float32(n)`), which is what a correct ParseFloat answers for the decimal text of `n`. -/

theorem pow_split {L p : Nat} (h : L ≤ p) : 2 ^ L * 2 ^ (p - L) = 2 ^ p := by
  rw [← Nat.pow_add, Nat.add_sub_cancel' h]

theorem fields (W K s E F : Nat) (hF : F < W) (hE : E < K) (hs : s < 2) :
    (s * (K * W) + E * W + F) % W = F ∧ (s * (K * W) + E * W + F) / W % K = E ∧
      (s * (K * W) + E * W + F) / (K * W) % 2 = s := by
  have hW : 0 < W := by omega
  have hK : 0 < K := by omega
  have e : s * (K * W) + E * W + F = W * (K * s + E) + F := by
    simp only [Nat.mul_add, Nat.mul_comm, Nat.mul_left_comm]
  have d : (W * (K * s + E) + F) / W = K * s + E := by
    rw [Nat.mul_add_div hW, Nat.div_eq_of_lt hF, Nat.add_zero]
  refine ⟨?_, ?_, ?_⟩
  · rw [e, Nat.mul_add_mod, Nat.mod_eq_of_lt hF]
  · rw [e, d, Nat.mul_add_mod, Nat.mod_eq_of_lt hE]
  · rw [e, Nat.mul_comm K W, ← Nat.div_div_eq_div_mul, d, Nat.mul_add_div hK, Nat.div_eq_of_lt hE, Nat.add_zero,
      Nat.mod_eq_of_lt hs]

theorem decode_fields (f : Fmt) (neg : Bool) (E F : Nat) (hE : E < 2 ^ f.expBits) (hF : F < 2 ^ f.manBits) :
    decode f ((if neg then 2 ^ (f.expBits + f.manBits) else 0) + E * 2 ^ f.manBits + F) =
      if E == 2 ^ f.expBits - 1 then (if F == 0 then .inf neg else .nan)
      else if E == 0 then .fin neg F (1 - (f.bias : Int) - f.manBits)
      else .fin neg (F + 2 ^ f.manBits) ((E : Int) - f.bias - f.manBits) := by
  obtain ⟨h1, h2, h3⟩ := fields (2 ^ f.manBits) (2 ^ f.expBits) (if neg then 1 else 0) E F hF hE
    (by cases neg <;> decide)
  have es : (if neg then 2 ^ (f.expBits + f.manBits) else 0) =
      (if neg then 1 else 0) * (2 ^ f.expBits * 2 ^ f.manBits) := by
    cases neg <;> simp [Nat.pow_add]
  rw [es]
  unfold decode
  simp only [Nat.pow_add, h1, h2, h3]
  cases neg <;> rfl

/-- The exponent arithmetic of `encode` on an integer with leading bit `L ≤ p` (`p` mantissa
    bits, bias `B`, `X = 2 ^ expBits`), in the form the definition spells it. -/
theorem encode_arith {L p B X : Nat} (hL : L ≤ p) (hb1 : 1 ≤ B) (hb2 : p + B + 1 < X) :
    max (((L + 1 : Nat) : Int) - 1 - p) (1 - (B : Int) - p) = (L : Int) - p ∧ (0 : Int) ≥ (L : Int) - p ∧
    (0 - ((L : Int) - p)).toNat = p - L ∧ ¬ ((L : Int) - p + (p : Int) + B ≥ ((X - 1 : Nat) : Int)) ∧
    ((L : Int) - p + (p : Int) + B).toNat = L + B := by
  omega

/-- `m` fits the mantissa: no rounding, a normal number with exponent `log2 m`.  The two hypotheses on the
    format say that the exponent field is wide enough for it. -/
theorem encode_small (f : Fmt) (hb1 : 1 ≤ f.bias) (hb2 : f.manBits + f.bias + 1 < 2 ^ f.expBits)
    (neg : Bool) (m : Nat) (hm : m ≠ 0) (hL : Nat.log2 m ≤ f.manBits) :
    encode f neg m 0 =
      (if neg then 2 ^ (f.expBits + f.manBits) else 0) + (Nat.log2 m + f.bias) * 2 ^ f.manBits +
        (m * 2 ^ (f.manBits - Nat.log2 m) - 2 ^ f.manBits) := by
  have hM : ¬ m * 2 ^ (f.manBits - Nat.log2 m) < 2 ^ f.manBits := by
    rw [← pow_split hL]
    exact Nat.not_lt.2 (Nat.mul_le_mul_right _ (Nat.log2_self_le hm))
  obtain ⟨hq, hc, ht, hex, hex2⟩ := encode_arith hL hb1 hb2
  unfold encode
  simp only [beq_iff_eq, hm, if_false, Nat.add_sub_cancel, Int.zero_add, hq, hc, if_true, ht, hM, hex, hex2]

/-- The mantissa is `m` shifted up to its leading bit; the exponent shifts it back. -/
theorem toFVal_encode (f : Fmt) (hb1 : 1 ≤ f.bias) (hb2 : f.manBits + f.bias + 1 < 2 ^ f.expBits)
    (neg : Bool) (m : Nat) (hm : m ≠ 0) (hlt : m < 2 ^ (f.manBits + 1)) :
    toFVal f (encode f neg m 0) = .fin (if neg then -(m : Int) else m) false neg := by
  have hL : Nat.log2 m ≤ f.manBits := Nat.le_of_lt_succ ((Nat.log2_lt hm).2 hlt)
  have hM0 : 2 ^ f.manBits ≤ m * 2 ^ (f.manBits - Nat.log2 m) := by
    rw [← pow_split hL]
    exact Nat.mul_le_mul_right _ (Nat.log2_self_le hm)
  have hM1 : m * 2 ^ (f.manBits - Nat.log2 m) - 2 ^ f.manBits < 2 ^ f.manBits := by
    have := Nat.mul_lt_mul_of_pos_right (Nat.lt_log2_self (n := m)) (Nat.two_pow_pos (f.manBits - Nat.log2 m))
    rw [← Nat.pow_add, show Nat.log2 m + 1 + (f.manBits - Nat.log2 m) = f.manBits + 1 by omega, Nat.pow_succ] at this
    omega
  have hE1 : ¬ Nat.log2 m + f.bias = 2 ^ f.expBits - 1 := by omega
  have hE0 : ¬ Nat.log2 m + f.bias = 0 := by omega
  unfold toFVal
  rw [encode_small f hb1 hb2 neg m hm hL, decode_fields f neg _ _ (by omega) hM1]
  simp only [beq_iff_eq, hE1, hE0, if_false, Nat.sub_add_cancel hM0]
  by_cases he : ((Nat.log2 m + f.bias : Nat) : Int) - f.bias - f.manBits ≥ 0
  · -- the leading bit is the mantissa's: nothing is shifted
    rw [if_pos he, show f.manBits - Nat.log2 m = 0 by omega,
      show (((Nat.log2 m + f.bias : Nat) : Int) - f.bias - f.manBits).toNat = 0 by omega, Nat.pow_zero, Nat.mul_one,
      Nat.mul_one]
  · rw [if_neg he,
      show (-(((Nat.log2 m + f.bias : Nat) : Int) - f.bias - f.manBits)).toNat = f.manBits - Nat.log2 m by omega,
      Nat.mul_div_cancel _ (Nat.two_pow_pos _), Nat.mul_mod_left]
    rfl

theorem toFVal_ofInt (f : Fmt) (hb1 : 1 ≤ f.bias) (hb2 : f.manBits + f.bias + 1 < 2 ^ f.expBits)
    (n : Int) (h : n.natAbs < 2 ^ (f.manBits + 1)) :
    toFVal f (ofInt f n) = .fin n false (decide (n < 0)) := by
  by_cases h0 : n = 0
  · subst h0
    have hx : ¬ 0 = 2 ^ f.expBits - 1 := by omega
    have hd : decode f 0 = .fin false 0 (1 - (f.bias : Int) - f.manBits) := by
      simp only [decode, Nat.zero_div, Nat.zero_mod, beq_iff_eq, hx, if_false, if_true]
      rfl
    rw [show ofInt f 0 = 0 by rfl]
    unfold toFVal
    -- whatever the sign of the exponent, the mantissa 0 gives 0
    simp only [hd, Nat.zero_mul, Nat.zero_div, Nat.zero_mod, Bool.false_eq_true, if_false, bne_self_eq_false, ite_self]
    rfl
  · have hn : (if decide (n < 0) = true then -(n.natAbs : Int) else n.natAbs) = n := by
      simp only [decide_eq_true_eq]
      split <;> omega
    unfold ofInt
    rw [toFVal_encode f hb1 hb2 _ _ (by omega) h, hn]

theorem toFVal_ofInt_f64_le (n : Int) (h : n.natAbs ≤ 2 ^ 53) :
    toFVal f64 (ofInt f64 n) = .fin n false (decide (n < 0)) := by
  by_cases hlt : n.natAbs < 2 ^ 53
  · exact toFVal_ofInt f64 (by decide) (by decide) n hlt
  · have : n = 9007199254740992 ∨ n = -9007199254740992 := by omega
    rcases this with rfl | rfl <;> decide +kernel

theorem toFVal_ofInt_f32_le (n : Int) (h : n.natAbs ≤ 2 ^ 24) :
    toFVal f32 (ofInt f32 n) = .fin n false (decide (n < 0)) := by
  by_cases hlt : n.natAbs < 2 ^ 24
  · exact toFVal_ofInt f32 (by decide) (by decide) n hlt
  · have : n = 16777216 ∨ n = -16777216 := by omega
    rcases this with rfl | rfl <;> decide +kernel

end Jl.Float
