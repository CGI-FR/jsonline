/-
  Proofs.RowTieText — the parameters of Model.Path and of the text reader (UnmarshalJSON, parseobject, parsearray, handledelim)
  (overview: Proofs/RowTie.lean)
-/
import Model.RowFactsSpec
import Model.RowPrint
import Model.MapTo
import Gen.RowFacts

namespace Jl.RowTie
open Jl

/-- The parameters of Model.Path: paths split on `.` (`Path.splitDots`: 0x2E), each segment looked up with
    `GetValue` (`Value.lookup`), descent through `asRow` (`Path.asRow`: a row, or a cell whose raw value is one). -/
theorem path_as_modelled :
    Gen.rowFacts.getValueAtPath = .splitDescend "." "GetValue" "asRow"
    ∧ Gen.rowFacts.findValuesAtPath = .firstKeyThenRowOrArrayOfRows "." "GetValue" "asRow"
    ∧ Gen.rowFacts.asRow = .rowOrRawRow
    ∧ Gen.rowFacts.readers.lookup "GetValue" = some .mapValue
    ∧ Gen.rowFacts.readers.lookup "GetAtPath" = some (.rawOf "GetValueAtPath") := by
  decide +kernel

/-- The parameters of `Value.unmarshalInto` / `Json.unmarshal`: numbers are kept as literals (UseNumber), the
    text is one object (`{` … `}`) and nothing after it, nested objects are fresh rows filled by the same
    `parseobject` and arrays go through `parsearray`, both element by element through `handledelim`. -/
theorem unmarshal_as_modelled :
    Gen.rowFacts.unmarshal = [.newDecoder true, .openDelim 0x7B, .members "parseobject", .onlyEOF]
    ∧ (∃ k, Gen.rowFacts.parseObject = .whileMore "handledelim" k 0x7D)
    ∧ Gen.rowFacts.parseArray = .whileMore "handledelim" 0x5D
    ∧ Gen.rowFacts.handleDelim = .scalarObjectArray 0x7B "NewRow" "parseobject" 0x5B "parsearray" := by
  refine ⟨by decide +kernel, ⟨_, rfl⟩, by decide +kernel, by decide +kernel⟩


end Jl.RowTie
