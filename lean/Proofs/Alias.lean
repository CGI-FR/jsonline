/-
  Proofs.Alias — property C15: rows made from a template are independent of the template and
  of one another (Model.Alias).

  `Sep w → Sep (step w op)` is false: with a key occurring twice in a row, `setKey` writes ONE new
  address at both entries (`replaceAddr` maps every matching entry), so the row's own address list
  gets a duplicate (`sep_step_setKey_dupkeys_false`).  Nothing is shared BETWEEN row objects, and
  that is all the frame property needs: every frame / history theorem is proved from `Disj`, which
  `Sep` implies and which every step preserves, duplicate keys or not.
-/
import Model.Alias

namespace Jl.Alias
variable {C : Type}

/-! ## 0. Heap primitives -/

@[simp] theorem alloc_next (h : Heap C) (c : C) : (h.alloc c).1.next = h.next + 1 := rfl
@[simp] theorem alloc_addr (h : Heap C) (c : C) : (h.alloc c).2 = h.next := rfl
@[simp] theorem alloc_cells (h : Heap C) (c : C) (a : Addr) :
    (h.alloc c).1.cells a = if a = h.next then some c else h.cells a := rfl
@[simp] theorem write_next (h : Heap C) (a : Addr) (c : C) : (h.write a c).next = h.next := rfl
@[simp] theorem write_cells (h : Heap C) (a : Addr) (c : C) (a' : Addr) :
    (h.write a c).cells a' = if a' = a then some c else h.cells a' := rfl

theorem alloc_cells_of_lt (h : Heap C) (c : C) {a : Addr} (ha : a < h.next) :
    (h.alloc c).1.cells a = h.cells a :=
  if_neg (Nat.ne_of_lt ha)

@[simp] theorem addrs_nil : addrs [] = [] := rfl
@[simp] theorem addrs_cons (e : Bytes × Addr) (r : RowObj) : addrs (e :: r) = e.2 :: addrs r := rfl
@[simp] theorem addrs_append (r s : RowObj) : addrs (r ++ s) = addrs r ++ addrs s := by
  simp [addrs]
@[simp] theorem content_nil (h : Heap C) : content h [] = [] := rfl
@[simp] theorem content_cons (h : Heap C) (e : Bytes × Addr) (r : RowObj) :
    content h (e :: r) = (e.1, h.cells e.2) :: content h r := rfl
@[simp] theorem content_append (h : Heap C) (r s : RowObj) :
    content h (r ++ s) = content h r ++ content h s := by
  simp [content]

def keys (r : RowObj) : List Bytes := r.map Prod.fst

@[simp] theorem keys_nil : keys [] = [] := rfl
@[simp] theorem keys_cons (e : Bytes × Addr) (r : RowObj) : keys (e :: r) = e.1 :: keys r := rfl
@[simp] theorem keys_append (r s : RowObj) : keys (r ++ s) = keys r ++ keys s := by simp [keys]

theorem content_congr {h h' : Heap C} {r : RowObj}
    (hh : ∀ a ∈ addrs r, h'.cells a = h.cells a) : content h' r = content h r :=
  List.map_congr_left fun e he => by rw [hh e.2 (List.mem_map_of_mem he)]

theorem cells_isSome_of_content {h : Heap C} {r : RowObj} {l : List (Bytes × C)}
    (hc : content h r = l.map fun e => (e.1, some e.2)) :
    ∀ a ∈ addrs r, (h.cells a).isSome = true := by
  intro a ha
  obtain ⟨e, he, rfl⟩ := List.mem_map.mp ha
  have hm : (e.1, h.cells e.2) ∈ content h r := List.mem_map_of_mem (f := fun e => (e.1, h.cells e.2)) he
  rw [hc] at hm
  obtain ⟨e', _, he'⟩ := List.mem_map.mp hm
  rw [← (Prod.mk.inj he').2]
  rfl

/-! ## 1. The allocator, and `cloneRow` -/

theorem build_nil (h : Heap C) : initWorld.build h [] = (h, []) := rfl

theorem build_cons (h : Heap C) (k : Bytes) (c : C) (rest : List (Bytes × C)) :
    initWorld.build h ((k, c) :: rest) =
      ((initWorld.build (h.alloc c).1 rest).1,
        (k, h.next) :: (initWorld.build (h.alloc c).1 rest).2) := rfl

theorem build_next (h : Heap C) (cols : List (Bytes × C)) :
    (initWorld.build h cols).1.next = h.next + cols.length := by
  induction cols generalizing h with
  | nil => rfl
  | cons e rest ih =>
    rw [build_cons, ih, alloc_next, List.length_cons, Nat.add_assoc, Nat.add_comm 1]

theorem build_next_le (h : Heap C) (cols : List (Bytes × C)) :
    h.next ≤ (initWorld.build h cols).1.next :=
  build_next h cols ▸ Nat.le_add_right _ _

theorem build_cells_below (h : Heap C) (cols : List (Bytes × C)) :
    ∀ a, a < h.next → (initWorld.build h cols).1.cells a = h.cells a := by
  induction cols generalizing h with
  | nil => intro a _; rfl
  | cons e rest ih =>
    intro a ha
    rw [build_cons, ih _ a (Nat.lt_succ_of_lt ha), alloc_cells_of_lt h e.2 ha]

theorem build_addrs (h : Heap C) (cols : List (Bytes × C)) :
    addrs (initWorld.build h cols).2 = List.range' h.next cols.length := by
  induction cols generalizing h with
  | nil => rfl
  | cons e rest ih =>
    rw [build_cons]
    simp only [addrs_cons, ih, alloc_next, List.length_cons, List.range'_succ]

theorem build_fresh (h : Heap C) (cols : List (Bytes × C)) :
    ∀ a ∈ addrs (initWorld.build h cols).2, h.next ≤ a ∧ a < (initWorld.build h cols).1.next := by
  intro a ha
  rw [build_addrs, List.mem_range'_1] at ha
  rw [build_next]
  exact ha

theorem build_addrs_nodup (h : Heap C) (cols : List (Bytes × C)) :
    (addrs (initWorld.build h cols).2).Nodup :=
  build_addrs h cols ▸ List.nodup_range' 1

theorem build_keys (h : Heap C) (cols : List (Bytes × C)) :
    keys (initWorld.build h cols).2 = cols.map Prod.fst := by
  induction cols generalizing h with
  | nil => rfl
  | cons e rest ih => rw [build_cons, keys_cons, ih, List.map_cons]

theorem build_content (h : Heap C) (cols : List (Bytes × C)) :
    content (initWorld.build h cols).1 (initWorld.build h cols).2 =
      cols.map fun e => (e.1, some e.2) := by
  induction cols generalizing h with
  | nil => rfl
  | cons e rest ih =>
    rw [build_cons, content_cons, ih, List.map_cons,
      build_cells_below _ rest h.next (Nat.lt_succ_self _), alloc_cells, if_pos rfl]

theorem cloneRow_nil (clone : C → C) (h : Heap C) : cloneRow clone h [] = (h, []) := rfl

theorem cloneRow_cons_none (clone : C → C) (h : Heap C) (k : Bytes) (a : Addr) (rest : RowObj)
    (ha : h.cells a = none) : cloneRow clone h ((k, a) :: rest) = cloneRow clone h rest := by
  simp [cloneRow, ha]

theorem cloneRow_cons_some (clone : C → C) (h : Heap C) (k : Bytes) (a : Addr) (rest : RowObj)
    (c : C) (ha : h.cells a = some c) :
    cloneRow clone h ((k, a) :: rest) =
      ((cloneRow clone (h.alloc (clone c)).1 rest).1,
        (k, h.next) :: (cloneRow clone (h.alloc (clone c)).1 rest).2) := by
  simp [cloneRow, ha]

def cloned (clone : C → C) (l : List (Bytes × Option C)) : List (Bytes × Option C) :=
  l.filterMap fun e => e.2.map fun c => (e.1, some (clone c))

/-- `cloneRow` is the allocator, run on `clone` of the cells that exist.  The content clause asks
    the source's cells to be allocated, so that the clone's own cells are not read back. -/
theorem cloneRow_eq_build (clone : C → C) (h : Heap C) (r : RowObj) :
    ∃ l, cloneRow clone h r = initWorld.build h l ∧ (l.map Prod.fst).Sublist (keys r) ∧
      ((∀ a ∈ addrs r, a < h.next) →
        (l.map fun e => (e.1, some e.2)) = cloned clone (content h r)) := by
  fun_induction cloneRow clone h r with
  | case1 h => exact ⟨[], rfl, .slnil, fun _ => rfl⟩
  | case2 h k a rest ha ih =>
    obtain ⟨l, hl, hk, hc⟩ := ih
    refine ⟨l, hl, hk.cons _, fun hr => ?_⟩
    rw [content_cons, ha]
    exact hc fun b hb => hr b (List.mem_cons_of_mem _ hb)
  | case3 h k a rest c ha h1 a' e1 h2 r e2 ih =>
    obtain rfl : (h.alloc (clone c)).1 = h1 := congrArg Prod.fst e1
    obtain rfl : h.next = a' := congrArg Prod.snd e1
    obtain ⟨l, hl, hk, hc⟩ := ih
    refine ⟨(k, clone c) :: l, by rw [build_cons, ← hl, e2], hk.cons_cons _, fun hr => ?_⟩
    have hrest : ∀ b ∈ addrs rest, b < h.next := fun b hb => hr b (List.mem_cons_of_mem _ hb)
    rw [content_cons, ha, List.map_cons, hc fun b hb => Nat.lt_succ_of_lt (hrest b hb),
      content_congr fun b hb => alloc_cells_of_lt h _ (hrest b hb)]
    rfl

theorem cloneRow_addrs_not_old (clone : C → C) (h : Heap C) (r : RowObj) (a : Addr)
    (ha : a < h.next) : a ∉ addrs (cloneRow clone h r).2 := by
  obtain ⟨l, hl, _⟩ := cloneRow_eq_build clone h r
  rw [hl]
  exact fun hm => Nat.not_le_of_lt ha (build_fresh h l a hm).1

theorem content_cloneRow_of_lt (clone : C → C) (h : Heap C) (src r : RowObj)
    (hr : ∀ a ∈ addrs r, a < h.next) : content (cloneRow clone h src).1 r = content h r := by
  obtain ⟨l, hl, _⟩ := cloneRow_eq_build clone h src
  rw [hl]
  exact content_congr fun a ha => build_cells_below h l a (hr a ha)

theorem cloneRow_content (clone : C → C) (h : Heap C) (r : RowObj)
    (hr : ∀ a ∈ addrs r, a < h.next) :
    content (cloneRow clone h r).1 (cloneRow clone h r).2 = cloned clone (content h r) := by
  obtain ⟨l, hl, _, hc⟩ := cloneRow_eq_build clone h r
  rw [hl, build_content, hc hr]

theorem cloned_map_some (clone : C → C) (l : List (Bytes × C)) :
    cloned clone (l.map fun e => (e.1, some e.2)) = l.map fun e => (e.1, some (clone e.2)) := by
  induction l with
  | nil => rfl
  | cons e l ih => rw [List.map_cons, List.map_cons, ← ih]; rfl

theorem cloneRow_content_full (clone : C → C) (h : Heap C) (r : RowObj)
    (hr : ∀ a ∈ addrs r, a < h.next) (l : List (Bytes × C))
    (hl : content h r = l.map fun e => (e.1, some e.2)) :
    content (cloneRow clone h r).1 (cloneRow clone h r).2 =
      l.map fun e => (e.1, some (clone e.2)) := by
  rw [cloneRow_content clone h r hr, hl, cloned_map_some]

/-! ## 2. Address lists that share nothing -/

section Apart
variable {α : Type} (f : α → List Addr)

/-- Members are told apart by position, as the row objects of a world are. -/
def Apart (L : List α) : Prop :=
  ∀ (i j : Nat) x y, L[i]? = some x → L[j]? = some y → i ≠ j → ∀ a ∈ f x, a ∉ f y

/-- Sharing nothing is symmetric, so "at two different positions" is the library's `Pairwise`. -/
theorem apart_iff {L : List α} : Apart f L ↔ L.Pairwise fun x y => ∀ a ∈ f x, a ∉ f y := by
  rw [List.pairwise_iff_getElem]
  constructor
  · intro H i j hi hj hij
    exact H i j _ _ (List.getElem?_eq_getElem hi) (List.getElem?_eq_getElem hj) (Nat.ne_of_lt hij)
  · intro H i j x y hi hj hij a hax hay
    obtain ⟨hi', rfl⟩ := List.getElem?_eq_some_iff.mp hi
    obtain ⟨hj', rfl⟩ := List.getElem?_eq_some_iff.mp hj
    rcases Nat.lt_or_gt_of_ne hij with hlt | hgt
    · exact H i j hi' hj' hlt a hax hay
    · exact H j i hj' hi' hgt a hay hax

variable {f} {L : List α} {n : Addr}

theorem Apart.eraseIdx (h : Apart f L) (i : Nat) : Apart f (L.eraseIdx i) :=
  (apart_iff f).mpr (((apart_iff f).mp h).sublist (List.eraseIdx_sublist L i))

theorem Apart.append_fresh (h : Apart f L) (hlt : ∀ x ∈ L, ∀ a ∈ f x, a < n) {y : α}
    (hy : ∀ a ∈ f y, n ≤ a) : Apart f (L ++ [y]) :=
  (apart_iff f).mpr <| List.pairwise_append.mpr ⟨(apart_iff f).mp h, List.pairwise_singleton _ _,
    fun x hx _ hy' a ha hm =>
      Nat.not_le_of_lt (hlt x hx a ha) (hy a (List.mem_singleton.mp hy' ▸ hm))⟩

theorem Apart.set (h : Apart f L) (hlt : ∀ x ∈ L, ∀ a ∈ f x, a < n) {i : Nat} {x x' : α}
    (hi : L[i]? = some x) (hx' : ∀ a ∈ f x', a ∈ f x ∨ n ≤ a) : Apart f (L.set i x') := by
  obtain ⟨hlen, rfl⟩ := List.getElem?_eq_some_iff.mp hi
  have sym : ∀ {x y : α}, (∀ a ∈ f x, a ∉ f y) → ∀ a ∈ f y, a ∉ f x := fun h a ha hb => h a hb ha
  -- `L = l₁ ++ x :: l₂`, `L.set i x' = l₁ ++ x' :: l₂`; bring the changed member to the front
  have hL : L.take i ++ L[i] :: L.drop (i + 1) = L := by
    rw [← List.drop_eq_getElem_cons hlen, List.take_append_drop]
  rw [apart_iff] at h ⊢
  rw [List.set_eq_take_append_cons_drop, if_pos hlen, List.pairwise_middle sym, List.pairwise_cons]
  rw [← hL, List.pairwise_middle sym, List.pairwise_cons] at h
  refine ⟨fun y hy a ha hm => ?_, h.2⟩
  rcases hx' a ha with hax | hn
  · exact h.1 y hy a hax hm
  · exact Nat.not_le_of_lt (hlt y ((List.mem_append.mp hy).elim List.mem_of_mem_take List.mem_of_mem_drop) a hm) hn

end Apart

/-! ## 3. Invariants -/

/-- Weak separation, all that the frame property needs: unlike `Sep` it does not ask a row's own
    addresses to be duplicate-free. -/
structure Disj (w : World C) : Prop where
  proto_lt : ∀ a ∈ addrs w.proto, a < w.heap.next
  rows_lt : ∀ r ∈ w.rows, ∀ a ∈ addrs r, a < w.heap.next
  proto_rows : ∀ r ∈ w.rows, ∀ a ∈ addrs w.proto, a ∉ addrs r
  rows_rows : ∀ (i j : Nat) ri rj, w.rows[i]? = some ri → w.rows[j]? = some rj → i ≠ j →
    ∀ a ∈ addrs ri, a ∉ addrs rj

structure AddrsNodup (w : World C) : Prop where
  proto : (addrs w.proto).Nodup
  rows : ∀ r ∈ w.rows, (addrs r).Nodup

structure KeysNodup (w : World C) : Prop where
  proto : (keys w.proto).Nodup
  rows : ∀ r ∈ w.rows, (keys r).Nodup

theorem sep_iff (w : World C) : Sep w ↔ Disj w ∧ AddrsNodup w := by
  have hrr : (w.rows.map addrs).Pairwise (fun x y => ∀ a ∈ x, ∀ b ∈ y, a ≠ b) ↔ Apart addrs w.rows := by
    rw [apart_iff, List.pairwise_map]
    exact List.Pairwise.iff fun _ _ => ⟨fun h a ha hb => h a ha a hb rfl, fun h a ha b hb (e : a = b) => h a ha (e ▸ hb)⟩
  unfold Sep
  rw [List.nodup_append, List.Nodup, List.pairwise_flatten, hrr]
  constructor
  · rintro ⟨hlt, hp, ⟨hr, hrr⟩, hpr⟩
    have hmem : ∀ {r a}, r ∈ w.rows → a ∈ addrs r → a ∈ (w.rows.map addrs).flatten :=
      fun hr' ha => List.mem_flatten.mpr ⟨_, List.mem_map_of_mem hr', ha⟩
    exact ⟨⟨fun a ha => hlt a (List.mem_append_left _ ha),
      fun r hr' a ha => hlt a (List.mem_append_right _ (hmem hr' ha)),
      fun r hr' a ha hm => hpr a ha a (hmem hr' hm) rfl, hrr⟩, ⟨hp, fun r hr' => hr _ (List.mem_map_of_mem hr')⟩⟩
  · rintro ⟨d, n⟩
    have hmem : ∀ {a}, a ∈ (w.rows.map addrs).flatten → ∃ r ∈ w.rows, a ∈ addrs r := by
      intro a ha
      obtain ⟨l, hl, hal⟩ := List.mem_flatten.mp ha
      obtain ⟨r, hr, rfl⟩ := List.mem_map.mp hl
      exact ⟨r, hr, hal⟩
    refine ⟨?_, n.proto, ⟨?_, d.rows_rows⟩, ?_⟩
    · intro a ha
      rcases List.mem_append.mp ha with ha | ha
      · exact d.proto_lt a ha
      · obtain ⟨r, hr, hal⟩ := hmem ha
        exact d.rows_lt r hr a hal
    · intro l hl
      obtain ⟨r, hr, rfl⟩ := List.mem_map.mp hl
      exact n.rows r hr
    · rintro a ha b hb rfl
      obtain ⟨r, hr, hal⟩ := hmem hb
      exact d.proto_rows r hr a ha hal

theorem Sep.disj {w : World C} (h : Sep w) : Disj w := ((sep_iff w).mp h).1
theorem Sep.addrsNodup {w : World C} (h : Sep w) : AddrsNodup w := ((sep_iff w).mp h).2

/-! ## 4. `addrOf`, `replaceAddr` -/

theorem addrOf_some_mem {r : RowObj} {k : Bytes} {a : Addr} (h : addrOf r k = some a) :
    a ∈ addrs r := by
  unfold addrOf at h
  rw [Option.map_eq_some_iff] at h
  obtain ⟨e, he, rfl⟩ := h
  exact List.mem_map_of_mem (List.mem_of_find?_eq_some he)

theorem addrOf_none_not_mem {r : RowObj} {k : Bytes} (h : addrOf r k = none) : k ∉ keys r := by
  unfold addrOf at h
  rw [Option.map_eq_none_iff, List.find?_eq_none] at h
  intro hk
  obtain ⟨e, he, rfl⟩ := List.mem_map.mp hk
  exact h e he (by simp)

def repl (k : Bytes) (a : Addr) (e : Bytes × Addr) : Bytes × Addr := if e.1 == k then (k, a) else e

theorem replaceAddr_present {r : RowObj} {k : Bytes} (a : Addr)
    (h : (addrOf r k).isSome = true) : replaceAddr r k a = r.map (repl k a) := by
  unfold replaceAddr; rw [if_pos h]; rfl

theorem replaceAddr_absent {r : RowObj} {k : Bytes} (a : Addr)
    (h : addrOf r k = none) : replaceAddr r k a = r ++ [(k, a)] := by
  unfold replaceAddr; rw [if_neg (by simp [h])]

theorem repl_fst (k : Bytes) (a : Addr) (e : Bytes × Addr) : (repl k a e).1 = e.1 := by
  unfold repl
  split
  · rename_i h; exact (eq_of_beq h).symm
  · rfl

theorem repl_snd (k : Bytes) (a : Addr) (e : Bytes × Addr) :
    (repl k a e).2 = e.2 ∨ (repl k a e).2 = a := by
  unfold repl
  split
  · exact .inr rfl
  · exact .inl rfl

theorem keys_map_repl (r : RowObj) (k : Bytes) (a : Addr) : keys (r.map (repl k a)) = keys r := by
  induction r with
  | nil => rfl
  | cons e r ih => simp [repl_fst, ih]

theorem mem_addrs_map_repl {r : RowObj} {k : Bytes} {a b : Addr}
    (h : b ∈ addrs (r.map (repl k a))) : b ∈ addrs r ∨ b = a := by
  obtain ⟨_, he', rfl⟩ := List.mem_map.mp h
  obtain ⟨e, he, rfl⟩ := List.mem_map.mp he'
  have hm : e.2 ∈ addrs r := List.mem_map_of_mem he
  rcases repl_snd k a e with h' | h'
  · exact .inl (h' ▸ hm)
  · exact .inr h'

theorem map_repl_of_not_mem {r : RowObj} {k : Bytes} (a : Addr) (h : k ∉ keys r) :
    r.map (repl k a) = r := by
  induction r with
  | nil => rfl
  | cons e r ih =>
    simp only [keys_cons, List.mem_cons, not_or] at h
    have : repl k a e = e := by
      unfold repl
      rw [if_neg]
      intro hb; exact h.1 (eq_of_beq hb).symm
    simp [this, ih h.2]

theorem nodup_addrs_map_repl {r : RowObj} {k : Bytes} {a : Addr}
    (hk : (keys r).Nodup) (hn : (addrs r).Nodup) (ha : a ∉ addrs r) :
    (addrs (r.map (repl k a))).Nodup := by
  induction r with
  | nil => simp
  | cons e r ih =>
    simp only [keys_cons, addrs_cons, List.nodup_cons, List.mem_cons, not_or] at hk hn ha
    by_cases hb : (e.1 == k) = true
    · have hk' : k ∉ keys r := by rw [← eq_of_beq hb]; exact hk.1
      have he : repl k a e = (k, a) := by unfold repl; rw [if_pos hb]
      rw [List.map_cons, map_repl_of_not_mem a hk', he]
      simp only [addrs_cons, List.nodup_cons]
      exact ⟨ha.2, hn.2⟩
    · have he : repl k a e = e := by unfold repl; rw [if_neg hb]
      rw [List.map_cons, he]
      simp only [addrs_cons, List.nodup_cons]
      refine ⟨fun hm => ?_, ih hk.2 hn.2 ha.2⟩
      rcases mem_addrs_map_repl hm with hm | hm
      · exact hn.1 hm
      · exact ha.1 hm.symm

theorem nodup_concat {α : Type} {l : List α} {x : α} (h : l.Nodup) (hx : x ∉ l) :
    (l ++ [x]).Nodup :=
  List.nodup_append.mpr ⟨h, List.nodup_cons.mpr ⟨List.not_mem_nil, List.nodup_nil⟩,
    fun _ hy _ hz e => hx (List.mem_singleton.mp hz ▸ e ▸ hy)⟩

theorem mem_addrs_replaceAddr {r : RowObj} {k : Bytes} {a b : Addr}
    (h : b ∈ addrs (replaceAddr r k a)) : b ∈ addrs r ∨ b = a := by
  cases hk : addrOf r k with
  | none =>
    rw [replaceAddr_absent a hk] at h
    simpa using h
  | some a' =>
    rw [replaceAddr_present a (by simp [hk])] at h
    exact mem_addrs_map_repl h

theorem nodup_keys_replaceAddr {r : RowObj} {k : Bytes} {a : Addr} (hk : (keys r).Nodup) :
    (keys (replaceAddr r k a)).Nodup := by
  cases h : addrOf r k with
  | none =>
    rw [replaceAddr_absent a h, keys_append]
    exact nodup_concat hk (addrOf_none_not_mem h)
  | some a' =>
    rw [replaceAddr_present a (by simp [h]), keys_map_repl]
    exact hk

/-- At an existing key the address is written to every entry with that key, so there must be one
    only. -/
theorem nodup_addrs_replaceAddr {r : RowObj} {k : Bytes} {a : Addr}
    (hk : addrOf r k = none ∨ (keys r).Nodup) (hn : (addrs r).Nodup) (ha : a ∉ addrs r) :
    (addrs (replaceAddr r k a)).Nodup := by
  cases h : addrOf r k with
  | none =>
    rw [replaceAddr_absent a h, addrs_append]
    exact nodup_concat hn ha
  | some a' =>
    rw [replaceAddr_present a (by simp [h])]
    exact nodup_addrs_map_repl (hk.resolve_left (by simp [h])) hn ha

/-! ## 5. The shape of a step -/

theorem step_cloneLive_some {w : World C} {i : Nat} {src : RowObj} (clone : C → C)
    (h : w.rows[i]? = some src) :
    step w (.cloneLive i clone) =
      { w with heap := (cloneRow clone w.heap src).1,
               rows := w.rows ++ [(cloneRow clone w.heap src).2] } := by
  simp only [step, h]

def Op.target : Op C → Option Nat
  | .importKey i _ _ => some i
  | .setKey i _ _ => some i
  | _ => none

/-- The five shapes a step can take.  The index is the row operated on; `keyed` says that the
    step may store a cell at a key the row already has. -/
inductive Upd (w : World C) (keyed : Prop) : Option Nat → World C → Prop
  | same (t : Option Nat) : Upd w keyed t w
  | push (t : Option Nat) (src : RowObj) (l : List (Bytes × C)) :
      (src = w.proto ∨ src ∈ w.rows) → (l.map Prod.fst).Sublist (keys src) →
      Upd w keyed t { w with heap := (initWorld.build w.heap l).1,
                             rows := w.rows ++ [(initWorld.build w.heap l).2] }
  | write (i : Nat) (r : RowObj) (a : Addr) (c : C) :
      w.rows[i]? = some r → a ∈ addrs r →
      Upd w keyed (some i) { w with heap := w.heap.write a c }
  | set (i : Nat) (r : RowObj) (k : Bytes) (c : C) :
      w.rows[i]? = some r → (addrOf r k = none ∨ keyed) →
      Upd w keyed (some i) { w with heap := (w.heap.alloc c).1,
                                    rows := w.rows.set i (replaceAddr r k w.heap.next) }
  | erase (t : Option Nat) (i : Nat) : Upd w keyed t { w with rows := w.rows.eraseIdx i }

theorem upd_cloneRow (w : World C) (keyed : Prop) (t : Option Nat) (clone : C → C) (src : RowObj)
    (hsrc : src = w.proto ∨ src ∈ w.rows) :
    Upd w keyed t { w with heap := (cloneRow clone w.heap src).1,
                           rows := w.rows ++ [(cloneRow clone w.heap src).2] } := by
  obtain ⟨l, hl, hk, _⟩ := cloneRow_eq_build clone w.heap src
  rw [hl]
  exact .push t src l hsrc hk

theorem step_upd (w : World C) (op : Op C) :
    Upd w (∃ i k f, op = .setKey i k f) op.target (step w op) := by
  cases op with
  | createEmpty clone => exact upd_cloneRow w _ _ clone w.proto (.inl rfl)
  | cloneLive i clone =>
    simp only [step]
    split
    · exact upd_cloneRow w _ _ clone _ (.inr (List.mem_of_getElem? ‹_›))
    · exact .same _
  | importKey i k f =>
    simp only [step]
    split
    · split
      · exact .write i _ _ _ ‹_› (addrOf_some_mem ‹_›)
      · rename_i ha
        rw [← replaceAddr_absent _ ha]
        exact .set i _ k _ ‹_› (.inl ha)
    · exact .same _
  | setKey i k f =>
    simp only [step]
    split
    · exact .set i _ k _ ‹_› (.inr ⟨i, k, f, rfl⟩)
    · exact .same _
  | drop i => exact .erase _ i

/-! ## 6. What every shape guarantees; the invariants are preserved -/

section Upd
variable {w w' : World C} {keyed : Prop} {t : Option Nat}

theorem Upd.proto_eq (u : Upd w keyed t w') : w'.proto = w.proto := by
  cases u <;> rfl

theorem Upd.next_le (u : Upd w keyed t w') : w.heap.next ≤ w'.heap.next := by
  cases u with
  | push _ src l => exact build_next_le w.heap l
  | set => exact Nat.le_succ _
  | _ => exact Nat.le_refl _

theorem Upd.mem_rows (u : Upd w keyed t w') {r' : RowObj} (hr' : r' ∈ w'.rows) {a : Addr}
    (ha : a ∈ addrs r') :
    (∃ r ∈ w.rows, a ∈ addrs r) ∨
      (w.heap.next ≤ a ∧ a < w'.heap.next ∧ (w'.heap.cells a).isSome = true) := by
  cases u with
  | same => exact .inl ⟨r', hr', ha⟩
  | push _ src l =>
    rcases List.mem_append.mp hr' with hr' | hr'
    · exact .inl ⟨r', hr', ha⟩
    · rw [List.mem_singleton] at hr'
      subst hr'
      exact .inr ⟨(build_fresh w.heap l a ha).1, (build_fresh w.heap l a ha).2,
        cells_isSome_of_content (build_content w.heap l) a ha⟩
  | write => exact .inl ⟨r', hr', ha⟩
  | set i r k c hr =>
    rcases List.mem_or_eq_of_mem_set hr' with hr' | rfl
    · exact .inl ⟨r', hr', ha⟩
    · rcases mem_addrs_replaceAddr ha with h | rfl
      · exact .inl ⟨r, List.mem_of_getElem? hr, h⟩
      · exact .inr ⟨Nat.le_refl _, Nat.lt_succ_self _, by simp⟩
  | erase _ i => exact .inl ⟨r', List.mem_of_mem_eraseIdx hr', ha⟩

theorem Upd.cells_eq (u : Upd w keyed t w') {b : Addr} (hb : b < w.heap.next)
    (hw : ∀ i r, t = some i → w.rows[i]? = some r → b ∉ addrs r) :
    w'.heap.cells b = w.heap.cells b := by
  cases u with
  | push _ src l => exact build_cells_below w.heap l b hb
  | write i r a c hr ha => exact if_neg fun (e : b = a) => hw i r rfl hr (e ▸ ha)
  | set i r k c => exact alloc_cells_of_lt w.heap c hb
  | _ => rfl

theorem Upd.isSome_cells (u : Upd w keyed t w') {b : Addr} (hb : b < w.heap.next)
    (h : (w.heap.cells b).isSome = true) : (w'.heap.cells b).isSome = true := by
  cases u with
  | push _ src l => exact (build_cells_below w.heap l b hb).symm ▸ h
  | write i r a c =>
    simp only [write_cells]
    split
    · rfl
    · exact h
  | set i r k c => exact (alloc_cells_of_lt w.heap c hb).symm ▸ h
  | _ => exact h

end Upd

section Preservation
variable {w w' : World C} {keyed : Prop} {t : Option Nat}

/-- `S`: cells that no live row holds — those of the prototype, or of another template. -/
theorem Upd.bystander (u : Upd w keyed t w') {S : List Addr}
    (hlt : ∀ a ∈ S, a < w.heap.next) (hd : ∀ r ∈ w.rows, ∀ a ∈ S, a ∉ addrs r) :
    (∀ a ∈ S, a < w'.heap.next) ∧ (∀ r ∈ w'.rows, ∀ a ∈ S, a ∉ addrs r) ∧
      (∀ a ∈ S, w'.heap.cells a = w.heap.cells a) := by
  refine ⟨fun a ha => Nat.lt_of_lt_of_le (hlt a ha) u.next_le, ?_,
    fun a ha => u.cells_eq (hlt a ha) fun i r _ hr => hd r (List.mem_of_getElem? hr) a ha⟩
  intro r' hr' a ha hm
  rcases u.mem_rows hr' hm with ⟨r, hr, h⟩ | ⟨h, _⟩
  · exact hd r hr a ha h
  · exact Nat.not_le_of_lt (hlt a ha) h

theorem Disj.upd (u : Upd w keyed t w') (d : Disj w) : Disj w' := by
  have hp := u.bystander d.proto_lt d.proto_rows
  refine ⟨u.proto_eq ▸ hp.1, ?_, u.proto_eq ▸ hp.2.1, ?_⟩
  · intro r' hr' a ha
    rcases u.mem_rows hr' ha with ⟨r, hr, h⟩ | ⟨_, h, _⟩
    · exact Nat.lt_of_lt_of_le (d.rows_lt r hr a h) u.next_le
    · exact h
  · have ap : Apart addrs w.rows := d.rows_rows
    cases u with
    | push _ src l => exact ap.append_fresh d.rows_lt fun a ha => (build_fresh w.heap l a ha).1
    | set i r k c hr =>
      exact ap.set d.rows_lt hr fun a ha =>
        (mem_addrs_replaceAddr ha).imp_right fun e => Nat.le_of_eq e.symm
    | erase _ i => exact ap.eraseIdx i
    | _ => exact ap

theorem KeysNodup.upd (u : Upd w keyed t w') (n : KeysNodup w) : KeysNodup w' := by
  refine ⟨u.proto_eq ▸ n.proto, ?_⟩
  intro r' hr'
  cases u with
  | push _ src l hsrc hkeys =>
    rcases List.mem_append.mp hr' with hr' | hr'
    · exact n.rows r' hr'
    · rw [List.mem_singleton] at hr'
      rw [hr', build_keys]
      exact hkeys.nodup (hsrc.elim (· ▸ n.proto) (n.rows src))
  | set i r k c hr =>
    rcases List.mem_or_eq_of_mem_set hr' with hr' | rfl
    · exact n.rows r' hr'
    · exact nodup_keys_replaceAddr (n.rows r (List.mem_of_getElem? hr))
  | erase _ i => exact n.rows r' (List.mem_of_mem_eraseIdx hr')
  | _ => exact n.rows r' hr'

/-- Distinct keys are needed only where a cell may be stored at a key the row has. -/
theorem AddrsNodup.upd (u : Upd w keyed t w') (d : Disj w) (kn : keyed → KeysNodup w)
    (n : AddrsNodup w) : AddrsNodup w' := by
  refine ⟨u.proto_eq ▸ n.proto, ?_⟩
  intro r' hr'
  cases u with
  | push _ src l =>
    rcases List.mem_append.mp hr' with hr' | hr'
    · exact n.rows r' hr'
    · rw [List.mem_singleton] at hr'
      exact hr' ▸ build_addrs_nodup w.heap l
  | set i r k c hr hk =>
    have hrm := List.mem_of_getElem? hr
    rcases List.mem_or_eq_of_mem_set hr' with hr' | rfl
    · exact n.rows r' hr'
    · exact nodup_addrs_replaceAddr (hk.imp_right fun p => (kn p).rows r hrm) (n.rows r hrm)
        fun hm => Nat.lt_irrefl _ (d.rows_lt r hrm _ hm)
  | erase _ i => exact n.rows r' (List.mem_of_mem_eraseIdx hr')
  | _ => exact n.rows r' hr'

end Preservation

theorem run_induction {P : World C → Prop} {w : World C} (ops : List (Op C))
    (hstep : ∀ w, ∀ op ∈ ops, P w → P (step w op)) (h : P w) : P (run w ops) := by
  induction ops generalizing w with
  | nil => exact h
  | cons op ops ih =>
    exact ih (fun w' op' h' => hstep w' op' (List.mem_cons_of_mem _ h')) (hstep w op List.mem_cons_self h)

theorem disj_step {w : World C} (op : Op C) (d : Disj w) : Disj (step w op) :=
  d.upd (step_upd w op)

theorem disj_run {w : World C} (ops : List (Op C)) (d : Disj w) : Disj (run w ops) :=
  run_induction ops (fun _ op _ => disj_step op) d

theorem keysNodup_step {w : World C} (op : Op C) (n : KeysNodup w) : KeysNodup (step w op) :=
  n.upd (step_upd w op)

theorem keysNodup_run {w : World C} (ops : List (Op C)) (n : KeysNodup w) :
    KeysNodup (run w ops) :=
  run_induction ops (fun _ op _ => keysNodup_step op) n

/-- The keys of a row object are distinct in the code, where a row is a key list plus a map.
    Without that `setKey` breaks `Sep` (`sep_step_setKey_dupkeys_false`). -/
theorem sep_step {w : World C} (op : Op C) (kn : KeysNodup w) (h : Sep w) : Sep (step w op) :=
  have u := step_upd w op
  (sep_iff _).mpr ⟨h.disj.upd u, h.addrsNodup.upd u h.disj fun _ => kn⟩

theorem sep_run {w : World C} (ops : List (Op C)) (kn : KeysNodup w) (h : Sep w) :
    Sep (run w ops) ∧ KeysNodup (run w ops) :=
  run_induction (P := fun w => Sep w ∧ KeysNodup w) ops
    (fun _ op _ h => ⟨sep_step op h.2 h.1, keysNodup_step op h.2⟩) ⟨h, kn⟩

theorem sep_step_of_not_setKey {w : World C} (op : Op C) (hop : ∀ i k f, op ≠ .setKey i k f)
    (h : Sep w) : Sep (step w op) :=
  have u := step_upd w op
  (sep_iff _).mpr ⟨h.disj.upd u, h.addrsNodup.upd u h.disj fun ⟨i, k, f, e⟩ => absurd e (hop i k f)⟩

/-! ## 7. The world made by the template builder -/

theorem initWorld_eq (cols : List (Bytes × C)) :
    initWorld cols =
      { heap := (initWorld.build ⟨fun _ => none, 0⟩ cols).1,
        proto := (initWorld.build ⟨fun _ => none, 0⟩ cols).2, rows := [] } := rfl

theorem sep_init (cols : List (Bytes × C)) : Sep (initWorld cols) := by
  rw [sep_iff, initWorld_eq]
  exact ⟨⟨fun a ha => (build_fresh _ cols a ha).2, nofun, nofun, fun i j ri rj hi => by simp at hi⟩,
    ⟨build_addrs_nodup _ cols, nofun⟩⟩

theorem keysNodup_init (cols : List (Bytes × C)) (h : (cols.map Prod.fst).Nodup) :
    KeysNodup (initWorld cols) := by
  rw [initWorld_eq]
  exact ⟨by simpa only [build_keys] using h, fun r hr => by cases hr⟩

theorem content_init (cols : List (Bytes × C)) :
    content (initWorld cols).heap (initWorld cols).proto = cols.map fun e => (e.1, some e.2) := by
  rw [initWorld_eq]; exact build_content _ cols

/-! ## 8. The frame property: a step changes the content of nothing but the row it works on -/

theorem step_proto (w : World C) (op : Op C) : (step w op).proto = w.proto :=
  (step_upd w op).proto_eq

theorem frame_proto_of_disj {w : World C} (d : Disj w) (op : Op C) :
    content (step w op).heap w.proto = content w.heap w.proto ∧ (step w op).proto = w.proto :=
  ⟨content_congr ((step_upd w op).bystander d.proto_lt d.proto_rows).2.2, step_proto w op⟩

/-- C15, template part, one step. -/
theorem frame_proto {w : World C} (h : Sep w) (op : Op C) :
    content (step w op).heap w.proto = content w.heap w.proto ∧ (step w op).proto = w.proto :=
  frame_proto_of_disj h.disj op

theorem frame_content {w : World C} (d : Disj w) (op : Op C) {j : Nat} {rj : RowObj}
    (hj : w.rows[j]? = some rj) (ht : op.target ≠ some j) :
    content (step w op).heap rj = content w.heap rj :=
  content_congr fun a ha =>
    (step_upd w op).cells_eq (d.rows_lt rj (List.mem_of_getElem? hj) a ha) fun i r hi hr =>
      d.rows_rows j i rj r hj hr (fun e => ht (e ▸ hi)) a ha

/-- Removing a row at or before `j` renumbers row `j`. -/
def Op.touches (j : Nat) : Op C → Prop
  | .importKey i _ _ => i = j
  | .setKey i _ _ => i = j
  | .drop i => i ≤ j
  | _ => False

theorem target_ne_of_not_touches {op : Op C} {j : Nat} (h : ¬ op.touches j) :
    op.target ≠ some j := by
  cases op <;> simp_all [Op.touches, Op.target]

theorem step_rows_untouched {w : World C} (op : Op C) {j : Nat} {rj : RowObj}
    (hj : w.rows[j]? = some rj) (hop : ¬ op.touches j) : (step w op).rows[j]? = some rj := by
  have hlen : j < w.rows.length := (List.getElem?_eq_some_iff.mp hj).1
  cases op with
  | createEmpty clone => exact (List.getElem?_append_left hlen).trans hj
  | cloneLive i clone =>
    simp only [step]
    split
    · exact (List.getElem?_append_left hlen).trans hj
    · exact hj
  | importKey i k f =>
    simp only [step]
    split
    · split
      · exact hj
      · exact (List.getElem?_set_ne hop).trans hj
    · exact hj
  | setKey i k f =>
    simp only [step]
    split
    · exact (List.getElem?_set_ne hop).trans hj
    · exact hj
  | drop i => exact (List.getElem?_eraseIdx_of_lt (Nat.lt_of_not_le hop)).trans hj

/-- C15, row part, one step. -/
theorem frame_row {w : World C} (d : Disj w) (op : Op C) {j : Nat} {rj : RowObj}
    (hj : w.rows[j]? = some rj) (hop : ¬ op.touches j) :
    (step w op).rows[j]? = some rj ∧ content (step w op).heap rj = content w.heap rj :=
  ⟨step_rows_untouched op hj hop, frame_content d op hj (target_ne_of_not_touches hop)⟩

theorem frame_createEmpty {w : World C} (h : Sep w) (clone : C → C) {j : Nat} {rj : RowObj}
    (hj : w.rows[j]? = some rj) :
    (step w (.createEmpty clone)).rows[j]? = some rj ∧
      content (step w (.createEmpty clone)).heap rj = content w.heap rj :=
  frame_row h.disj _ hj (fun hf => hf)

/-- The source `j = i` included. -/
theorem frame_cloneLive {w : World C} (h : Sep w) (i : Nat) (clone : C → C) {j : Nat}
    {rj : RowObj} (hj : w.rows[j]? = some rj) :
    (step w (.cloneLive i clone)).rows[j]? = some rj ∧
      content (step w (.cloneLive i clone)).heap rj = content w.heap rj :=
  frame_row h.disj _ hj (fun hf => hf)

theorem frame_importKey {w : World C} (h : Sep w) (i : Nat) (k : Bytes) (f : Option C → C)
    {j : Nat} {rj : RowObj} (hj : w.rows[j]? = some rj) (hne : j ≠ i) :
    (step w (.importKey i k f)).rows[j]? = some rj ∧
      content (step w (.importKey i k f)).heap rj = content w.heap rj :=
  frame_row h.disj _ hj (fun hf : i = j => hne hf.symm)

theorem frame_setKey {w : World C} (h : Sep w) (i : Nat) (k : Bytes) (f : Option C → C)
    {j : Nat} {rj : RowObj} (hj : w.rows[j]? = some rj) (hne : j ≠ i) :
    (step w (.setKey i k f)).rows[j]? = some rj ∧
      content (step w (.setKey i k f)).heap rj = content w.heap rj :=
  frame_row h.disj _ hj (fun hf : i = j => hne hf.symm)

theorem frame_drop (w : World C) (i : Nat) :
    (step w (.drop i)).rows = w.rows.eraseIdx i ∧ (step w (.drop i)).heap = w.heap ∧
      ∀ r ∈ w.rows.eraseIdx i, r ∈ w.rows ∧ content (step w (.drop i)).heap r = content w.heap r :=
  ⟨rfl, rfl, fun _ hr => ⟨List.mem_of_mem_eraseIdx hr, rfl⟩⟩

/-! ## 9. Histories -/

theorem run_nil (w : World C) : run w [] = w := rfl
theorem run_append (w : World C) (ops ops' : List (Op C)) :
    run w (ops ++ ops') = run (run w ops) ops' := by
  induction ops generalizing w with
  | nil => rfl
  | cons op ops ih => exact ih (step w op)

/-- C15, template part. -/
theorem template_unchanged {w : World C} (d : Disj w) (ops : List (Op C)) :
    content (run w ops).heap (run w ops).proto = content w.heap w.proto ∧
      (run w ops).proto = w.proto :=
  (run_induction ops (w := w)
    (P := fun w' => Disj w' ∧ content w'.heap w'.proto = content w.heap w.proto ∧ w'.proto = w.proto)
    (fun w' op _ ⟨d', hc, hp⟩ =>
      ⟨disj_step op d', by rw [step_proto, (frame_proto_of_disj d' op).1, hc], (step_proto w' op).trans hp⟩)
    ⟨d, rfl, rfl⟩).2

theorem template_content_init (cols : List (Bytes × C)) (ops : List (Op C)) :
    content (run (initWorld cols) ops).heap (run (initWorld cols) ops).proto =
      cols.map fun e => (e.1, some e.2) := by
  rw [(template_unchanged (sep_init cols).disj ops).1, content_init]

theorem createEmpty_content_of_disj {w : World C} (d : Disj w) (clone : C → C) :
    ∃ r, (step w (.createEmpty clone)).rows = w.rows ++ [r] ∧
      content (step w (.createEmpty clone)).heap r = cloned clone (content w.heap w.proto) :=
  ⟨_, rfl, cloneRow_content clone w.heap w.proto d.proto_lt⟩

/-- What the template produces afterwards is unchanged. -/
theorem template_produces_same {w : World C} (h : Sep w) (ops : List (Op C)) (clone : C → C) :
    ∃ r0 r1, (step w (.createEmpty clone)).rows = w.rows ++ [r0] ∧
      (step (run w ops) (.createEmpty clone)).rows = (run w ops).rows ++ [r1] ∧
      content (step (run w ops) (.createEmpty clone)).heap r1 =
        content (step w (.createEmpty clone)).heap r0 := by
  obtain ⟨r0, h0, c0⟩ := createEmpty_content_of_disj h.disj clone
  obtain ⟨r1, h1, c1⟩ := createEmpty_content_of_disj (disj_run ops h.disj) clone
  exact ⟨r0, r1, h0, h1, by rw [c0, c1, (template_unchanged h.disj ops).1]⟩

/-- C15, row part, any interleaving of operations that work on other rows (cloning this row is
    one). -/
theorem frame_run {w : World C} (d : Disj w) (ops : List (Op C)) {j : Nat} {rj : RowObj}
    (hj : w.rows[j]? = some rj) (hops : ∀ op ∈ ops, ¬ op.touches j) :
    (run w ops).rows[j]? = some rj ∧ content (run w ops).heap rj = content w.heap rj :=
  (run_induction ops (w := w)
    (P := fun w' => Disj w' ∧ w'.rows[j]? = some rj ∧ content w'.heap rj = content w.heap rj)
    (fun _ op hop ⟨d', h1, h2⟩ =>
      have h := frame_row d' op h1 (hops op hop)
      ⟨disj_step op d', h.1, h.2.trans h2⟩)
    ⟨d, hj, rfl⟩).2

/-- C15, clones: a cloned row (the new last row, index `w.rows.length`) can be modified at its top
    level without affecting its source. -/
theorem clone_independent {w : World C} (h : Sep w) {i : Nat} {src : RowObj}
    (hi : w.rows[i]? = some src) (clone : C → C) :
    ∃ r, (step w (.cloneLive i clone)).rows = w.rows ++ [r] ∧
      (step w (.cloneLive i clone)).rows[i]? = some src ∧
      content (step w (.cloneLive i clone)).heap src = content w.heap src ∧
      content (step w (.cloneLive i clone)).heap r = cloned clone (content w.heap src) ∧
      ∀ ops : List (Op C),
        (∀ op ∈ ops, ∃ k f, op = .importKey w.rows.length k f ∨ op = .setKey w.rows.length k f) →
        (run (step w (.cloneLive i clone)) ops).rows[i]? = some src ∧
          content (run (step w (.cloneLive i clone)) ops).heap src = content w.heap src := by
  have d := h.disj
  have hlen : i < w.rows.length := (List.getElem?_eq_some_iff.mp hi).1
  obtain ⟨h1, h2⟩ := frame_cloneLive h i clone hi
  refine ⟨(cloneRow clone w.heap src).2, ?_, h1, h2, ?_, ?_⟩
  · rw [step_cloneLive_some clone hi]
  · rw [step_cloneLive_some clone hi]
    exact cloneRow_content clone w.heap src (d.rows_lt src (List.mem_of_getElem? hi))
  · intro ops hops
    have := frame_run (disj_step (.cloneLive i clone) d) ops h1 (by
      intro op hop
      obtain ⟨k, f, rfl | rfl⟩ := hops op hop
      · show ¬ w.rows.length = i; omega
      · show ¬ w.rows.length = i; omega)
    exact ⟨this.1, this.2.trans h2⟩

/-! ## 10. Every cell in use exists, so a clone has all the keys of its source

`Sep` bounds the addresses in use by `next` but does not say that a cell is stored there, and
`cloneRow` skips an entry without a cell. -/

structure Live (w : World C) : Prop where
  proto : ∀ a ∈ addrs w.proto, (w.heap.cells a).isSome = true
  rows : ∀ r ∈ w.rows, ∀ a ∈ addrs r, (w.heap.cells a).isSome = true

theorem Live.upd {w w' : World C} {keyed : Prop} {t : Option Nat} (u : Upd w keyed t w')
    (d : Disj w) (l : Live w) : Live w' := by
  refine ⟨fun a ha => ?_, fun r' hr' a ha => ?_⟩
  · rw [u.proto_eq] at ha
    exact u.isSome_cells (d.proto_lt a ha) (l.proto a ha)
  · rcases u.mem_rows hr' ha with ⟨r, hr, h⟩ | ⟨_, _, h⟩
    · exact u.isSome_cells (d.rows_lt r hr a h) (l.rows r hr a h)
    · exact h

theorem live_step {w : World C} (op : Op C) (d : Disj w) (l : Live w) : Live (step w op) :=
  l.upd (step_upd w op) d

theorem live_run {w : World C} (ops : List (Op C)) (d : Disj w) (l : Live w) :
    Live (run w ops) :=
  (run_induction (P := fun w => Disj w ∧ Live w) ops
    (fun _ op _ h => ⟨disj_step op h.1, live_step op h.1 h.2⟩) ⟨d, l⟩).2

theorem live_init (cols : List (Bytes × C)) : Live (initWorld cols) :=
  ⟨cells_isSome_of_content (content_init cols), nofun⟩

theorem cloned_of_all_some (clone : C → C) (h : Heap C) (r : RowObj)
    (hl : ∀ a ∈ addrs r, (h.cells a).isSome = true) :
    cloned clone (content h r) = (content h r).map fun e => (e.1, e.2.map clone) := by
  induction r with
  | nil => rfl
  | cons e r ih =>
    have h1 := hl e.2 (by simp)
    have h2 := ih (fun a ha => hl a (by simp [ha]))
    obtain ⟨c, hc⟩ := Option.isSome_iff_exists.mp h1
    simp only [cloned] at h2
    simp [cloned, hc, h2]

theorem cloneLive_content {w : World C} (h : Sep w) (l : Live w) {i : Nat} {src : RowObj}
    (hi : w.rows[i]? = some src) (clone : C → C) :
    ∃ r, (step w (.cloneLive i clone)).rows = w.rows ++ [r] ∧
      content (step w (.cloneLive i clone)).heap r =
        (content w.heap src).map fun e => (e.1, e.2.map clone) := by
  have hm := List.mem_of_getElem? hi
  refine ⟨(cloneRow clone w.heap src).2, by rw [step_cloneLive_some clone hi], ?_⟩
  rw [step_cloneLive_some clone hi]
  simp only
  rw [cloneRow_content clone w.heap src (h.disj.rows_lt src hm),
    cloned_of_all_some clone w.heap src (l.rows src hm)]

/-! ## 11. Witnesses on a concrete world (`C := Nat`) -/

section Witness

private def kA : Bytes := [97]
private def kB : Bytes := [98]
private def kZ : Bytes := [122]

private def w0 : World Nat := initWorld [(kA, 1), (kB, 2)]

/-- A history touching everything. -/
private def hist : List (Op Nat) :=
  [.createEmpty (· + 10), .createEmpty (· + 20),
   .importKey 0 kA (fun _ => 77),
   .cloneLive 0 (· + 100),
   .importKey 2 kZ (fun _ => 5), .setKey 2 kA (fun _ => 6), .importKey 2 kB (fun _ => 8),
   .importKey 1 kB (fun o => o.getD 0 + 1),
   .importKey 9 kA (fun _ => 0),          -- no such row: nothing happens
   .drop 1,
   .createEmpty id]

example : content w0.heap w0.proto = [(kA, some 1), (kB, some 2)] := by decide +kernel
example : content (run w0 hist).heap (run w0 hist).proto = [(kA, some 1), (kB, some 2)] := by
  decide +kernel
example : (run w0 hist).rows.map (content (run w0 hist).heap) =
    [ [(kA, some 77), (kB, some 12)],                       -- row 0: import at a
      [(kA, some 6), (kB, some 8), (kZ, some 5)],           -- the clone of row 0, then modified
      [(kA, some 1), (kB, some 2)] ] := by decide +kernel   -- made last: the template's content
-- after the clone was modified its source still holds 77 / 12 (instance of `clone_independent`)
example : (run w0 (hist.take 7)).rows.map (content (run w0 (hist.take 7)).heap) =
    [ [(kA, some 77), (kB, some 12)], [(kA, some 21), (kB, some 22)],
      [(kA, some 6), (kB, some 8), (kZ, some 5)] ] := by decide +kernel
-- the hypotheses of the theorems are not vacuous
example : Sep w0 ∧ KeysNodup w0 := ⟨sep_init _, keysNodup_init _ (by decide +kernel)⟩
example : Sep (run w0 hist) := (sep_run hist (keysNodup_init _ (by decide +kernel)) (sep_init _)).1
example : Live (run w0 hist) := live_run hist (sep_init _).disj (live_init _)
example : (addrs (run w0 hist).proto, (run w0 hist).rows.map addrs, (run w0 hist).heap.next) =
    ([0, 1], [[2, 3], [9, 7, 8], [10, 11]], 12) := by decide +kernel

/-- The broken variant: `createEmpty` hands out the prototype itself instead of a clone. -/
def stepBad (w : World C) : Op C → World C
  | .createEmpty _ => { w with rows := w.rows ++ [w.proto] }
  | op => step w op

def runBad (w : World C) : List (Op C) → World C
  | [] => w
  | op :: ops => runBad (stepBad w op) ops

/-- NEGATIVE witness: without cloning, importing into a row made from the template changes what
    the template holds. -/
theorem bad_createEmpty_breaks_template :
    let w := runBad w0 [.createEmpty id, .importKey 0 kA (fun _ => 77)]
    content w.heap w.proto = [(kA, some 77), (kB, some 2)] ∧
      content w.heap w.proto ≠ content w0.heap w0.proto := by
  decide +kernel

theorem bad_createEmpty_not_sep : ¬ Sep (stepBad w0 (.createEmpty id)) := by
  intro h
  exact absurd h.2 (by decide +kernel)

/-- the same two operations with the real `step` leave the template alone -/
example :
    let w := run w0 [.createEmpty id, .importKey 0 kA (fun _ => 77)]
    content w.heap w.proto = [(kA, some 1), (kB, some 2)] ∧
      w.rows.map (content w.heap) = [[(kA, some 77), (kB, some 2)]] := by
  decide +kernel

/-- A template with the same key twice (the model does not forbid it). -/
private def wDup : World Nat := step (initWorld [(kA, 1), (kA, 2)]) (.createEmpty id)

/-- Why `sep_step` needs distinct keys: `setKey` stores the ONE new cell at both entries. -/
theorem sep_step_setKey_dupkeys_false :
    Sep wDup ∧ ¬ Sep (step wDup (.setKey 0 kA (fun _ => 9))) := by
  refine ⟨sep_step_of_not_setKey _ (by intro i k f h; cases h) (sep_init _), ?_⟩
  intro h
  exact absurd h.2 (by decide +kernel)

example : addrs ((step wDup (.setKey 0 kA (fun _ => 9))).rows[0]!) = [4, 4] := by decide +kernel

end Witness

end Jl.Alias
