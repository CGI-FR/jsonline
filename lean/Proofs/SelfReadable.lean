/-
  Proofs.SelfReadable — C05 at cell level for the pairings of `Tables.selfReadable` that are NOT
  lossless (`C05.table_coverage`): what such a column emits is accepted again under the same
  descriptor and emitted again unchanged (`FixedPoint`).  What the casters answer comes from
  Proofs.CasterFacts; `cellFixed_of_fixedPoint` (Proofs.CellTable) carries a `FixedPoint` to the
  printed bytes of a cell (`LineFixedPoint.CellFixed`).
-/
import Model.Tables
import Model.Value
import Model.CastGen
import Model.RowPrint
import Model.LineSpec
import Proofs.Pairings
import Proofs.TimeShape
import Proofs.CastTyped
import Proofs.Order

namespace Jl.SelfReadable
open Jl Jl.Value Cast Jl.Pairings Jl.CastTyped
open Jl.CasterFacts
open Jl.Float (toFVal_ofInt_f64_le toFVal_ofInt_f32_le)
open Jl.Time (truncOff year_truncOff formatRFC3339_truncOff parse_format_trunc)
open Jl.LineFloats (FT toBool_float castTo_float_bool castTo_float_num parsedAs_ok fvalOf_dyn dyn_ne_nil)  -- declared in Proofs/CasterFacts

/-- `e'` is what the JSON reader delivers for the emitted `e`: a string after `JsonQuote.sanitize`
    (the identity on the ASCII texts written here), a bool as itself, an int64 `n` as
    `.num (IntText.formatInt n)`, a json.Number by its literal. -/
def FixedPoint (env : Env) (f : Format) (ty : Ty) (e e' : Dyn) : Prop :=
  ∃ c, importCell env f ty e' = .ok (c, none) ∧ exportVal env c = .ok e

theorem fixedPoint_of_trip {env : Env} {f : Format} {ty : Ty} {r e e' : Dyn} (h : Trip env f ty r e e' r) :
    FixedPoint env f ty e e' :=
  ⟨_, h.back, h.out⟩

theorem nil_fixed_point (env : Env) (f : Format) (ty : Ty) :
    exportVal env (.cell .nil f ty) = .ok .nil ∧ FixedPoint env f ty .nil .nil :=
  ⟨exportVal_nil env f ty, .cell .nil f ty, rfl, exportVal_nil env f ty⟩

/-! ### 1. boolean(T) for the ten integer types, and boolean(bool) -/

theorem ne0_ite (c : Bool) : ((if c = true then (1 : Int) else 0) != 0) = c := by
  cases c <;> rfl

/-- The value is not preserved (the pairing is not lossless), the emitted bool is. -/
theorem boolean_int (ext : Ext) (t : IntTy) (v : Int) :
    exportVal ⟨genTables, ext⟩ (.cell (.int t v) .boolean (.int t)) = .ok (.bool (v != 0)) ∧
    importCell ⟨genTables, ext⟩ .boolean (.int t) (.bool (v != 0)) =
      .ok (.cell (.int t (if (v != 0) = true then 1 else 0)) .boolean (.int t), none) ∧
    exportVal ⟨genTables, ext⟩ (.cell (.int t (if (v != 0) = true then 1 else 0)) .boolean (.int t)) =
      .ok (.bool (v != 0)) := by
  have h3 := toBool_int ext t (if (v != 0) = true then 1 else 0)
  rw [ne0_ite] at h3
  exact ⟨export_single rfl (toBool_int ext t v) nofun, importCell_cast rfl rfl (cast_bool_source ext t _) trivial,
    export_single rfl h3 nofun⟩

theorem boolean_int_fixed_point (ext : Ext) (t : IntTy) (v : Int) :
    ∃ e, exportVal ⟨genTables, ext⟩ (.cell (.int t v) .boolean (.int t)) = .ok e ∧ e = .bool (v != 0) ∧
      FixedPoint ⟨genTables, ext⟩ .boolean (.int t) e e := by
  obtain ⟨a1, a2, a3⟩ := boolean_int ext t v
  exact ⟨_, a1, rfl, _, a2, a3⟩

theorem boolean_bool_fixed_point (ext : Ext) (b : Bool) :
    ∃ e, exportVal ⟨genTables, ext⟩ (.cell (.bool b) .boolean .bool) = .ok e ∧ e = .bool b ∧
      FixedPoint ⟨genTables, ext⟩ .boolean .bool e e := by
  obtain ⟨a1, a2⟩ := boolean_bool ext b
  exact ⟨_, a1, rfl, _, a2, a1⟩

example : exportVal ⟨genTables, Ext.empty⟩ (.cell (.int .i8 (-128)) .boolean (.int .i8)) = .ok (.bool true) ∧
    importCell ⟨genTables, Ext.empty⟩ .boolean (.int .i8) (.bool true) =
      .ok (.cell (.int .i8 1) .boolean (.int .i8), none) ∧
    exportVal ⟨genTables, Ext.empty⟩ (.cell (.int .i8 1) .boolean (.int .i8)) = .ok (.bool true) :=
  boolean_int Ext.empty .i8 (-128)
example : exportVal ⟨genTables, Ext.empty⟩ (.cell (.int .u64 0) .boolean (.int .u64)) = .ok (.bool false) ∧
    importCell ⟨genTables, Ext.empty⟩ .boolean (.int .u64) (.bool false) =
      .ok (.cell (.int .u64 0) .boolean (.int .u64), none) :=
  ⟨(boolean_int Ext.empty .u64 0).1, (boolean_int Ext.empty .u64 0).2.1⟩

/-! ### 2. boolean(string), boolean([]byte), boolean(json.Number), boolean(float), boolean(time) -/

theorem boolean_emits_bool (ext : Ext) (raw : Dyn) (ty : Ty) (e : Dyn) (hraw : raw ≠ .nil)
    (h : exportVal ⟨genTables, ext⟩ (.cell raw .boolean ty) = .ok e) : ∃ b, e = .bool b :=
  typeOf_inv ((exportCell_typed ext hraw .boolean ty).of_ok h)

theorem toBool_str_parseFloat (ext : Ext) (s : Bytes) (y : Nat) (h : IntText.parseBool s = none)
    (hp : ext.parseFloat s 64 = some (some y)) :
    castNamed genTables ext "ToBool" (.str s) = .ok (.bool (!Float.isZero Float.f64 y)) := by
  rw [toBool_str_eq, h]
  exact nonzero_of_ok (toFloat64_str ext s y hp)

theorem boolean_str_reread (ext : Ext) (b : Bool) :
    Trip ⟨genTables, ext⟩ .boolean .str (.str (IntText.formatBool b)) (.bool b) (.bool b) (.str (IntText.formatBool b)) :=
  ⟨export_single rfl (toBool_str_parseBool ext _ b (parseBool_formatBool b)) nofun,
    importCell_cast rfl rfl (toString_bool ext b) trivial⟩

/-- The strings the column accepts are the texts of ParseBool and, given strconv's answer, the
    float texts. -/
theorem boolean_str (ext : Ext) (s : Bytes) (e : Dyn)
    (h : exportVal ⟨genTables, ext⟩ (.cell (.str s) .boolean .str) = .ok e) :
    ∃ b, e = .bool b ∧
      Trip ⟨genTables, ext⟩ .boolean .str (.str (IntText.formatBool b)) (.bool b) (.bool b)
        (.str (IntText.formatBool b)) := by
  obtain ⟨b, rfl⟩ := boolean_emits_bool ext (.str s) _ _ nofun h
  exact ⟨b, rfl, boolean_str_reread ext b⟩

theorem toBool_bytes (ext : Ext) (s : Bytes) :
    castNamed genTables ext "ToBool" (.bytes s) =
      match s with
      | [c] => .ok (.bool (c != 0))
      | _ => .err .cast :=
  (castTo_cast ext (ty := .bool) rfl _).symm.trans (decode_bool ext s)

theorem boolean_bytes_reread (ext : Ext) (b : Bool) :
    Trip ⟨genTables, ext⟩ .boolean .bytes (.bytes [if b then 1 else 0]) (.bool b) (.bool b)
      (.bytes [if b then 1 else 0]) :=
  ⟨export_single rfl ((toBool_bytes ext _).trans (by cases b <;> rfl)) nofun,
    importCell_cast rfl rfl (encode_bool ext b) trivial⟩

theorem boolean_bytes (ext : Ext) (s : Bytes) (e : Dyn)
    (h : exportVal ⟨genTables, ext⟩ (.cell (.bytes s) .boolean .bytes) = .ok e) :
    ∃ c, s = [c] ∧ e = .bool (c != 0) ∧
      Trip ⟨genTables, ext⟩ .boolean .bytes (.bytes [if (c != 0) = true then 1 else 0]) (.bool (c != 0))
        (.bool (c != 0)) (.bytes [if (c != 0) = true then 1 else 0]) := by
  have hc := (toBool_bytes ext s).symm.trans (export_single_inv rfl h nofun)
  split at hc
  · cases hc; exact ⟨_, rfl, rfl, boolean_bytes_reread ext _⟩
  · cases hc

theorem toBool_num (ext : Ext) (l : Bytes) (y : Nat) (hp : ext.parseFloat l 64 = some (some y)) :
    castNamed genTables ext "ToBool" (.num l) = .ok (.bool (!Float.isZero Float.f64 y)) :=
  CasterFacts.toBool_num ext l y hp

theorem boolean_num_reread (ext : Ext) (law : DigitLaw ext) (b : Bool) :
    Trip ⟨genTables, ext⟩ .boolean .num (.num (if b then [0x31] else [0x30])) (.bool b) (.bool b)
      (.num (if b then [0x31] else [0x30])) :=
  ⟨export_single rfl (toBool_digit ext law b) nofun, importCell_cast rfl rfl (toNumber_bool ext b) trivial⟩

theorem boolean_num (ext : Ext) (law : DigitLaw ext) (l : Bytes) (e : Dyn)
    (h : exportVal ⟨genTables, ext⟩ (.cell (.num l) .boolean .num) = .ok e) :
    ∃ b, e = .bool b ∧
      Trip ⟨genTables, ext⟩ .boolean .num (.num (if b then [0x31] else [0x30])) (.bool b) (.bool b)
        (.num (if b then [0x31] else [0x30])) := by
  obtain ⟨b, rfl⟩ := boolean_emits_bool ext (.num l) _ _ nofun h
  exact ⟨b, rfl, boolean_num_reread ext law b⟩

/-- Every bit pattern, NaN and ±Inf included (false for ±0 only).  No hypothesis on `ext`: no float
    text is involved. -/
theorem boolean_floatT (ext : Ext) (T : FT) (x : Nat) :
    exportVal ⟨genTables, ext⟩ (.cell (T.dyn x) .boolean T.ty) = .ok (.bool (!Float.isZero T.fmt x)) ∧
    ∀ b : Bool, Trip ⟨genTables, ext⟩ .boolean T.ty (T.dyn (Float.ofInt T.fmt (if b then 1 else 0))) (.bool b)
      (.bool b) (T.dyn (Float.ofInt T.fmt (if b then 1 else 0))) := by
  have hz (b : Bool) : (!Float.isZero T.fmt (Float.ofInt T.fmt (if b then 1 else 0))) = b := by
    cases T <;> cases b <;> decide
  exact ⟨export_single rfl (toBool_float ext T x) (dyn_ne_nil T x), fun b =>
    ⟨export_single rfl ((toBool_float ext T _).trans (by rw [hz])) (dyn_ne_nil T _),
      importCell_typed rfl (castTo_float_bool ext T b) trivial T.ty_ne_none⟩⟩

/-- `hz`: the bool is read back as the Unix second 1 / 0 at the offset of the process zone, which
    must answer there. -/
theorem boolean_time (ext : Ext) (t : GoTime) (off : Int)
    (hz : ext.zoneOffset (if (t.sec != 0) = true then 1 else 0) = some off) :
    exportVal ⟨genTables, ext⟩ (.cell (.time t) .boolean .time) = .ok (.bool (t.sec != 0)) ∧
    importCell ⟨genTables, ext⟩ .boolean .time (.bool (t.sec != 0)) =
      .ok (.cell (.time ⟨if (t.sec != 0) = true then 1 else 0, 0, off⟩) .boolean .time, none) ∧
    exportVal ⟨genTables, ext⟩ (.cell (.time ⟨if (t.sec != 0) = true then 1 else 0, 0, off⟩) .boolean .time) =
      .ok (.bool (t.sec != 0)) := by
  have h3 := toBool_time ext ⟨if (t.sec != 0) = true then 1 else 0, 0, off⟩
  rw [ne0_ite] at h3
  exact ⟨export_single rfl (toBool_time ext t) nofun,
    importCell_cast rfl rfl (toTime_bool ext _ off hz) trivial, export_single rfl h3 nofun⟩

/-- A type jsonline has no case for: ToBool rejects the value, so the fixed-point statement is
    vacuous there. -/
theorem boolean_other_not_emitted (ext : Ext) (raw : Dyn) (ty : Ty) (h : typeOf raw = .other) :
    exportVal ⟨genTables, ext⟩ (.cell raw .boolean ty) = .err .unsupportedExport := by
  have hraw : raw ≠ .nil := by rintro rfl; cases h
  rw [exportVal_single rfl hraw, toBool_other ext raw h, exportFail_failWith]

/-! #### The whole boolean row -/

def WellTyped (f : Format) (ty : Ty) (raw : Dyn) : Prop :=
  raw = .nil ∨ (ty ≠ .none ∧ typeOf raw = ty) ∨ (ty = .none ∧ typeOf raw = Tables.defaultTy f)

/-- What the boolean pairings need from the standard library (parameters of the model):
    ParseFloat's answers for "1" and "0"; the process zone's offset at the Unix seconds 0 and 1. -/
def BooleanHyp (ext : Ext) : Ty → Prop
  | .num => DigitLaw ext
  | .time => (∃ o, ext.zoneOffset 0 = some o) ∧ (∃ o, ext.zoneOffset 1 = some o)
  | _ => True

theorem boolean_reread (ext : Ext) (ty : Ty) (hty : ty ≠ .other) (hh : BooleanHyp ext ty) (b : Bool) :
    FixedPoint ⟨genTables, ext⟩ .boolean ty (.bool b) (.bool b) := by
  cases ty with
  | none => exact fixedPoint_of_trip (auto_bool ext b).2
  | int t =>
    have h := boolean_int ext t (if b then 1 else 0)
    rw [ne0_ite] at h
    exact ⟨_, h.2.1, h.2.2⟩
  | f64 => exact fixedPoint_of_trip ((boolean_floatT ext .f64 0).2 b)
  | f32 => exact fixedPoint_of_trip ((boolean_floatT ext .f32 0).2 b)
  | bool => exact fixedPoint_of_trip (boolean_bool ext b)
  | str => exact fixedPoint_of_trip (boolean_str_reread ext b)
  | bytes => exact fixedPoint_of_trip (boolean_bytes_reread ext b)
  | num => exact fixedPoint_of_trip (boolean_num_reread ext hh b)
  | time =>
    have hz : ∃ off, ext.zoneOffset (if b then 1 else 0) = some off := by
      cases b
      · exact hh.1
      · exact hh.2
    obtain ⟨off, hz⟩ := hz
    have h := boolean_time ext ⟨if b then 1 else 0, 0, 0⟩ off (by rw [ne0_ite]; exact hz)
    rw [ne0_ite] at h
    exact ⟨_, h.2.1, h.2.2⟩
  | other => exact absurd rfl hty

theorem boolean_fixed_point (ext : Ext) (raw : Dyn) (ty : Ty) (e : Dyn)
    (hwt : WellTyped .boolean ty raw) (hh : BooleanHyp ext ty)
    (h : exportVal ⟨genTables, ext⟩ (.cell raw .boolean ty) = .ok e) :
    (e = .nil ∨ ∃ b, e = .bool b) ∧ FixedPoint ⟨genTables, ext⟩ .boolean ty e e := by
  by_cases hnil : raw = .nil
  · subst hnil
    obtain ⟨a1, a2⟩ := nil_fixed_point ⟨genTables, ext⟩ .boolean ty
    rw [a1] at h; cases h
    exact ⟨.inl rfl, a2⟩
  · -- a non-null raw value the column accepts is emitted as a bool
    obtain ⟨b, rfl⟩ := boolean_emits_bool ext raw ty e hnil h
    refine ⟨.inr ⟨b, rfl⟩, boolean_reread ext ty ?_ hh b⟩
    rintro rfl
    have hother : typeOf raw = .other := by
      rcases hwt with h0 | ⟨_, h1⟩ | ⟨h2, _⟩
      · exact absurd h0 hnil
      · exact h1
      · cases h2
    rw [boolean_other_not_emitted ext raw _ hother] at h
    cases h

/-! Non-vacuity: the string "T" (ParseBool accepts it, read back as "true"); the byte 02; the
    literal `1` under `digitExt`; a float64 NaN (read back as 1.0). -/
example : exportVal ⟨genTables, Ext.empty⟩ (.cell (.str [0x54]) .boolean .str) = .ok (.bool true) ∧
    importCell ⟨genTables, Ext.empty⟩ .boolean .str (.bool true) =
      .ok (.cell (.str [0x74, 0x72, 0x75, 0x65]) .boolean .str, none) ∧
    exportVal ⟨genTables, Ext.empty⟩ (.cell (.str [0x74, 0x72, 0x75, 0x65]) .boolean .str) = .ok (.bool true) := by
  have h : exportVal ⟨genTables, Ext.empty⟩ (.cell (.str [0x54]) .boolean .str) = .ok (.bool true) :=
    export_single rfl (toBool_str_parseBool Ext.empty [0x54] true (by decide)) nofun
  exact ⟨h, (boolean_str_reread Ext.empty true).back, (boolean_str_reread Ext.empty true).out⟩
example : exportVal ⟨genTables, Ext.empty⟩ (.cell (.bytes [0x02]) .boolean .bytes) = .ok (.bool true) ∧
    FixedPoint ⟨genTables, Ext.empty⟩ .boolean .bytes (.bool true) (.bool true) := by
  have h : exportVal ⟨genTables, Ext.empty⟩ (.cell (.bytes [0x02]) .boolean .bytes) = .ok (.bool true) :=
    export_single rfl (toBool_bytes Ext.empty [0x02]) nofun
  exact ⟨h, (boolean_fixed_point Ext.empty _ .bytes _ (.inr (.inl ⟨by decide, rfl⟩)) trivial h).2⟩
example : exportVal ⟨genTables, digitExt⟩ (.cell (.num [0x31]) .boolean .num) = .ok (.bool true) ∧
    FixedPoint ⟨genTables, digitExt⟩ .boolean .num (.bool true) (.bool true) := by
  have h : exportVal ⟨genTables, digitExt⟩ (.cell (.num [0x31]) .boolean .num) = .ok (.bool true) :=
    export_single rfl (toBool_digit digitExt digitExt_law true) nofun
  exact ⟨h, (boolean_fixed_point digitExt _ .num _ (.inr (.inl ⟨by decide, rfl⟩)) digitExt_law h).2⟩
example : exportVal ⟨genTables, Ext.empty⟩ (.cell (.f64 0x7FF8000000000001) .boolean .f64) = .ok (.bool true) ∧
    importCell ⟨genTables, Ext.empty⟩ .boolean .f64 (.bool true) =
      .ok (.cell (.f64 0x3FF0000000000000) .boolean .f64, none) ∧
    exportVal ⟨genTables, Ext.empty⟩ (.cell (.f64 0x3FF0000000000000) .boolean .f64) = .ok (.bool true) := by
  obtain ⟨a1, a2⟩ := boolean_floatT Ext.empty .f64 0x7FF8000000000001
  simp only [FT.dyn, FT.ty, FT.fmt] at a1 a2
  have e1 : (!Float.isZero Float.f64 0x7FF8000000000001) = true := by decide
  have e2 : Float.ofInt Float.f64 (if true = true then 1 else 0) = 0x3FF0000000000000 := by decide
  rw [e1] at a1
  have := a2 true
  rw [e2] at this
  exact ⟨a1, this.back, this.out⟩


/-! ### 3. hidden(T)

A hidden column exports its raw value as it is (`exportVal_hidden`), but `row.MarshalJSON` skips the
member (`JsonPrint.marshalMembers_hidden`): nothing is emitted, reading the line back never reaches
a hidden cell, and being a fixed point is a statement about the other columns only. -/

def dropHidden : Members → Members
  | .nil => .nil
  | .cons k v ms => if Cells.format v == .hidden then dropHidden ms else .cons k v (dropHidden ms)

theorem marshalMembers_dropHidden (env : Env) :
    ∀ ms : Members, RowPrint.marshalMembers env ms = RowPrint.marshalMembers env (dropHidden ms)
  | .nil => by simp [dropHidden]
  | .cons k v ms => by
    have ih := marshalMembers_dropHidden env ms
    by_cases h : Cells.format v = .hidden
    · rw [JsonPrint.marshalMembers_hidden env k v ms h, ih]
      simp [dropHidden, h]
    · have hb : (Cells.format v == Format.hidden) = false := by simpa using h
      have hd : dropHidden (.cons k v ms) = .cons k v (dropHidden ms) := by
        simp [dropHidden, hb]
      rw [hd]
      conv => lhs; rw [RowPrint.marshalMembers]
      conv => rhs; rw [RowPrint.marshalMembers]
      simp only [hb, ih]

theorem hidden_line (env : Env) (ms : Members) :
    RowPrint.marshalRow env ms = RowPrint.marshalRow env (dropHidden ms) := by
  rw [marshalRow_bind, marshalRow_bind, marshalMembers_dropHidden]

theorem hidden_not_visible (k : Bytes) (v : Val) (o : List (Bytes × Val)) (h : Cells.format v = .hidden) :
    RowPrint.visibleKeys ((k, v) :: o) = RowPrint.visibleKeys o := by
  simp [RowPrint.visibleKeys, h]

/-- `hx`: the JSON reader delivers anything but a bare jsonline cell used as data. -/
theorem hidden_stays_hidden (env : Env) (ty : Ty) (x : Dyn) (c : Val) (err : Option ErrClass)
    (hx : ∀ r f t, x ≠ .val (.cell r f t))
    (h : importCell env .hidden ty x = .ok (c, err)) : Cells.format c = .hidden := by
  obtain ⟨_, rfl, _⟩ := Order.importCell_raw hx h
  rfl

/-- With a raw type `T` the same needs cast.To(T, v) = v for a `v` of type `T`, which is what
    `Tables.lossless` / C13 state per type; it is not stated here. -/
theorem hidden_none_fixed_point (ext : Ext) (raw : Dyn) (hraw : ∀ v, raw ≠ .val v) :
    exportVal ⟨genTables, ext⟩ (.cell raw .hidden .none) = .ok raw ∧
    importCell ⟨genTables, ext⟩ .hidden .none raw = .ok (.cell raw .hidden .none, none) :=
  ⟨exportVal_hidden _ _ _, Order.importCell_plain (.inr rfl) (gen_castTo_none ext raw) fun _ _ _ h => hraw _ h⟩

example (env : Env) (a b : Val) :
    RowPrint.marshalRow env (.cons [0x61] a (.cons [0x68] (.cell (.int .i8 5) .hidden (.int .i8)) (.cons [0x62] b .nil))) =
    RowPrint.marshalRow env (.cons [0x61] a (.cons [0x62] b .nil)) := by
  rw [hidden_line, hidden_line env (.cons [0x61] a (.cons [0x62] b .nil))]
  rfl


/-! ### 4. date(none), date(string), date([]byte), date(json.Number)

`ToDate` returns a date text that `time.Parse("2006-01-02", ·)` accepts — the raw string itself
when it is one, else the text written for the instant the value denotes — and ToDate of an
accepted date text is that text (`CasterFacts.toDate_ok`). -/

theorem date_reread (ext : Ext) (d : Bytes) (hd : Time.parseDateOk d = true) :
    Trip ⟨genTables, ext⟩ .date .none (.str d) (.str d) (.str d) (.str d) ∧
    Trip ⟨genTables, ext⟩ .date .str (.str d) (.str d) (.str d) (.str d) ∧
    Trip ⟨genTables, ext⟩ .date .bytes (.bytes d) (.str d) (.str d) (.bytes d) ∧
    Trip ⟨genTables, ext⟩ .date .num (.num d) (.str d) (.str d) (.num d) := by
  have hexp : ∀ ty, exportVal ⟨genTables, ext⟩ (.cell (.str d) .date ty) = .ok (.str d) :=
    fun _ => export_via rfl (toDate_str ext d hd) (toString_str ext d) nofun
  exact ⟨⟨hexp _, importCell_untyped rfl (toDate_str ext d hd) trivial⟩,
    ⟨hexp _, importCell_cast rfl rfl (toString_str ext d) trivial⟩,
    ⟨export_via rfl (toDate_bytes ext d hd) (toString_str ext d) nofun,
      importCell_cast rfl rfl (toBinary_str ext d) trivial⟩,
    ⟨export_via rfl (toDate_num ext d hd) (toString_str ext d) nofun,
      importCell_cast rfl rfl (toNumber_str ext d) trivial⟩⟩


theorem sanitize_dateOk {d : Bytes} (h : Time.parseDateOk d = true) : JsonQuote.sanitize d = d :=
  JsonPrint.sanitize_of_ascii d (ascii_dateText (TimeShape.parseDateOk_shape h))

/-- No `WellTyped` hypothesis: whatever the raw value, what a date column emits is null or an
    accepted date text (`TimeShape.date_export_class`). -/
theorem date_fixed_point (ext : Ext) (raw : Dyn) (ty : Ty) (e : Dyn)
    (hty : ty = .none ∨ ty = .str ∨ ty = .bytes ∨ ty = .num)
    (h : exportVal ⟨genTables, ext⟩ (.cell raw .date ty) = .ok e) :
    (e = .nil ∧ FixedPoint ⟨genTables, ext⟩ .date ty .nil .nil) ∨
    (∃ d, e = .str d ∧ Time.parseDateOk d = true ∧ JsonQuote.sanitize d = d ∧
      FixedPoint ⟨genTables, ext⟩ .date ty (.str d) (.str (JsonQuote.sanitize d))) := by
  rcases TimeShape.date_export_class ext raw ty e h with rfl | ⟨d, rfl, hd⟩
  · exact .inl ⟨rfl, (nil_fixed_point _ _ _).2⟩
  · refine .inr ⟨d, rfl, hd, sanitize_dateOk hd, ?_⟩
    rw [sanitize_dateOk hd]
    obtain ⟨a, b, c, d'⟩ := date_reread ext d hd
    rcases hty with rfl | rfl | rfl | rfl
    · exact fixedPoint_of_trip a
    · exact fixedPoint_of_trip b
    · exact fixedPoint_of_trip c
    · exact fixedPoint_of_trip d'

/-! Non-vacuity: "2024-02-29" under date(string) and date([]byte); the json.Number `0` at UTC is
    written "1970-01-01", which is read back as the json.Number with that literal
    (cast.To(json.Number, string) does not look at the text). -/
def feb29 : Bytes := [0x32, 0x30, 0x32, 0x34, 0x2D, 0x30, 0x32, 0x2D, 0x32, 0x39]

example : exportVal ⟨genTables, Ext.empty⟩ (.cell (.str feb29) .date .str) = .ok (.str feb29) ∧
    FixedPoint ⟨genTables, Ext.empty⟩ .date .str (.str feb29) (.str (JsonQuote.sanitize feb29)) := by
  have hd : Time.parseDateOk feb29 = true := by decide
  have h := (date_reread Ext.empty feb29 hd).2.1.out
  refine ⟨h, ?_⟩
  rcases date_fixed_point Ext.empty _ .str _ (.inr (.inl rfl)) h with ⟨h0, _⟩ | ⟨d, hd', _, _, hfp⟩
  · cases h0
  · cases hd'; exact hfp

example : exportVal ⟨genTables, Ext.empty⟩ (.cell (.bytes feb29) .date .bytes) = .ok (.str feb29) ∧
    importCell ⟨genTables, Ext.empty⟩ .date .bytes (.str feb29) = .ok (.cell (.bytes feb29) .date .bytes, none) :=
  have hd : Time.parseDateOk feb29 = true := by decide
  ⟨(date_reread Ext.empty feb29 hd).2.2.1.out, (date_reread Ext.empty feb29 hd).2.2.1.back⟩


def utcExt : Ext := { Ext.empty with zoneOffset := fun _ => some 0 }

def epochDate : Bytes := [0x31, 0x39, 0x37, 0x30, 0x2D, 0x30, 0x31, 0x2D, 0x30, 0x31]

theorem toDate_num_zero : castNamed genTables utcExt "ToDate" (.num [0x30]) = .ok (.str epochDate) := by
  have hf : Time.formatDate ⟨0, 0, 0⟩ = epochDate := by decide +kernel
  rw [toDate_dflt utcExt _ rfl, via_of_ok (toString_num utcExt _), toDate_str_int utcExt [0x30] 0 (by decide) (by decide),
    toDate_i64 utcExt 0 0 rfl (by decide), toDate_time utcExt ⟨0, 0, 0⟩ (by decide +kernel) (by decide +kernel), hf]

example : exportVal ⟨genTables, utcExt⟩ (.cell (.num [0x30]) .date .num) = .ok (.str epochDate) ∧
    importCell ⟨genTables, utcExt⟩ .date .num (.str epochDate) = .ok (.cell (.num epochDate) .date .num, none) ∧
    exportVal ⟨genTables, utcExt⟩ (.cell (.num epochDate) .date .num) = .ok (.str epochDate) := by
  have hd : Time.parseDateOk epochDate = true := by decide
  refine ⟨?_, (date_reread utcExt epochDate hd).2.2.2.back, (date_reread utcExt epochDate hd).2.2.2.out⟩
  exact export_via rfl toDate_num_zero (toString_str utcExt epochDate) nofun


/-! ### 5. datetime(string), datetime([]byte)

The raw text is read as RFC 3339 (or, failing that, as an integer text of Unix seconds rendered
in the process zone); the column writes `formatRFC3339` of that time.  Re-read, the written text
stays a string / []byte, and writing it parses it again: parse ∘ format gives back the same
second and offset, so format ∘ parse ∘ format = format.  The parser accepts offsets up to
`+24:60`; parse ∘ format holds below 25 h (`Time.parse_format`), and at exactly 25 h the pairing
is NOT a fixed point (`C05.offset_24_60_counterexample`). -/

def TimeFrom (ext : Ext) (s : Bytes) (t : GoTime) : Prop :=
  Time.parseRFC3339 s = some t ∨ ∃ v off, ext.zoneOffset v = some off ∧ t = ⟨v, 0, off⟩

theorem timeFrom_of_origin {ext : Ext} {v : Dyn} {s : Bytes} {t : GoTime} (hv : v = .str s ∨ v = .bytes s)
    (h : TimeOrigin ext v t) : TimeFrom ext s t := by
  cases h with
  | self => rcases hv with h | h <;> cases h
  | str hp => rcases hv with h | h <;> cases h; exact .inl hp
  | bytes hp => rcases hv with h | h <;> cases h; exact .inl hp
  | unix _ hz => exact .inr ⟨_, _, hz, rfl⟩

theorem datetime_text_export (ext : Ext) (raw : Dyn) (s : Bytes) (ty : Ty) (e : Dyn)
    (hraw : raw = .str s ∨ raw = .bytes s)
    (h : exportVal ⟨genTables, ext⟩ (.cell raw .datetime ty) = .ok e) :
    ∃ t, e = .str (Time.formatRFC3339 t) ∧ TimeFrom ext s t ∧ 0 ≤ Time.year t ∧ Time.year t ≤ 9999 := by
  obtain ⟨r, h1, h2⟩ := export_via_inv rfl h (by rcases hraw with rfl | rfl <;> nofun)
  obtain ⟨hn, -⟩ | ⟨t, rfl, ho⟩ := toTime_ok ext raw r h1
  · rcases hraw with rfl | rfl <;> cases hn
  have hfrom := timeFrom_of_origin hraw ho
  obtain ⟨rfl, h0, h1⟩ := toString_time_inv ext t e h2
  exact ⟨t, rfl, hfrom, h0, h1⟩

/-- Offsets whose text is read back and written again unchanged: zero, or at least one minute
    in magnitude (below a minute the verb prints `+00:00`, which reads as `Z`), and below 25 h
    once truncated to minutes (from `25:00` on the parser rejects the hour). -/
def OffsetOK (off : Int) : Prop := (off = 0 ∨ off.tdiv 60 ≠ 0) ∧ (off.tdiv 60).natAbs < 1500

theorem offsetOK_of_minutes {off : Int} (h60 : off % 60 = 0) (hb : off.natAbs < 90000) : OffsetOK off := by
  have htd : off.tdiv 60 = off / 60 := Int.tdiv_eq_ediv_of_dvd (Int.dvd_of_emod_eq_zero h60)
  unfold OffsetOK
  rw [htd]
  constructor <;> omega

theorem datetime_reread (ext : Ext) (t : GoTime) (hy0 : 0 ≤ Time.year t) (hy1 : Time.year t ≤ 9999)
    (hoff : OffsetOK t.off) :
    Trip ⟨genTables, ext⟩ .datetime .str (.str (Time.formatRFC3339 t)) (.str (Time.formatRFC3339 t))
      (.str (Time.formatRFC3339 t)) (.str (Time.formatRFC3339 t)) ∧
    Trip ⟨genTables, ext⟩ .datetime .bytes (.bytes (Time.formatRFC3339 t)) (.str (Time.formatRFC3339 t))
      (.str (Time.formatRFC3339 t)) (.bytes (Time.formatRFC3339 t)) := by
  have hp := parse_format_trunc t hy0 hy1 hoff
  have hs := toString_time ext (truncOff t) (by rw [year_truncOff]; exact hy0) (by rw [year_truncOff]; exact hy1)
  rw [formatRFC3339_truncOff t hoff.1] at hs
  exact ⟨⟨export_via rfl (toTime_str ext _ _ hp) hs nofun, importCell_cast rfl rfl (toString_str ext _) trivial⟩,
    ⟨export_via rfl (toTime_bytes ext _ _ hp) hs nofun, importCell_cast rfl rfl (toBinary_str ext _) trivial⟩⟩

/-- The offset that reaches the `Z07:00` verb must be one whose text is read back.  `hs`: an
    offset parsed from the raw text (whole minutes, at most 25 h by the parser) must not be
    exactly ±25 h (`±24:60`); `hzone`: the offsets of the process zone, used when the raw text is
    an integer text, must be `OffsetOK` (seconds are allowed).  Both are needed:
    `C05.offset_24_60_counterexample`, `datetime_zone_seconds_counterexample`. -/
theorem datetime_fixed_point (ext : Ext) (raw : Dyn) (s : Bytes) (ty : Ty) (e : Dyn)
    (hwt : (ty = .str ∧ raw = .str s) ∨ (ty = .bytes ∧ raw = .bytes s))
    (hzone : ∀ v off, ext.zoneOffset v = some off → OffsetOK off)
    (hs : ∀ t, Time.parseRFC3339 s = some t → t.off.natAbs ≠ 90000)
    (h : exportVal ⟨genTables, ext⟩ (.cell raw .datetime ty) = .ok e) :
    ∃ t, e = .str (Time.formatRFC3339 t) ∧ TimeFrom ext s t ∧
      JsonQuote.sanitize (Time.formatRFC3339 t) = Time.formatRFC3339 t ∧
      FixedPoint ⟨genTables, ext⟩ .datetime ty e (.str (JsonQuote.sanitize (Time.formatRFC3339 t))) := by
  have hraw : raw = .str s ∨ raw = .bytes s := by
    rcases hwt with ⟨_, h⟩ | ⟨_, h⟩
    · exact .inl h
    · exact .inr h
  obtain ⟨t, rfl, hfrom, h0, h1⟩ := datetime_text_export ext raw s ty e hraw h
  have hoff : OffsetOK t.off := by
    rcases hfrom with hp | ⟨v, off, hz, rfl⟩
    · have := Time.parseRFC3339_off hp
      have := hs t hp
      exact offsetOK_of_minutes (by omega) (by omega)
    · exact hzone v off hz
  obtain ⟨a, b⟩ := datetime_reread ext t h0 h1 hoff
  refine ⟨t, rfl, hfrom, sanitize_formatRFC3339 t, ?_⟩
  rw [sanitize_formatRFC3339]
  rcases hwt with ⟨rfl, _⟩ | ⟨rfl, _⟩
  · exact fixedPoint_of_trip a
  · exact fixedPoint_of_trip b

theorem datetime_fixed_point_whole_minutes (ext : Ext) (raw : Dyn) (s : Bytes) (ty : Ty) (e : Dyn)
    (hwt : (ty = .str ∧ raw = .str s) ∨ (ty = .bytes ∧ raw = .bytes s))
    (hzone : ∀ v off, ext.zoneOffset v = some off → off % 60 = 0 ∧ off.natAbs < 86400)
    (hs : ∀ t, Time.parseRFC3339 s = some t → t.off.natAbs < 86400)
    (h : exportVal ⟨genTables, ext⟩ (.cell raw .datetime ty) = .ok e) :
    ∃ d, e = .str d ∧ JsonQuote.sanitize d = d ∧
      FixedPoint ⟨genTables, ext⟩ .datetime ty e (.str (JsonQuote.sanitize d)) := by
  obtain ⟨t, he, _, hsan, hfp⟩ := datetime_fixed_point ext raw s ty e hwt
    (fun v off hz => offsetOK_of_minutes (hzone v off hz).1 (by have := (hzone v off hz).2; omega))
    (fun t ht => by have := hs t ht; omega) h
  exact ⟨_, he, hsan, hfp⟩

/-- `2000-01-01T00:00:00+24:60` — an offset `time.Parse` tolerates (hour ≤ 24, minute ≤ 60). -/
def text2460 : Bytes :=
  [0x32, 0x30, 0x30, 0x30, 0x2D, 0x30, 0x31, 0x2D, 0x30, 0x31, 0x54, 0x30, 0x30, 0x3A, 0x30, 0x30, 0x3A,
    0x30, 0x30, 0x2B, 0x32, 0x34, 0x3A, 0x36, 0x30]

/-- `2000-01-01T00:00:00+25:00` — what the `Z07:00` verb writes for that offset (90000 s). -/
def text2500 : Bytes :=
  [0x32, 0x30, 0x30, 0x30, 0x2D, 0x30, 0x31, 0x2D, 0x30, 0x31, 0x54, 0x30, 0x30, 0x3A, 0x30, 0x30, 0x3A,
    0x30, 0x30, 0x2B, 0x32, 0x35, 0x3A, 0x30, 0x30]

/-- 946594800 is 2000-01-01T00:00:00 at +25:00 (946684800 − 90000): the time `text2460` parses to. -/
theorem format_2460 : Time.formatRFC3339 ⟨946594800, 0, 90000⟩ = text2500 := by decide +kernel

def ext30 : Ext := { Ext.empty with zoneOffset := fun _ => some 30 }

/-- `1970-01-01T00:00:30+00:00` -/
def text0030p : Bytes :=
  [0x31, 0x39, 0x37, 0x30, 0x2D, 0x30, 0x31, 0x2D, 0x30, 0x31, 0x54, 0x30, 0x30, 0x3A, 0x30, 0x30, 0x3A,
    0x33, 0x30, 0x2B, 0x30, 0x30, 0x3A, 0x30, 0x30]

/-- `1970-01-01T00:00:30Z` -/
def text0030z : Bytes :=
  [0x31, 0x39, 0x37, 0x30, 0x2D, 0x30, 0x31, 0x2D, 0x30, 0x31, 0x54, 0x30, 0x30, 0x3A, 0x30, 0x30, 0x3A,
    0x33, 0x30, 0x5A]

theorem toTime_str_zero (ext : Ext) (off : Int) (hz : ext.zoneOffset 0 = some off) :
    castNamed genTables ext "ToTime" (.str [0x30]) = .ok (.time ⟨0, 0, off⟩) :=
  toTime_str_int ext [0x30] 0 off (by decide) (by decide) hz (by decide)

/-- **The hypothesis on the process zone is needed** (model level; no real zone has such an
    offset): in a zone 30 s east of UTC the raw string "0" (Unix second 0) is written
    `1970-01-01T00:00:30+00:00` — the verb prints the offset truncated to minutes, but `Z` only
    for offset 0 — which is read back and then written `1970-01-01T00:00:30Z`. -/
theorem datetime_zone_seconds_counterexample :
    exportVal ⟨genTables, ext30⟩ (.cell (.str [0x30]) .datetime .str) = .ok (.str text0030p) ∧
    importCell ⟨genTables, ext30⟩ .datetime .str (.str text0030p) =
      .ok (.cell (.str text0030p) .datetime .str, none) ∧
    exportVal ⟨genTables, ext30⟩ (.cell (.str text0030p) .datetime .str) = .ok (.str text0030z) ∧
    text0030p ≠ text0030z := by
  have hs1 := toString_time ext30 ⟨0, 0, 30⟩ (by decide +kernel) (by decide +kernel)
  have hs2 := toString_time ext30 ⟨30, 0, 0⟩ (by decide +kernel) (by decide +kernel)
  rw [show Time.formatRFC3339 ⟨0, 0, 30⟩ = text0030p by decide +kernel] at hs1
  rw [show Time.formatRFC3339 ⟨30, 0, 0⟩ = text0030z by decide +kernel] at hs2
  have hp : Time.parseRFC3339 text0030p = some ⟨30, 0, 0⟩ := by decide +kernel
  exact ⟨export_via rfl (toTime_str_zero ext30 30 rfl) hs1 nofun,
    importCell_cast rfl rfl (toString_str ext30 _) trivial,
    export_via rfl (toTime_str ext30 _ _ hp) hs2 nofun, by decide⟩

/-! Non-vacuity of `datetime_fixed_point` beyond the hypotheses of `Time.C14_parse_format`: the raw
    string `2000-01-01T00:00:00+24:00` (offset 86400 s). -/
def text2400 : Bytes :=
  [0x32, 0x30, 0x30, 0x30, 0x2D, 0x30, 0x31, 0x2D, 0x30, 0x31, 0x54, 0x30, 0x30, 0x3A, 0x30, 0x30, 0x3A,
    0x30, 0x30, 0x2B, 0x32, 0x34, 0x3A, 0x30, 0x30]

/-- 946598400 = 946684800 − 86400. -/
theorem parse_text2400 : Time.parseRFC3339 text2400 = some ⟨946598400, 0, 86400⟩ := by decide +kernel

theorem format_2400 : Time.formatRFC3339 ⟨946598400, 0, 86400⟩ = text2400 := by decide +kernel

example : exportVal ⟨genTables, Ext.empty⟩ (.cell (.str text2400) .datetime .str) = .ok (.str text2400) ∧
    FixedPoint ⟨genTables, Ext.empty⟩ .datetime .str (.str text2400) (.str (JsonQuote.sanitize text2400)) := by
  have hs := toString_time Ext.empty ⟨946598400, 0, 86400⟩ (by decide +kernel) (by decide +kernel)
  rw [format_2400] at hs
  have h : exportVal ⟨genTables, Ext.empty⟩ (.cell (.str text2400) .datetime .str) = .ok (.str text2400) :=
    export_via rfl (toTime_str Ext.empty _ _ parse_text2400) hs nofun
  refine ⟨h, ?_⟩
  obtain ⟨t, he, _, _, hfp⟩ := datetime_fixed_point Ext.empty _ text2400 .str _ (.inl ⟨rfl, rfl⟩)
    (fun v off hz => by cases hz)
    (fun t ht => by rw [parse_text2400] at ht; cases ht; decide) h
  rw [← Dyn.str.inj he] at hfp
  exact hfp

example : exportVal ⟨genTables, Ext.empty⟩ (.cell (.bytes text2400) .datetime .bytes) = .ok (.str text2400) ∧
    importCell ⟨genTables, Ext.empty⟩ .datetime .bytes (.str text2400) =
      .ok (.cell (.bytes text2400) .datetime .bytes, none) := by
  obtain ⟨_, ⟨b1, b2⟩⟩ := datetime_reread Ext.empty ⟨946598400, 0, 86400⟩ (by decide +kernel)
    (by decide +kernel) ⟨by decide, by decide⟩
  rw [format_2400] at b1 b2
  exact ⟨b1, b2⟩


/-- A process zone 9 min 21 s east of UTC (Paris local mean time, which tzdata carries). -/
def ext561 : Ext := { Ext.empty with zoneOffset := fun _ => some 561 }

/-! Non-vacuity of `hzone` with seconds: there the raw string "0" is written as 00:09:21 at `+00:09`. -/
example : ∃ d, exportVal ⟨genTables, ext561⟩ (.cell (.str [0x30]) .datetime .str) = .ok (.str d) ∧
    FixedPoint ⟨genTables, ext561⟩ .datetime .str (.str d) (.str (JsonQuote.sanitize d)) := by
  have hs := toString_time ext561 ⟨0, 0, 561⟩ (by decide +kernel) (by decide +kernel)
  have h : exportVal ⟨genTables, ext561⟩ (.cell (.str [0x30]) .datetime .str) =
      .ok (.str (Time.formatRFC3339 ⟨0, 0, 561⟩)) :=
    export_via rfl (toTime_str_zero ext561 561 rfl) hs nofun
  refine ⟨_, h, ?_⟩
  obtain ⟨t, he, _, _, hfp⟩ := datetime_fixed_point ext561 _ [0x30] .str _ (.inl ⟨rfl, rfl⟩)
    (fun v off hz => by
      simp only [ext561, Option.some.injEq] at hz
      subst hz
      exact ⟨by decide, by decide⟩)
    (fun t ht => by
      have : Time.parseRFC3339 [0x30] = none := by decide
      rw [this] at ht; cases ht) h
  rw [← Dyn.str.inj he] at hfp
  exact hfp

/-! ### 6. timestamp(json.Number), timestamp(float64), timestamp(float32)

ToTimestamp has no case for these types: its default clause is ToInt64, which parses the
literal as an integer, resp. truncates the float toward zero (rejecting NaN, ±Inf and values
outside int64).  The emitted int64 `n` comes back as the literal `formatInt n`, which is cast
to the raw type: for json.Number the literal is kept; for floats `strconv.ParseFloat(formatInt n)`
(a parameter of the model) must answer the float whose value is `n` — that float exists, since
`n` is the truncation of a float of the same precision; it is the nearest one, what ParseFloat
returns, whenever |n| ≤ 2^53 (2^24). -/

theorem parseInt0_range64 {s : Bytes} {n : Int} (h : IntText.parseInt0 s 64 = some n) :
    IntTy.i64.inRange n := by
  rw [IntText.parseInt0_eq_spec, Option.bind_eq_some_iff] at h
  obtain ⟨v, _, h⟩ := h
  simp only [Option.ite_none_right_eq_some, Option.some.injEq] at h
  obtain ⟨hr, rfl⟩ := h
  exact (inRange_signed_iff .i64 rfl v).mpr hr

theorem timestamp_float_export (ext : Ext) {src : Dyn} {x : FVal} (hx : fvalOf src = some x) (ty : Ty) (e : Dyn)
    (h : exportVal ⟨genTables, ext⟩ (.cell src .timestamp ty) = .ok e) :
    ∃ n frac neg, x = .fin n frac neg ∧ IntTy.i64.inRange n ∧ e = .int .i64 n := by
  have hc : castNamed genTables ext "ToTimestamp" src = .ok e :=
    export_single_inv rfl h (by cases src <;> cases hx <;> nofun)
  rw [toTimestamp_float ext hx] at hc
  split at hc
  · rename_i hf
    cases x with
    | fin tr frac neg => exact ⟨tr, frac, neg, rfl, hf.1, (Outcome.ok.inj hc).symm⟩
    | nan => exact absurd hf id
    | inf n => exact absurd hf id
  · cases hc

theorem toTimestamp_float_exact (ext : Ext) {src : Dyn} {n : Int} {neg : Bool}
    (hx : fvalOf src = some (.fin n false neg)) (hr : IntTy.i64.inRange n) :
    castNamed genTables ext "ToTimestamp" src = .ok (.int .i64 n) := by
  rw [toTimestamp_float ext hx, if_pos ⟨hr, by simp⟩]
  rfl

theorem timestamp_floatT (ext : Ext) (T : FT) (x : Nat) (e : Dyn)
    (h : exportVal ⟨genTables, ext⟩ (.cell (T.dyn x) .timestamp T.ty) = .ok e) :
    ∃ n, (∃ frac neg, Float.toFVal T.fmt x = .fin n frac neg) ∧ IntTy.i64.inRange n ∧ e = .int .i64 n ∧
      ∀ r neg, ext.parseFloat (IntText.formatInt n) T.bits = some (some r) →
        Float.toFVal T.fmt (T.narrow r) = .fin n false neg →
        importCell ⟨genTables, ext⟩ .timestamp T.ty (.num (IntText.formatInt n)) =
          .ok (.cell (T.dyn (T.narrow r)) .timestamp T.ty, none) ∧
        exportVal ⟨genTables, ext⟩ (.cell (T.dyn (T.narrow r)) .timestamp T.ty) = .ok (.int .i64 n) := by
  obtain ⟨n, frac, neg, hx, hr, rfl⟩ := timestamp_float_export ext (fvalOf_dyn T x) T.ty e h
  refine ⟨n, ⟨frac, neg, hx⟩, hr, rfl, fun r negy hp hy => ?_⟩
  exact ⟨importCell_typed rfl ((castTo_float_num ext T _).trans (parsedAs_ok hp)) trivial T.ty_ne_none,
    export_single rfl (toTimestamp_float_exact ext ((fvalOf_dyn T _).trans (congrArg some hy)) hr) (dyn_ne_nil T _)⟩

theorem timestamp_num (ext : Ext) (l : Bytes) (e : Dyn)
    (h : exportVal ⟨genTables, ext⟩ (.cell (.num l) .timestamp .num) = .ok e) :
    ∃ n, IntText.parseInt0 l 64 = some n ∧ IntTy.i64.inRange n ∧ e = .int .i64 n ∧
      importCell ⟨genTables, ext⟩ .timestamp .num (.num (IntText.formatInt n)) =
        .ok (.cell (.num (IntText.formatInt n)) .timestamp .num, none) ∧
      exportVal ⟨genTables, ext⟩ (.cell (.num (IntText.formatInt n)) .timestamp .num) = .ok (.int .i64 n) := by
  have hc := export_single_inv rfl h nofun
  rw [toTimestamp_num] at hc
  cases hp : IntText.parseInt0 l 64 with
  | none => rw [hp] at hc; cases hc
  | some n =>
    rw [hp] at hc
    injection hc with hc
    subst hc
    have hr := parseInt0_range64 hp
    exact ⟨n, rfl, hr, rfl, importCell_typed rfl (castTo_self ext rfl nofun) trivial nofun,
      export_single rfl (by rw [toTimestamp_num, parseInt0_formatInt_i64 n hr]) nofun⟩



theorem timestamp_num_fixed_point (ext : Ext) (l : Bytes) (e : Dyn)
    (h : exportVal ⟨genTables, ext⟩ (.cell (.num l) .timestamp .num) = .ok e) :
    ∃ n, e = .int .i64 n ∧ FixedPoint ⟨genTables, ext⟩ .timestamp .num e (.num (IntText.formatInt n)) := by
  obtain ⟨n, _, _, rfl, a1, a2⟩ := timestamp_num ext l e h
  exact ⟨n, rfl, _, a1, a2⟩

/-- The stdlib answer as a hypothesis, in the style of `Pairings.text_f64`: ParseFloat(text of n, 64)
    is Go's `float64(n)`, which is exactly `n` for |n| ≤ 2^53 (`Float.toFVal_ofInt_f64_le`). -/
theorem timestamp_f64_exact (ext : Ext) (x : Nat) (e : Dyn)
    (h : exportVal ⟨genTables, ext⟩ (.cell (.f64 x) .timestamp .f64) = .ok e) :
    ∃ n, e = .int .i64 n ∧
      (n.natAbs ≤ 2 ^ 53 →
        ext.parseFloat (IntText.formatInt n) 64 = some (some (Float.ofInt Float.f64 n)) →
        FixedPoint ⟨genTables, ext⟩ .timestamp .f64 e (.num (IntText.formatInt n))) := by
  obtain ⟨n, _, _, rfl, a⟩ := timestamp_floatT ext .f64 x e h
  exact ⟨n, rfl, fun hb hp => ⟨_, a _ _ hp (toFVal_ofInt_f64_le n hb)⟩⟩

theorem timestamp_f32_exact (ext : Ext) (x : Nat) (e : Dyn)
    (h : exportVal ⟨genTables, ext⟩ (.cell (.f32 x) .timestamp .f32) = .ok e) :
    ∃ n, e = .int .i64 n ∧
      (n.natAbs ≤ 2 ^ 24 → ∀ r,
        ext.parseFloat (IntText.formatInt n) 32 = some (some r) →
        Float.f64to32 r = Float.ofInt Float.f32 n →
        FixedPoint ⟨genTables, ext⟩ .timestamp .f32 e (.num (IntText.formatInt n))) := by
  obtain ⟨n, _, _, rfl, a⟩ := timestamp_floatT ext .f32 x e h
  exact ⟨n, rfl, fun hb r hp hr => ⟨_, a r _ hp ((congrArg _ hr).trans (toFVal_ofInt_f32_le n hb))⟩⟩

/-! Non-vacuity: the json.Number `0x1F` (ParseInt base 0 reads 31; read back as `31`); the float64
    1.5 (written 1, read back as 1.0 under `digitExt`); the float32 2.5 (written 2, under `twoExt`). -/
example : exportVal ⟨genTables, Ext.empty⟩ (.cell (.num [0x30, 0x78, 0x31, 0x46]) .timestamp .num) = .ok (.int .i64 31) ∧
    importCell ⟨genTables, Ext.empty⟩ .timestamp .num (.num [0x33, 0x31]) =
      .ok (.cell (.num [0x33, 0x31]) .timestamp .num, none) ∧
    exportVal ⟨genTables, Ext.empty⟩ (.cell (.num [0x33, 0x31]) .timestamp .num) = .ok (.int .i64 31) := by
  have hp : IntText.parseInt0 [0x30, 0x78, 0x31, 0x46] 64 = some 31 := by decide
  have h : exportVal ⟨genTables, Ext.empty⟩ (.cell (.num [0x30, 0x78, 0x31, 0x46]) .timestamp .num) =
      .ok (.int .i64 31) :=
    export_single rfl (by rw [toTimestamp_num, hp]) nofun
  obtain ⟨n, hn, _, he, a1, a2⟩ := timestamp_num Ext.empty _ _ h
  injection he with _ he
  subst he
  rw [show IntText.formatInt 31 = [0x33, 0x31] by decide +kernel] at a1 a2
  exact ⟨h, a1, a2⟩

theorem toTimestamp_f64_one_and_half (ext : Ext) :
    castNamed genTables ext "ToTimestamp" (.f64 0x3FF8000000000000) = .ok (.int .i64 1) := by
  have hv : Float.toFVal Float.f64 0x3FF8000000000000 = .fin 1 true false := by decide
  rw [toTimestamp_float ext (src := .f64 0x3FF8000000000000) rfl, hv]
  rfl

example : exportVal ⟨genTables, digitExt⟩ (.cell (.f64 0x3FF8000000000000) .timestamp .f64) = .ok (.int .i64 1) ∧
    importCell ⟨genTables, digitExt⟩ .timestamp .f64 (.num [0x31]) =
      .ok (.cell (.f64 0x3FF0000000000000) .timestamp .f64, none) ∧
    exportVal ⟨genTables, digitExt⟩ (.cell (.f64 0x3FF0000000000000) .timestamp .f64) = .ok (.int .i64 1) := by
  have h : exportVal ⟨genTables, digitExt⟩ (.cell (.f64 0x3FF8000000000000) .timestamp .f64) =
      .ok (.int .i64 1) :=
    export_single rfl (toTimestamp_f64_one_and_half digitExt) nofun
  obtain ⟨n, _, _, he, a⟩ := timestamp_floatT digitExt .f64 _ _ h
  injection he with _ he
  subst he
  rw [show IntText.formatInt 1 = [0x31] by decide +kernel] at a
  have := a 0x3FF0000000000000 false (by simp [digitExt]) (by decide)
  exact ⟨h, this.1, this.2⟩

/-- A ParseFloat that knows "2" at bit size 32 (2.0). -/
def twoExt : Ext :=
  { Ext.empty with
    parseFloat := fun s bits => if s = [0x32] ∧ bits = 32 then some (some 0x4000000000000000) else none }

theorem toTimestamp_f32_two_and_half (ext : Ext) :
    castNamed genTables ext "ToTimestamp" (.f32 0x40200000) = .ok (.int .i64 2) := by
  have hv : Float.toFVal Float.f32 0x40200000 = .fin 2 true false := by decide
  rw [toTimestamp_float ext (src := .f32 0x40200000) rfl, hv]
  rfl

example : exportVal ⟨genTables, twoExt⟩ (.cell (.f32 0x40200000) .timestamp .f32) = .ok (.int .i64 2) ∧
    importCell ⟨genTables, twoExt⟩ .timestamp .f32 (.num [0x32]) =
      .ok (.cell (.f32 0x40000000) .timestamp .f32, none) ∧
    exportVal ⟨genTables, twoExt⟩ (.cell (.f32 0x40000000) .timestamp .f32) = .ok (.int .i64 2) := by
  have h : exportVal ⟨genTables, twoExt⟩ (.cell (.f32 0x40200000) .timestamp .f32) = .ok (.int .i64 2) :=
    export_single rfl (toTimestamp_f32_two_and_half twoExt) nofun
  obtain ⟨n, _, _, he, a⟩ := timestamp_floatT twoExt .f32 _ _ h
  simp only [FT.dyn, FT.ty, FT.fmt, FT.narrow, FT.bits] at a
  injection he with _ he
  subst he
  have e2 : Float.f64to32 0x4000000000000000 = 0x40000000 := by decide
  rw [show IntText.formatInt 2 = [0x32] by decide +kernel] at a
  have := a 0x4000000000000000 false (by simp [twoExt]) (by rw [e2]; decide)
  rw [e2] at this
  exact ⟨h, this.1, this.2⟩

/-! ### 7. numeric(string), numeric([]byte)

ToNumber of a string / []byte is the json.Number with that text (no check: it is json.Marshal
that refuses an invalid literal, so a line is emitted only for valid ones); the literal is
read back as the same text with the same Go type.  `Tables.lossless` does not list the two
pairings, because a text that is not a number is refused. -/

/-- First conjunct: a valid JSON number — the only case in which a line is emitted — is consumed
    verbatim by the reader's scanner. -/
theorem numeric_text (ext : Ext) (s : Bytes) :
    (JsonWrite.isValidNumber s = true → Json.scanNumber s = some (s, [])) ∧
    Trip ⟨genTables, ext⟩ .numeric .str (.str s) (.num s) (.num s) (.str s) ∧
    Trip ⟨genTables, ext⟩ .numeric .bytes (.bytes s) (.num s) (.num s) (.bytes s) := by
  exact ⟨(IntText.isValidNumber_iff_scanNumber s).mp,
    ⟨export_single rfl (toNumber_str ext s) nofun, importCell_cast rfl rfl (toString_num ext s) trivial⟩,
    ⟨export_single rfl (toNumber_bytes ext s) nofun, importCell_cast rfl rfl (toBinary_num ext s) trivial⟩⟩

/-- For `s = []` what the reader delivers is not `.num []` (json.Marshal writes `0`): that text is
    `numeric_str_empty`. -/
theorem numeric_text_fixed_point (ext : Ext) (s : Bytes) :
    (∃ e, exportVal ⟨genTables, ext⟩ (.cell (.str s) .numeric .str) = .ok e ∧ e = .num s ∧
      FixedPoint ⟨genTables, ext⟩ .numeric .str e e) ∧
    (∃ e, exportVal ⟨genTables, ext⟩ (.cell (.bytes s) .numeric .bytes) = .ok e ∧ e = .num s ∧
      FixedPoint ⟨genTables, ext⟩ .numeric .bytes e e) := by
  obtain ⟨_, ⟨a1, a2⟩, ⟨b1, b2⟩⟩ := numeric_text ext s
  exact ⟨⟨_, a1, rfl, _, a2, a1⟩, ⟨_, b1, rfl, _, b2, b1⟩⟩

/-- The one text for which the bytes written differ from the literal: the empty string is
    exported as the json.Number "", which json.Marshal writes as `0`; `0` is read back as the
    string "0" and written `0` again — a fixed point of the line, but the raw value "" has
    become "0". -/
theorem numeric_str_empty (ext : Ext) (raw : Dyn) :
    exportVal ⟨genTables, ext⟩ (.cell (.str []) .numeric .str) = .ok (.num []) ∧
    RowPrint.marshalExported ⟨genTables, ext⟩ (.num []) raw = .ok [0x30] ∧
    importCell ⟨genTables, ext⟩ .numeric .str (.num [0x30]) = .ok (.cell (.str [0x30]) .numeric .str, none) ∧
    exportVal ⟨genTables, ext⟩ (.cell (.str [0x30]) .numeric .str) = .ok (.num [0x30]) ∧
    RowPrint.marshalExported ⟨genTables, ext⟩ (.num [0x30]) raw = .ok [0x30] := by
  obtain ⟨_, ⟨a1, _⟩, _⟩ := numeric_text ext []
  obtain ⟨_, ⟨b1, b2⟩, _⟩ := numeric_text ext [0x30]
  refine ⟨a1, ?_, b2, b1, ?_⟩
  · simp [marshalExported_num]
  · have : JsonWrite.isValidNumber [0x30] = true := by decide
    simp [marshalExported_num, this]

/-! Non-vacuity: the string `-1.5e+3` under numeric(string). -/
example : exportVal ⟨genTables, Ext.empty⟩ (.cell (.str [0x2D, 0x31, 0x2E, 0x35, 0x65, 0x2B, 0x33]) .numeric .str) =
      .ok (.num [0x2D, 0x31, 0x2E, 0x35, 0x65, 0x2B, 0x33]) ∧
    importCell ⟨genTables, Ext.empty⟩ .numeric .str (.num [0x2D, 0x31, 0x2E, 0x35, 0x65, 0x2B, 0x33]) =
      .ok (.cell (.str [0x2D, 0x31, 0x2E, 0x35, 0x65, 0x2B, 0x33]) .numeric .str, none) :=
  (numeric_text Ext.empty _).2.1.and

end Jl.SelfReadable
