/-
  Proofs.CastBin — the binary form of fixed-width values in the regenerated tables (ToBinary's clauses, the xToBytes /
  xFromBytes functions of binary_ops.go, the `[]byte` clauses of the numeric casters and cast.To's dispatch).  Over an
  arbitrary table: what `binPut` / `binGet` do for a function of the expected shape, and which function a
  `cast.To(T, []byte)` ends in.  The tables of the current source are checked once, type by type, by kernel evaluation,
  and the results are closed with the little-endian lemmas of Proofs.LE.  That `decoded` undoes `leImage` is a fact
  about `LE` alone; the converse, `leImage_decoded`, is in Proofs.LineBinary.
-/
import Model.CastGen
import Model.CastSpec
import Proofs.LE
import Proofs.CastEval

namespace Jl
open Cast CastSpec
open CastTyped (allTys mem_allTys)

theorem IntTy.eight_mul_bytes (t : IntTy) : 8 * (t.bits / 8) = t.bits := by cases t <;> rfl

/-! ### Encoding -/

/-- The number `binPut` writes: two's complement on 64 bits, the IEEE bits, 0 / 1. -/
def binImage : Dyn → Option Nat
  | .int _ x => some (LE.toU 64 x)
  | .f64 b => some b
  | .f32 b => some b
  | .bool b => some (if b then 1 else 0)
  | _ => none

def putsLE (ty : Ty) (n : Nat) : BinFn → Bool
  | .put size order width => ty != .bool && size == n && order == "LittleEndian" && width == 8 * n
  | .put1 size => ty != .bool && size == 1 && n == 1
  | .putBool size => ty == .bool && size == 1 && n == 1
  | _ => false

theorem binPut_putsLE {f : BinFn} {v : Dyn} {n u : Nat} (h : putsLE (typeOf v) n f = true)
    (hu : binImage v = some u) : binPut f v = .ok (.bytes (LE.put n u)) := by
  unfold putsLE at h
  split at h
  · rename_i size order width
    simp only [Bool.and_eq_true, beq_iff_eq] at h
    obtain ⟨⟨⟨_, hs⟩, ho⟩, hw⟩ := h
    subst size order width
    have hne : ((LE.put n (u % 2 ^ (8 * n))).isEmpty && n != 0) = false := by
      cases n <;> simp [LE.put]
    cases v <;> cases hu
    all_goals
      simp only [binPut, Nat.mul_div_cancel_left n (by decide : 0 < 8), Nat.lt_irrefl, if_false,
        beq_self_eq_true, if_true, hne, Bool.false_eq_true, Nat.sub_self, List.replicate_zero,
        List.append_nil]
      rw [← LE.pow256, LE.put_mod]
  · simp only [Bool.and_eq_true, beq_iff_eq] at h
    obtain ⟨⟨_, rfl⟩, rfl⟩ := h
    cases v <;> cases hu <;> rfl
  · simp only [Bool.and_eq_true, beq_iff_eq] at h
    obtain ⟨⟨hb, rfl⟩, rfl⟩ := h
    cases v <;> cases hb
    cases hu
    rename_i b
    cases b <;> rfl
  · cases h

theorem leImage_eq_put {v : Dyn} {n u : Nat} (hn : fixedSize (typeOf v) = some n)
    (hu : binImage v = some u) : leImage v = some (LE.put n u) := by
  cases v <;> cases hu <;> cases hn
  · rename_i t x
    have := LE.put_toU (n := t.bits / 8) (a := 64) (by rw [t.eight_mul_bytes]; cases t <;> decide) x
    rw [t.eight_mul_bytes] at this
    rw [leImage, this]
  · rfl
  · rfl
  · rename_i b
    cases b <;> rfl

/-- A clause of ToBinary of the form `return xToBytes(val)`. -/
def encodesLE (T : CastTables) (ty : Ty) (n : Nat) : Branch → Bool
  | .ret (.call fn .val) => ((T.binFns.find? (fun p => p.1 == fn)).map (·.2)).any (putsLE ty n)
  | _ => false

theorem evalBranch_encodesLE {T : CastTables} {br : Branch} {v : Dyn} {n : Nat} {img : Bytes}
    (h : encodesLE T (typeOf v) n br = true) (hn : fixedSize (typeOf v) = some n)
    (himg : leImage v = some img) (ext : Ext) (fuel : Nat) (self : String) :
    evalBranch T ext (fuel + 1) self br v = .ok (.bytes img) := by
  unfold encodesLE at h
  split at h
  · obtain ⟨f, hf, hput⟩ := (Option.any_eq_true _ _).mp h
    obtain ⟨p, hp, rfl⟩ := Option.map_eq_some_iff.mp hf
    obtain ⟨u, hu⟩ : ∃ u, binImage v = some u := by
      cases v <;> first | exact ⟨_, rfl⟩ | cases hn
    rw [leImage_eq_put hn hu] at himg
    cases himg
    simp only [evalBranch, evalE, hp, binPut_putsLE hput hu]
  · cases h

theorem encode_leImage (ext : Ext) {v : Dyn} {n : Nat} {img : Bytes}
    (hn : fixedSize (typeOf v) = some n) (himg : leImage v = some img) :
    castNamed genTables ext "ToBinary" v = .ok (.bytes img) := by
  have h : ∀ ty ∈ allTys, ∀ n ∈ fixedSize ty,
      ((clauseOf genTables "ToBinary" ty).any (encodesLE genTables ty n)) = true := by
    decide +kernel
  obtain ⟨br, hbr, henc⟩ := (Option.any_eq_true _ _).mp (h _ (mem_allTys _) n hn)
  rw [castNamed_clause hbr]
  exact evalBranch_encodesLE henc hn himg ext 22 _

theorem encode_bool (ext : Ext) (b : Bool) :
    castNamed genTables ext "ToBinary" (.bool b) = .ok (.bytes [if b then 1 else 0]) :=
  encode_leImage ext (v := .bool b) rfl rfl

/-! ### Decoding -/

/-- `cast.To(T, []byte)` goes to `ToX`, whose `[]byte` clause hands over to a `xFromBytes`
    function of binary_ops.go: that function. -/
def decoderOf (T : CastTables) (ty : Ty) : Option BinFn :=
  match dispatchOf T ty with
  | .tail name .val =>
    match clauseOf T name .bytes with
    | some (.tail fn .val) =>
      if (T.casters.find? (fun c => c.name == fn)).isNone then
        (T.binFns.find? (fun p => p.1 == fn)).map (·.2)
      else none
    | _ => none
  | _ => none

theorem castTo_decoderOf {T : CastTables} {ty : Ty} {f : BinFn} (h : decoderOf T ty = some f)
    (ext : Ext) (s : Bytes) : castTo T ext ty (.bytes s) = binGet T f (.bytes s) := by
  unfold decoderOf at h
  split at h
  · rename_i name hd
    split at h
    · rename_i fn hc
      split at h
      · rename_i hno
        obtain ⟨p, hp, rfl⟩ := Option.map_eq_some_iff.mp h
        rw [castTo_clause hd (v := .bytes s) hc, evalBranch_tail,
          callNamed_binFn (Option.isNone_iff_eq_none.mp hno) hp]
      · cases h
    · cases h
  · cases h

theorem get_lt_bits (t : IntTy) {s : Bytes} (hl : s.length = t.bits / 8) : LE.get s < 2 ^ t.bits := by
  have := LE.get_lt s
  rwa [hl, LE.pow256, t.eight_mul_bytes] at this

def IntTy.ofBits (t : IntTy) (u : Nat) : Int := if t.signed then LE.ofU t.bits u else u

theorem IntTy.inRange_ofBits (t : IntTy) {u : Nat} (h : u < 2 ^ t.bits) : t.inRange (t.ofBits u) := by
  unfold IntTy.ofBits
  cases hs : t.signed with
  | true => exact (inRange_signed_iff t hs _).mpr (LE.ofU_range t.bits _ (Nat.pos_of_ne_zero (bits_pos t)) h)
  | false =>
    have hc : ((2 ^ t.bits : Nat) : Int) = (2 : Int) ^ t.bits := by simp
    exact (inRange_unsigned_iff t hs _).mpr ⟨by simp, by simp only [Bool.false_eq_true, if_false]; omega⟩

theorem IntTy.ofBits_toU (t : IntTy) {v : Int} (h : t.inRange v) : t.ofBits (LE.toU t.bits v) = v := by
  unfold IntTy.ofBits
  cases hs : t.signed with
  | true =>
    have hr := (inRange_signed_iff t hs v).mp h
    exact LE.ofU_toU t.bits v (Nat.pos_of_ne_zero (bits_pos t)) hr.1 hr.2
  | false =>
    have hr := (inRange_unsigned_iff t hs v).mp h
    simp only [Bool.false_eq_true, if_false, LE.toU_of_nonneg t.bits v hr.1 hr.2]
    omega

theorem IntTy.toU_ofBits (t : IntTy) {u : Nat} (h : u < 2 ^ t.bits) : LE.toU t.bits (t.ofBits u) = u := by
  unfold IntTy.ofBits
  cases t.signed with
  | true => exact LE.toU_ofU t.bits u h
  | false => exact LE.toU_natCast t.bits u h

-- In the namespace of Proofs.LineBinary, whose statements name it; it stands here because `decode_fixed`,
-- below that module, is stated with it.
namespace LineBinary

/-- What a fixed-width type reads from a byte string of its width: the little-endian integer (two's complement for the
    signed types), the IEEE bit pattern, for bool whether the byte is non-zero. -/
def decoded : Ty → Bytes → Dyn
  | .int t, bs => .int t (t.ofBits (LE.get bs))
  | .f64, bs => .f64 (LE.get bs)
  | .f32, bs => .f32 (LE.get bs)
  | .bool, bs => .bool (bs.headD 0 != 0)
  | _, _ => .nil

end LineBinary
open LineBinary (decoded)

theorem ofUnsigned_decoded {ty : Ty} {n : Nat} (hn : fixedSize ty = some n) (hb : ty ≠ .bool) {s : Bytes}
    (hl : s.length = n) : ofUnsigned ty (8 * n) (LE.get s) = some (decoded ty s) := by
  cases ty with
  | int t =>
    cases hn
    have hw := wrap_of_inRange t _ (t.inRange_ofBits (get_lt_bits t hl))
    unfold IntTy.ofBits at hw
    simp only [ofUnsigned, t.eight_mul_bytes, decoded, IntTy.ofBits]
    cases hs : t.signed <;> simp only [hs, Bool.false_eq_true, if_false, if_true] at hw ⊢ <;> rw [hw]
  | f64 => rfl
  | f32 => rfl
  | bool => exact absurd rfl hb
  | _ => cases hn

def getsLE (T : CastTables) (ty : Ty) (n : Nat) : BinFn → Bool
  | .get size order width res _ s =>
    ty != .bool && size == n && order == "LittleEndian" && width == 8 * n && res == ty &&
      wrapsRoot T.sentinels 4 s
  | .get1 size res s => ty != .bool && size == 1 && n == 1 && res == ty && wrapsRoot T.sentinels 4 s
  | .getBool size s => ty == .bool && size == 1 && n == 1 && wrapsRoot T.sentinels 4 s
  | _ => false

theorem binGet_getsLE {T : CastTables} {ty : Ty} {n : Nat} {f : BinFn} (h : getsLE T ty n f = true)
    (hn : fixedSize ty = some n) (s : Bytes) :
    binGet T f (.bytes s) = if s.length = n then .ok (decoded ty s) else .err .cast := by
  unfold getsLE at h
  split at h
  · rename_i size order width res _ sent
    simp only [Bool.and_eq_true, beq_iff_eq, bne_iff_ne, ne_eq] at h
    obtain ⟨⟨⟨⟨⟨hb, h1⟩, h2⟩, h3⟩, h4⟩, hs⟩ := h
    subst size order width res
    by_cases hl : s.length = n
    · have ht : s.take n = s := by rw [← hl, List.take_length]
      simp [binGet, hl, ht, ofUnsigned_decoded hn hb hl]
    · simp [binGet, hl, failWith_of_wraps hs]
  · rename_i size res sent
    simp only [Bool.and_eq_true, beq_iff_eq, bne_iff_ne, ne_eq] at h
    obtain ⟨⟨⟨⟨hb, h1⟩, h2⟩, h3⟩, hs⟩ := h
    subst size n res
    match s with
    | [] | _ :: _ :: _ => simp [binGet, failWith_of_wraps hs]
    | [b] =>
      have := ofUnsigned_decoded hn hb (s := [b]) rfl
      simp only [LE.get, Nat.mul_one, Nat.mul_zero, Nat.add_zero] at this
      simp [binGet, this]
  · simp only [Bool.and_eq_true, beq_iff_eq] at h
    obtain ⟨⟨⟨rfl, rfl⟩, rfl⟩, hs⟩ := h
    match s with
    | [] | [b] | _ :: _ :: _ => simp [binGet, failWith_of_wraps hs, decoded]
  · cases h

theorem decode_fixed (ext : Ext) {ty : Ty} {n : Nat} (hn : fixedSize ty = some n) (s : Bytes) :
    castTo genTables ext ty (.bytes s) = if s.length = n then .ok (decoded ty s) else .err .cast := by
  have h : ∀ ty ∈ allTys, ∀ n ∈ fixedSize ty, (decoderOf genTables ty).any (getsLE genTables ty n) = true := by
    decide +kernel
  obtain ⟨f, hf, hget⟩ := (Option.any_eq_true _ _).mp (h _ (mem_allTys _) n hn)
  rw [castTo_decoderOf hf, binGet_getsLE hget hn]

theorem decode_bool (ext : Ext) (s : Bytes) :
    castTo genTables ext .bool (.bytes s) =
      match s with
      | [b] => .ok (.bool (b != 0))
      | _ => .err .cast := by
  rw [decode_fixed ext (ty := .bool) rfl]
  match s with
  | [] | [b] | _ :: _ :: _ => simp [decoded]

/-- A value of a fixed-width type as Go holds it. -/
def FixedVal : Dyn → Prop
  | .int t v => t.inRange v
  | .f64 b => b < 2 ^ 64
  | .f32 b => b < 2 ^ 32
  | .bool _ => True
  | _ => False

theorem decoded_leImage {v : Dyn} {img : Bytes} (hv : FixedVal v) (himg : leImage v = some img) :
    decoded (typeOf v) img = v := by
  cases v <;> cases himg <;> simp only [typeOf, decoded]
  · rename_i t v
    rw [LE.get_put_of_lt _ _ (by rw [LE.pow256, t.eight_mul_bytes]; exact LE.toU_lt _ v), t.ofBits_toU hv]
  · rw [LE.get_put_of_lt 8 _ (by simpa [FixedVal] using hv)]
  · rw [LE.get_put_of_lt 4 _ (by simpa [FixedVal] using hv)]
  · rename_i b; cases b <;> rfl

theorem decode_encode (ext : Ext) {v : Dyn} {n : Nat} {img : Bytes} (hn : fixedSize (typeOf v) = some n)
    (himg : leImage v = some img) (hv : FixedVal v) :
    castTo genTables ext (typeOf v) (.bytes img) = .ok v := by
  have hl : img.length = n := by
    cases v <;> cases himg <;> cases hn <;> first | exact LE.put_length _ _ | rfl
  rw [decode_fixed ext hn, if_pos hl, decoded_leImage hv himg]

end Jl
