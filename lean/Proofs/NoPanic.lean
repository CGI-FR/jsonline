/-
  Proofs.NoPanic — C17, model side: no modelled operation of values, rows, templates, importers, exporters, paths or
  streamers returns `Outcome.panic`, whatever the key, index, path or data, over the cast tables generated from the
  source (`genTables`) and for every `Ext`.

  The only panic sites of the models are
    * `Cast.binPut` / `Cast.binGet` (index expressions of binary_ops.go) — excluded by
      `CastTyped.gen_cast_no_panic` / `gen_castTo_no_panic`;
    * `Value.importFromBinary`: `str.(string)` on `ToString`'s result — reached only with a non-nil source
      (`importCell` returns before for nil, as `value.Import` does), for which `CasterFacts.toString_ok` gives a Go
      string;
    * `Value.exportVal`, Binary format: `b.([]byte)` on `ToBinary`'s result — reached only with a non-nil raw value
      (`Export` returns nil before), for which `ToBinary` gives a `[]byte` (`CasterFacts.exportCell_typed`).
  (`MapTo.mapTo` has three more, the single-value assertions `i.(int64)` …: Proofs.MapTo, `mapTo_no_panic`.)
  Everything else propagates: an operation is a `bind` of its calls (Proofs.Bind), and a `bind` of outcomes that do not
  panic does not.  The proofs follow the recursion of the definitions: fuel (`Stream.loop`, `ofYaml`, `ofInline`),
  lists, walks, and the mutual structural recursions of `exportVal` and `marshalDyn`.
-/
import Model.Template
import Model.Path
import Model.Stream
import Model.Jl
import Proofs.CastTyped
import Proofs.CasterFacts
import Proofs.Order
import Proofs.Walk
import Proofs.Bind
import Proofs.PathWalk

namespace Jl.NoPanic
open Jl Jl.Value Cast CastTyped
open Jl.CasterFacts (Yields exportCell_typed)

def NP {α : Type} (o : Outcome α) : Prop := ∀ s, o ≠ .panic s

theorem np_ok {α : Type} (a : α) : NP (Outcome.ok a) := fun _ h => by cases h
theorem np_err {α : Type} (e : ErrClass) : NP (Outcome.err e : Outcome α) := fun _ h => by cases h

theorem NP.bind {α β : Type} {o : Outcome α} {f : α → Outcome β} (h : NP o)
    (hf : ∀ a, o = .ok a → NP (f a)) : NP (o.bind f) := fun s hp => by
  rcases Outcome.bind_eq_panic.1 hp with ho | ⟨a, ha, hfa⟩
  · exact h s ho
  · exact hf a ha s hfa

/-- The nil guard of `importCell` (`value.Import` returns before for a nil value) is what keeps
    the assertion `str.(string)` safe: the unexported `importFromBinary` itself panics on nil. -/
theorem importFromBinary_nil (ext : Ext) (typ : Ty) :
    importFromBinary ⟨genTables, ext⟩ .nil typ =
      .panic "interface conversion: interface {} is nil, not string" := by
  unfold importFromBinary
  simp only [gen_cast_nil ext "ToString" (by simp [casterNames]), importFail]

theorem np_importPanic (ext : Ext) {typ : Ty} {x : Dyn} (hx : x ≠ .nil) (s : String) :
    ¬ Order.ImportPanic ⟨genTables, ext⟩ typ x s := by
  rintro (⟨n, h⟩ | ⟨v, h⟩ | ⟨r, h, hr⟩)
  · exact gen_cast_no_panic ext n x s h
  · exact gen_castTo_no_panic ext typ v s h
  · obtain ⟨b, rfl⟩ := CasterFacts.toString_ok ext hx h
    exact hr b rfl

/-! ### Classes of failures, from cells to lines

  The importer, the row constructors and the exporter create no failure of their own beyond the fuel marker
  `.err .ext`: they hand on those of `importCell`, `newValue` and `marshalRow` (`Leaves`).  So a class of failures
  (`Within Q P`) that holds those holds every failure of `importInto`, … , `jlLine`, in any environment.  "No panic" over
  the regenerated tables is the class `leaves_np` below; "the only `.err` is the EXT marker" is `LineAccept.leaves_ext`. -/

section Classes
open Template
variable {Q : ErrClass → Prop} {P : String → Prop} {env : Env}

theorem within_importStep {imp : Val → Dyn → Outcome (Val × Option ErrClass)}
    (himp : ∀ c x, Within Q P (imp c x)) (p : Option Val) (x : Dyn) :
    Within Q P (importStep imp p x) := by
  cases p with
  | none => trivial
  | some c => exact himp c x

theorem within_importAtKeyWith {imp : Val → Dyn → Outcome (Val × Option ErrClass)}
    (himp : ∀ c x, Within Q P (imp c x)) (o : List (Bytes × Val)) (k : Bytes) (x : Dyn) :
    Within Q P (importAtKeyWith imp o k x) := by
  rw [importAtKeyWith_eq_store]
  exact store_within (within_importStep himp) o k x

theorem within_importSliceWith {imp : Val → Dyn → Outcome (Val × Option ErrClass)}
    (himp : ∀ c x, Within Q P (imp c x)) (xs : List Dyn) :
    ∀ (o : List (Bytes × Val)) (i : Nat), Within Q P (importSliceWith imp o i xs) := by
  induction xs with
  | nil => intro o i; trivial
  | cons x xs ih =>
    intro o i
    unfold importSliceWith
    split
    · exact ih _ _
    · exact within_importAtKeyWith himp _ _ _

theorem within_importMapWith {imp : Val → Dyn → Outcome (Val × Option ErrClass)}
    (himp : ∀ c x, Within Q P (imp c x)) (o : List (Bytes × Val)) (kvs : List (Bytes × Dyn)) :
    Within Q P (importMapWith imp o kvs) := by
  rw [importMapWith_eq_walk]
  exact walk.within (within_importStep himp) kvs o

/-- Where failures come from: the fuel marker, `Value.Import` of a scalar, `NewValue`, and the
    printer (whose `.err` the exporter reports as the line's error, so only its panic counts). -/
structure Leaves (Q : ErrClass → Prop) (P : String → Prop) (env : Env) : Prop where
  ext : Q .ext
  cell : ∀ f ty x, Within Q P (importCell env f ty x)
  new : ∀ x f ty, Within Q P (newValue env x f ty)
  marshal : ∀ ms s, RowPrint.marshalRow env ms = .panic s → P s

theorem within_importInto (L : Leaves Q P env) (fuel : Nat) :
    ∀ (c : Val) (x : Dyn), Within Q P (importInto env fuel c x) := by
  induction fuel with
  | zero => intro c x; exact L.ext
  | succ fuel ih =>
    intro c x
    cases c with
    | cell _ f typ => exact L.cell f typ x
    | row ms =>
      cases x with
      | arr xs => rw [importInto_arr_eq]; exact (within_importSliceWith ih _ _ _).bind fun _ => trivial
      | gomap kvs => rw [importInto_gomap_eq]; exact (within_importMapWith ih _ _).bind fun _ => trivial
      | _ => trivial

theorem within_parseMembers (L : Leaves Q P env) (o : List (Bytes × Val)) (l : List (Bytes × Dyn)) :
    Within Q P (parseMembers env o l) := by
  rw [parseMembers_eq_walk]
  refine walk.within (fun p x => ?_) l o
  cases p with
  | none => trivial
  | some c => exact within_importInto L 64 c x

mutual
  theorem within_ofJV (L : Leaves Q P env) : ∀ v : JV, Within Q P (ofJV env v)
    | .null | .bool _ | .num _ | .str _ => by unfold ofJV; trivial
    | .arr xs => by
      rw [ofJV_arr_eq]
      exact (within_ofJVList L xs).bind fun _ => trivial
    | .obj ms => by
      rw [ofJV_obj_eq]
      exact (within_ofJVMembers L ms).bind fun _ => (within_parseMembers L _ _).bind fun _ => trivial
  theorem within_ofJVList (L : Leaves Q P env) : ∀ xs : JVList, Within Q P (ofJVList env xs)
    | .nil => by unfold ofJVList; trivial
    | .cons x xs => by
      rw [ofJVList_cons_eq]
      exact (within_ofJV L x).bind fun _ => (within_ofJVList L xs).bind fun _ => trivial
  theorem within_ofJVMembers (L : Leaves Q P env) :
      ∀ ms : JVMembers, Within Q P (ofJVMembers env ms)
    | .nil => by unfold ofJVMembers; trivial
    | .cons k v ms => by
      rw [ofJVMembers_cons_eq]
      exact (within_ofJV L v).bind fun _ => (within_ofJVMembers L ms).bind fun _ => trivial
end

theorem within_unmarshalInto (L : Leaves Q P env) (o : List (Bytes × Val)) (text : Bytes) :
    Within Q P (unmarshalInto env o text) := by
  rw [unmarshalInto_eq]
  exact (within_ofJVMembers L _).bind fun _ => (within_parseMembers L _ _).bind fun _ => trivial

theorem within_cloneRow (L : Leaves Q P env) (r : List (Bytes × Val)) : Within Q P (cloneRow env r) := by
  rw [cloneRow, ← within_noErr, cloneInto_eq_walk]
  refine walk.within (fun _ v => ?_) r []
  exact Within.bind (o := cloneValue env v) (L.new _ _ _) fun _ => trivial

theorem within_getRow (L : Leaves Q P env) (ti : Tmpl) (line : Bytes) :
    Within Q P (getRow env ti line) := by
  rw [getRow_eq]
  exact (within_cloneRow L ti).bind fun _ => within_unmarshalInto L _ _

theorem within_fillStep (L : Leaves Q P env) (p : Option Val) (x : Dyn) :
    Within Q P (fillStep env p x) := by
  cases p with
  | none => trivial
  | some c0 => exact (L.new _ _ _).bind fun _ => trivial

theorem within_fill (L : Leaves Q P env) (row : List (Bytes × Val)) (k : Bytes) (x : Dyn) :
    Within Q P (fill env row k x) := by
  rw [← within_noErr, fill_eq_store]
  exact store_within (within_fillStep L) row k x

theorem within_fillSlice (L : Leaves Q P env) (xs : List Dyn) :
    ∀ (row : List (Bytes × Val)) (i : Nat), Within Q P (fillSlice env row i xs) := by
  induction xs with
  | nil => intro row i; trivial
  | cons x xs ih =>
    intro row i
    rw [fillSlice_cons_eq]
    exact (within_fill L _ _ _).bind fun _ => ih _ _

theorem within_fillPairs (L : Leaves Q P env) (row : List (Bytes × Val)) (kvs : List (Bytes × Dyn)) :
    Within Q P (fillPairs env row kvs) := by
  rw [← within_noErr, fillPairs_eq_walk]
  exact walk.within (within_fillStep L) kvs row

theorem within_createRow (L : Leaves Q P env) (t : Tmpl) (v : Dyn) :
    Within Q P (createRow env t v) := by
  rw [createRow_eq]
  refine (within_cloneRow L t).bind fun row => ?_
  split
  · exact (within_fillSlice L _ _ _).bind fun _ => trivial
  · exact (within_fillPairs L _ _).bind fun _ => trivial
  · exact (within_fillPairs L _ _).bind fun _ => trivial
  · exact within_unmarshalInto L _ _
  · exact within_unmarshalInto L _ _
  · trivial

theorem within_exportLine (L : Leaves Q P env) (t : Tmpl) (v : Dyn) :
    Within Q P (exportLine env t v) := by
  rw [exportLine_eq]
  refine (within_createRow L t v).bind fun p => ?_
  obtain ⟨row, _ | e⟩ := p
  · simp only [printLine]
    split
    · trivial
    · exact L.ext
    · trivial
    · exact L.marshal _ _ ‹_›
  · trivial

theorem within_jlLine (L : Leaves Q P env) (ti to : Tmpl) (line : Bytes) :
    Within Q P (jlLine env ti to line) := by
  rw [jlLine_eq]
  refine (within_getRow L ti line).bind fun p => ?_
  obtain ⟨row, _ | e⟩ := p
  · exact within_exportLine L to _
  · trivial

end Classes

/-! ### Export -/

/-- What `marshalExported` prints by itself: a string, a json.Number, a bool, an integer. -/
def Printable (e : Dyn) : Prop :=
  (∃ s, e = .str s) ∨ (∃ l, e = .num l) ∨ (∃ b, e = .bool b) ∨ (∃ t v, e = .int t v)

theorem printable_of_ty {r : Dyn} {t : Ty} (h : typeOf r = t)
    (ht : t = .str ∨ t = .num ∨ t = .bool ∨ t = .int .i64) : Printable r := by
  subst h
  cases r <;> simp [typeOf] at ht
  · exact .inr (.inr (.inr ⟨_, _, rfl⟩))
  · exact .inr (.inr (.inl ⟨_, rfl⟩))
  · exact .inl ⟨_, rfl⟩
  · exact .inr (.inl ⟨_, rfl⟩)

theorem exportCell_yields (ext : Ext) (raw : Dyn) (f : Format) (typ : Ty) :
    Yields (fun e => e = raw ∨ Printable e) (exportVal ⟨genTables, ext⟩ (.cell raw f typ)) := by
  by_cases hraw : raw = .nil
  · subst hraw; rw [exportVal_nil]; exact .ok (.inl rfl)
  · refine (exportCell_typed ext hraw f typ).imp fun e he => ?_
    cases f <;> first | exact .inl he | exact .inr (printable_of_ty he (by simp))

mutual
  theorem exportVal_no_panic (ext : Ext) : ∀ (v : Val) (s : String),
      exportVal ⟨genTables, ext⟩ v ≠ .panic s
    | .cell raw f typ, s => (exportCell_yields ext raw f typ).ne_panic s
    | .row ms, s => by
      intro hp
      unfold exportVal at hp
      split at hp -- `exportMembers`
      · cases hp -- `.ok`
      · cases hp -- `.err`
      · rename_i s' h -- `.panic`
        exact exportMembers_no_panic ext ms s' h
  theorem exportMembers_no_panic (ext : Ext) : ∀ (ms : Members) (s : String),
      exportMembers ⟨genTables, ext⟩ ms ≠ .panic s
    | .nil, s => by
      intro hp
      unfold exportMembers at hp
      cases hp
    | .cons k v ms, s => by
      intro hp
      unfold exportMembers at hp
      split at hp -- `exportVal` of the first member
      · split at hp -- `.ok`: `exportMembers` of the rest
        · cases hp -- `.ok`
        · cases hp -- `.err`
        · rename_i s' h -- `.panic`
          exact exportMembers_no_panic ext ms s' h
      · cases hp -- `.err`
      · rename_i s' h -- `.panic`
        exact exportVal_no_panic ext v s' h
end

/-! ### Printing -/

open RowPrint in
theorem np_marshalExported {env : Env} {e raw : Dyn} (hraw : NP (marshalDyn env raw)) :
    NP (marshalExported env e raw) := by
  fun_cases marshalExported env e raw
  case case8 => exact hraw -- anything but nil, a bool, an integer, a string, a number: `raw` is printed
  all_goals exact fun _ => nofun

open RowPrint in
mutual
  theorem marshalDyn_no_panic (ext : Ext) : ∀ (x : Dyn) (s : String),
      marshalDyn ⟨genTables, ext⟩ x ≠ .panic s
    | .nil, s | .bool _, s | .int _ _, s | .str _, s | .bytes _, s | .barr _, s | .other _, s => by
      intro hp; unfold marshalDyn at hp; cases hp
    | .f64 _, s | .f32 _, s | .time _, s => by
      intro hp; unfold marshalDyn at hp; split at hp <;> cases hp
    | .num l, s => by
      intro hp; unfold marshalDyn at hp
      split at hp
      · cases hp
      · split at hp <;> cases hp
    | .arr xs, s => by
      rw [marshalDyn_arr_eq]
      exact NP.bind (marshalList_no_panic ext xs) (fun _ _ => np_ok _) s
    | .gomap kvs, s => by
      rw [marshalDyn_gomap_eq]
      exact NP.bind (marshalMap_no_panic ext kvs) (fun _ _ => np_ok _) s
    | .val v, s => by
      unfold marshalDyn
      exact marshalVal_no_panic ext v s
  theorem marshalList_no_panic (ext : Ext) : ∀ (xs : DynList) (s : String),
      marshalList ⟨genTables, ext⟩ xs ≠ .panic s
    | .nil, s => by intro hp; unfold marshalList at hp; cases hp
    | .cons x xs, s => by
      rw [marshalList_cons_eq]
      exact NP.bind (marshalDyn_no_panic ext x)
        (fun _ _ => NP.bind (marshalList_no_panic ext xs) fun _ _ => np_ok _) s
  theorem marshalMap_no_panic (ext : Ext) : ∀ (m : DynMap) (s : String),
      marshalMap ⟨genTables, ext⟩ m ≠ .panic s
    | .nil, s => by intro hp; unfold marshalMap at hp; cases hp
    | .cons k x m, s => by
      rw [marshalMap_cons_eq]
      exact NP.bind (marshalDyn_no_panic ext x)
        (fun _ _ => NP.bind (marshalMap_no_panic ext m) fun _ _ => np_ok _) s
  theorem marshalVal_no_panic (ext : Ext) : ∀ (v : Val) (s : String),
      marshalVal ⟨genTables, ext⟩ v ≠ .panic s
    | .cell raw f typ, s => by
      rw [marshalVal_cell_eq]
      exact NP.bind (exportVal_no_panic ext _)
        (fun _ _ => np_marshalExported (marshalDyn_no_panic ext raw)) s
    | .row ms, s => by
      rw [marshalVal_row_eq]
      exact NP.bind (marshalMembers_no_panic ext ms) (fun _ _ => np_ok _) s
  theorem marshalMembers_no_panic (ext : Ext) : ∀ (ms : Members) (s : String),
      marshalMembers ⟨genTables, ext⟩ ms ≠ .panic s
    | .nil, s => by intro hp; unfold marshalMembers at hp; cases hp
    | .cons k v ms, s => by
      rw [marshalMembers_cons_eq]
      split
      · exact marshalMembers_no_panic ext ms s
      · exact NP.bind (marshalVal_no_panic ext v)
          (fun _ _ => NP.bind (marshalMembers_no_panic ext ms) fun _ _ => np_ok _) s
end

theorem marshalExported_no_panic (ext : Ext) (e raw : Dyn) (s : String) :
    RowPrint.marshalExported ⟨genTables, ext⟩ e raw ≠ .panic s :=
  np_marshalExported (marshalDyn_no_panic ext raw) s

theorem marshalRow_no_panic (ext : Ext) (ms : Members) (s : String) :
    RowPrint.marshalRow ⟨genTables, ext⟩ ms ≠ .panic s :=
  marshalVal_no_panic ext (.row ms) s

/-! ### Templates, exporter and importer (one line) -/

open Template

theorem newValue_no_panic (ext : Ext) (v : Dyn) (f : Format) (typ : Ty) (s : String) :
    newValue ⟨genTables, ext⟩ v f typ ≠ .panic s := by
  fun_cases newValue ⟨genTables, ext⟩ v f typ
  case case4 s' h => exact absurd h (gen_castTo_no_panic ext typ v s')
  all_goals nofun

theorem setExisting_no_panic (ext : Ext) (c : Val) (x : Dyn) (s : String) :
    setExisting ⟨genTables, ext⟩ c x ≠ .panic s := by
  fun_cases setExisting ⟨genTables, ext⟩ c x
  case case2 => nofun
  case case4 s' h => exact absurd h (gen_castTo_no_panic ext _ x s')
  all_goals exact newValue_no_panic ext _ _ _ s

theorem cloneValue_no_panic (ext : Ext) (v : Val) (s : String) :
    cloneValue ⟨genTables, ext⟩ v ≠ .panic s :=
  newValue_no_panic ext _ _ _ s

theorem leaves_np (ext : Ext) : Leaves (fun _ => True) (fun _ => False) ⟨genTables, ext⟩ where
  ext := trivial
  cell f ty x := by
    by_cases hx : x = .nil
    · subst hx; trivial
    · exact (Order.importCell_spec _ f ty x).within trivial (np_importPanic ext hx)
  new x f ty := by
    cases h : newValue ⟨genTables, ext⟩ x f ty with
    | panic s => exact newValue_no_panic ext x f ty s h
    | _ => trivial
  marshal ms s h := marshalRow_no_panic ext ms s h

theorem importInto_no_panic (ext : Ext) (fuel : Nat) (c : Val) (x : Dyn) (s : String) :
    importInto ⟨genTables, ext⟩ fuel c x ≠ .panic s :=
  fun h => (within_importInto (leaves_np ext) fuel c x).panic h

theorem importVal_no_panic (ext : Ext) (c : Val) (x : Dyn) (s : String) :
    importVal ⟨genTables, ext⟩ c x ≠ .panic s := importInto_no_panic ext 64 c x s

theorem importAtKeyWith_no_panic (ext : Ext) (fuel : Nat) (o : List (Bytes × Val)) (k : Bytes)
    (x : Dyn) (s : String) :
    importAtKeyWith (importInto ⟨genTables, ext⟩ fuel) o k x ≠ .panic s :=
  fun h => (within_importAtKeyWith (within_importInto (leaves_np ext) fuel) o k x).panic h

theorem importSliceWith_no_panic (ext : Ext) (fuel : Nat) (o : List (Bytes × Val)) (i : Nat)
    (xs : List Dyn) (s : String) :
    importSliceWith (importInto ⟨genTables, ext⟩ fuel) o i xs ≠ .panic s :=
  fun h => (within_importSliceWith (within_importInto (leaves_np ext) fuel) xs o i).panic h

theorem importMapWith_no_panic (ext : Ext) (fuel : Nat) (o : List (Bytes × Val))
    (kvs : List (Bytes × Dyn)) (s : String) :
    importMapWith (importInto ⟨genTables, ext⟩ fuel) o kvs ≠ .panic s :=
  fun h => (within_importMapWith (within_importInto (leaves_np ext) fuel) o kvs).panic h

theorem ofJV_no_panic (ext : Ext) : ∀ (v : JV) (s : String), ofJV ⟨genTables, ext⟩ v ≠ .panic s :=
  fun v _ h => (within_ofJV (leaves_np ext) v).panic h

theorem ofJVList_no_panic (ext : Ext) : ∀ (xs : JVList) (s : String),
      ofJVList ⟨genTables, ext⟩ xs ≠ .panic s :=
  fun xs _ h => (within_ofJVList (leaves_np ext) xs).panic h

theorem cloneRow_no_panic (ext : Ext) (r : List (Bytes × Val)) (s : String) :
    cloneRow ⟨genTables, ext⟩ r ≠ .panic s :=
  fun h => (within_cloneRow (leaves_np ext) r).panic h

theorem createRowEmpty_no_panic (ext : Ext) (t : Tmpl) (s : String) :
    createRowEmpty ⟨genTables, ext⟩ t ≠ .panic s :=
  cloneRow_no_panic ext t s

theorem withRow_no_panic (ext : Ext) (t : Tmpl) (name : Bytes) (sub : Tmpl) (s : String) :
    Template.withRow ⟨genTables, ext⟩ t name sub ≠ .panic s := by
  fun_cases Template.withRow ⟨genTables, ext⟩ t name sub
  case case3 s' h => exact absurd h (cloneRow_no_panic ext sub s')
  all_goals nofun

theorem createRow_no_panic (ext : Ext) (t : Tmpl) (v : Dyn) (s : String) :
    createRow ⟨genTables, ext⟩ t v ≠ .panic s :=
  fun h => (within_createRow (leaves_np ext) t v).panic h

theorem exportLine_no_panic (ext : Ext) (t : Tmpl) (v : Dyn) (s : String) :
    exportLine ⟨genTables, ext⟩ t v ≠ .panic s :=
  fun h => (within_exportLine (leaves_np ext) t v).panic h

theorem getRow_no_panic (ext : Ext) (t : Tmpl) (line : Bytes) (s : String) :
    getRow ⟨genTables, ext⟩ t line ≠ .panic s :=
  fun h => (within_getRow (leaves_np ext) t line).panic h

theorem jlLine_no_panic (ext : Ext) (ti to : Tmpl) (line : Bytes) (s : String) :
    jlLine ⟨genTables, ext⟩ ti to line ≠ .panic s :=
  fun h => (within_jlLine (leaves_np ext) ti to line).panic h

/-! ### Paths -/

theorem importAtKeys_no_panic (ext : Ext) (row : List (Bytes × Val)) (keys : List Bytes) (x : Dyn)
    (s : String) : Path.importAtKeys ⟨genTables, ext⟩ row keys x ≠ .panic s := by
  cases keys with
  | nil => nofun
  | cons k rest =>
    -- read, `Import`, put back: only the `Import` can panic
    rw [Path.importAtKeys_eq _ x _ row (List.cons_ne_nil _ _)]
    split
    · nofun
    · split
      · nofun
      · nofun
      · intro h; cases h; exact importVal_no_panic ext _ _ _ ‹_›

theorem importAtPath_no_panic (ext : Ext) (row : List (Bytes × Val)) (path : Bytes) (x : Dyn)
    (s : String) : Path.importAtPath ⟨genTables, ext⟩ row path x ≠ .panic s :=
  importAtKeys_no_panic ext row _ x s

/-! ### Streams -/

open Jl.Stream

theorem env_eq {cfg : Cfg} (hT : cfg.env.T = genTables) : cfg.env = ⟨genTables, cfg.env.ext⟩ := by
  cases cfg with
  | mk env ti to proc i m =>
    cases env with
    | mk T ext => simp only at hT; subst hT; rfl

theorem exportWith_no_panic (cfg : Cfg) (hT : cfg.env.T = genTables) (row : List (Bytes × Val))
    (ws : List WriteEv) (s : String) : exportWith cfg row ws ≠ .panic s := by
  fun_cases exportWith cfg row ws
  case case2 s' h => rw [env_eq hT] at h; exact absurd h (exportLine_no_panic _ _ _ s')
  all_goals nofun

theorem loop_no_panic (cfg : Cfg) (hT : cfg.env.T = genTables) (fuel : Nat) (st : Scanner.St)
    (ws : List WriteEv) (obs : Obs) (s : String) : loop cfg fuel st ws obs ≠ .panic s := by
  -- every branch of `loop` is a constant, the next round, or what `getRow` / `exportWith` returned
  fun_induction loop cfg fuel st ws obs
  case case5 => -- `getRowRes` panics: it has it from `getRow`
    rename_i g _ h
    simp only [g] at h
    split at h
    · cases h -- the scanner's error
    · split at h
      · cases h -- a row
      · cases h -- an import error
      · cases h -- `.err`
      · rename_i s'' h'
        rw [env_eq hT] at h'
        exact absurd h' (getRow_no_panic _ _ _ s'')
  case case11 => exact absurd ‹_› (exportWith_no_panic cfg hT _ _ _)
  all_goals first | assumption | nofun

theorem streamSt_no_panic (cfg : Cfg) (hT : cfg.env.T = genTables) (reader : List Scanner.ReadEv)
    (writer : List WriteEv) (s : String) : streamSt cfg reader writer ≠ .panic s :=
  loop_no_panic cfg hT _ _ _ _ s

theorem stream_no_panic (cfg : Cfg) (hT : cfg.env.T = genTables) (reader : List Scanner.ReadEv)
    (writer : List WriteEv) (s : String) : stream cfg reader writer ≠ .panic s := by
  fun_cases stream cfg reader writer
  case case3 s' h => exact absurd h (streamSt_no_panic cfg hT _ _ s')
  all_goals nofun

/-! The specification side of C07 (`specObs`) does not panic either. -/

theorem lineOutcome_no_panic (cfg : Cfg) (hT : cfg.env.T = genTables) (l : Bytes) (s : String) :
    lineOutcome cfg l ≠ .panic s := by
  fun_cases lineOutcome cfg l
  case case2 s' h => rw [env_eq hT] at h; exact absurd h (getRow_no_panic _ _ _ s')
  case case5 s' h => rw [env_eq hT] at h; exact absurd h (exportLine_no_panic _ _ _ s')
  all_goals nofun

theorem mapOutcomes_no_panic (cfg : Cfg) (hT : cfg.env.T = genTables) (ls : List Bytes)
    (s : String) : mapOutcomes cfg ls ≠ .panic s := by
  induction ls generalizing s with
  | nil => intro hp; simp [mapOutcomes] at hp
  | cons l rest ih =>
    rw [mapOutcomes_cons_eq]
    exact NP.bind (lineOutcome_no_panic cfg hT l) (fun _ _ => NP.bind (fun s => ih s) fun _ _ => np_ok _) s

theorem specObs_no_panic (cfg : Cfg) (hT : cfg.env.T = genTables) (bs : Bytes) (s : String) :
    specObs cfg bs ≠ .panic s := by
  fun_cases specObs cfg bs
  case case3 s' h => exact absurd h (mapOutcomes_no_panic cfg hT _ s')
  all_goals nofun

/-! ### cmd/jl: building the two templates (`WithRow` is the only step with an outcome) -/

open Jl.JlCmd

theorem np_pairRows {a b : Outcome Tmpl} (ha : NP a) (hb : NP b) : NP (pairRows a b) := by
  intro s hp
  cases a with
  | panic s' => exact ha s' rfl
  | err e => simp [pairRows] at hp
  | ok x =>
    cases b with
    | panic s' => exact hb s' rfl
    | err e => simp [pairRows] at hp
    | ok y => simp [pairRows] at hp

theorem np_yamlCol (ext : Ext) {sub : List ColDef → Outcome (Tmpl × Tmpl)} (hsub : ∀ cols, NP (sub cols))
    {acc : Outcome (Tmpl × Tmpl)} (hacc : NP acc) (c : ColDef) :
    NP (yamlCol ⟨genTables, ext⟩ sub acc c) := by
  fun_cases yamlCol ⟨genTables, ext⟩ sub acc c
  case case3 => exact np_pairRows (withRow_no_panic ext _ _ _) (withRow_no_panic ext _ _ _)
  case case4 => exact hsub _
  case case5 => exact hacc
  all_goals exact np_ok _

theorem np_inlineCol (ext : Ext) {sub : List ColDef → Outcome (Tmpl × Tmpl)} (hsub : ∀ cols, NP (sub cols))
    {acc : Outcome (Tmpl × Tmpl)} (hacc : NP acc) (c : ColDef) :
    NP (inlineCol ⟨genTables, ext⟩ sub acc c) := by
  fun_cases inlineCol ⟨genTables, ext⟩ sub acc c
  case case1 => exact np_ok _
  case case2 => exact np_pairRows (withRow_no_panic ext _ _ _) (withRow_no_panic ext _ _ _)
  case case3 => exact hsub _
  case case4 => exact hacc

theorem np_foldl {α β : Type} {f : Outcome β → α → Outcome β}
    (hf : ∀ acc a, NP acc → NP (f acc a)) (l : List α) {acc : Outcome β} (hacc : NP acc) :
    NP (l.foldl f acc) := by
  induction l generalizing acc with
  | nil => exact hacc
  | cons a l ih => exact ih (hf _ _ hacc)

theorem ofYaml_no_panic (ext : Ext) (fuel : Nat) (cols : List ColDef) (s : String) :
    ofYaml ⟨genTables, ext⟩ fuel cols ≠ .panic s := by
  induction fuel generalizing cols s with
  | zero => intro hp; simp [ofYaml] at hp
  | succ fuel ih =>
    unfold ofYaml
    exact np_foldl (fun acc c hacc => np_yamlCol ext (fun cols s => ih cols s) hacc c) cols
      (np_ok _) s

theorem ofInline_no_panic (ext : Ext) (fuel : Nat) (cols : List ColDef) (s : String) :
    ofInline ⟨genTables, ext⟩ fuel cols ≠ .panic s := by
  induction fuel generalizing cols s with
  | zero => intro hp; simp [ofInline] at hp
  | succ fuel ih =>
    unfold ofInline
    exact np_foldl (fun acc c hacc => np_inlineCol ext (fun cols s => ih cols s) hacc c) cols
      (np_ok _) s

theorem createTemplate_no_panic (ext : Ext) (file : List ColDef) (inline : Option (List ColDef))
    (s : String) : createTemplate ⟨genTables, ext⟩ file inline ≠ .panic s := by
  fun_cases createTemplate ⟨genTables, ext⟩ file inline
  case case1 => nofun
  case case2 => exact ofInline_no_panic ext _ _ s
  case case3 => exact ofYaml_no_panic ext _ _ s

/-! ### `marshalExported`'s fallback hides nothing

`RowPrint.marshalExported env e raw` prints `e` when it is nil, a bool, an integer, a string or a number, and otherwise
prints `raw` *instead of* `e` (this is what makes the mutual recursion of `marshalVal` structural).  The replacement is
never observable over the generated tables: `Export` of a cell returns either the raw value itself or a scalar
(`exportCell_yields`, the typing of `Export`'s result that also excludes the panic). -/

open RowPrint in
theorem marshalExported_printable (env : Env) {e : Dyn} (raw : Dyn) (h : Printable e) :
    marshalExported env e raw = marshalDyn env e := by
  rcases h with ⟨s, rfl⟩ | ⟨l, rfl⟩ | ⟨b, rfl⟩ | ⟨t, v, rfl⟩ <;>
    rw [marshalExported.eq_def] <;> simp only <;> rw [marshalDyn.eq_def]

open RowPrint in
/-- `value.MarshalJSON` is `Export` followed by `json.Marshal` of the exported value, as in the code. -/
theorem marshalVal_cell (ext : Ext) (raw : Dyn) (f : Format) (typ : Ty) :
    marshalVal ⟨genTables, ext⟩ (.cell raw f typ) =
      match exportVal ⟨genTables, ext⟩ (.cell raw f typ) with
      | .ok e => marshalDyn ⟨genTables, ext⟩ e
      | .err e => .err e
      | .panic s => .panic s := by
  rw [marshalVal_cell_eq]
  cases h : exportVal ⟨genTables, ext⟩ (.cell raw f typ) with
  | ok e =>
    simp only [Outcome.bind_ok]
    rcases (exportCell_yields ext raw f typ).of_ok h with rfl | hs
    · exact marshalExported_self _ _
    · exact marshalExported_printable _ _ hs
  | err e => rfl
  | panic s => rfl

end Jl.NoPanic
