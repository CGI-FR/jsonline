/-
  Proofs.TypedHistory — declared columns stay typed and keep their declaration after ANY history.

  C10 (last sentence): "the raw value of a column declared with raw type T is nil or a T after every successful
  import"; C03 / C04 rely on a declared column keeping its format and raw type whatever was stored, imported or
  REFUSED since.  Both hold in every state a row reaches: every mutator is a chain of upserts (`Steps`) by one of
  four cell operations (`CellOp`), each of which keeps the declaration and the typedness of a declared cell
  (`CellLaws`).  Two provisos: no argument is a cell `jsonline.Value` at top level (`NoCellVal`), and typedness
  does not survive `CreateRow` from Go values (`Op.Bare`).
-/
import Proofs.Order
import Proofs.LineKeys
import Proofs.LineCast
import Proofs.PathWalk
import Proofs.DecEq
import Model.Value
import Model.Template
import Model.Path

namespace Jl.TypedHistory
open Jl Jl.Value Jl.Template Jl.Path Jl.Cast Jl.CastTyped

abbrev RowV := List (Bytes × Val)

/-! ## §1 Definitions -/

def RawTyped (typ : Ty) (raw : Dyn) : Prop := typ = .none ∨ raw = .nil ∨ typeOf raw = typ

def Typed : Val → Prop
  | .cell raw _ typ => RawTyped typ raw
  | .row _ => True

/-- Stated with `lookup` (the FIRST entry of that name), so that distinct names need not be assumed; for a
    template with distinct names (any template built by `With…`) it is membership: `declares_iff_mem`. -/
def Declares (t : Tmpl) (k : Bytes) (f : Format) (ty : Ty) : Prop :=
  ∃ raw, lookup t k = some (.cell raw f ty)

/-- The oracle `declLost` of Driver.AliasCase, as a predicate. -/
def DeclKept (t : Tmpl) (row : RowV) : Prop :=
  ∀ k f ty, Declares t k f ty → ∃ raw, lookup row k = some (.cell raw f ty)

def TypedAt (t : Tmpl) (row : RowV) : Prop :=
  ∀ k f ty, Declares t k f ty → ∀ c, lookup row k = some c → Typed c

def Inv (C : Format → Ty → Dyn → Prop) (t : Tmpl) (row : RowV) : Prop :=
  ∀ k f ty, Declares t k f ty → ∃ raw, lookup row k = some (.cell raw f ty) ∧ C f ty raw

def CTrue : Format → Ty → Dyn → Prop := fun _ _ _ => True
def CTyped : Format → Ty → Dyn → Prop := fun _ ty raw => RawTyped ty raw

theorem inv_true_iff {t : Tmpl} {row : RowV} : Inv CTrue t row ↔ DeclKept t row := by
  constructor
  · intro h k f ty hd
    obtain ⟨raw, hr, _⟩ := h k f ty hd
    exact ⟨raw, hr⟩
  · intro h k f ty hd
    obtain ⟨raw, hr⟩ := h k f ty hd
    exact ⟨raw, hr, trivial⟩

theorem inv_typed_iff {t : Tmpl} {row : RowV} : Inv CTyped t row ↔ DeclKept t row ∧ TypedAt t row := by
  constructor
  · intro h
    refine ⟨fun k f ty hd => ?_, fun k f ty hd c hc => ?_⟩
    · obtain ⟨raw, hr, _⟩ := h k f ty hd
      exact ⟨raw, hr⟩
    · obtain ⟨raw, hr, hC⟩ := h k f ty hd
      rw [hr] at hc
      cases hc
      exact hC
  · intro ⟨h1, h2⟩ k f ty hd
    obtain ⟨raw, hr⟩ := h1 k f ty hd
    exact ⟨raw, hr, h2 k f ty hd _ hr⟩

/-! ### Distinct names: `Declares` is membership -/

theorem declares_iff_mem {t : Tmpl} (hnd : (OMap.keys t).Nodup) (k : Bytes) (f : Format) (ty : Ty) :
    Declares t k f ty ↔ ∃ raw, (k, Val.cell raw f ty) ∈ t :=
  ⟨fun ⟨raw, h⟩ => ⟨raw, OMap.mem_of_lookup h⟩, fun ⟨raw, h⟩ => ⟨raw, OMap.lookup_of_mem hnd h⟩⟩

theorem declKept_iff_mem {t : Tmpl} (hnd : (OMap.keys t).Nodup) (row : RowV) :
    DeclKept t row ↔
      ∀ k raw f ty, (k, Val.cell raw f ty) ∈ t → ∃ raw', lookup row k = some (.cell raw' f ty) := by
  constructor
  · intro h k raw f ty hm
    exact h k f ty ((declares_iff_mem hnd k f ty).mpr ⟨raw, hm⟩)
  · intro h k f ty hd
    obtain ⟨raw, hm⟩ := (declares_iff_mem hnd k f ty).mp hd
    exact h k raw f ty hm

/-! ## §2 Chains of upserts -/

/-- A chain of upserts: a present cell is replaced by an `R`-related one, an absent key receives anything. -/
inductive Steps (R : Bytes → Val → Val → Prop) : RowV → RowV → Prop
  | refl (o : RowV) : Steps R o o
  | upd {o o' : RowV} {k : Bytes} {c c' : Val} :
      lookup o k = some c → R k c c' → Steps R (upsert o k c') o' → Steps R o o'
  | ins {o o' : RowV} {k : Bytes} {c' : Val} :
      lookup o k = none → Steps R (upsert o k c') o' → Steps R o o'

theorem Steps.trans {R : Bytes → Val → Val → Prop} {a b c : RowV}
    (h1 : Steps R a b) (h2 : Steps R b c) : Steps R a c := by
  induction h1 with
  | refl => exact h2
  | upd hl hr _ ih => exact .upd hl hr (ih h2)
  | ins hl _ ih => exact .ins hl (ih h2)

theorem Steps.store {R : Bytes → Val → Val → Prop} {o : RowV} {k : Bytes} {c' : Val}
    (h : ∀ c, lookup o k = some c → R k c c') : Steps R o (upsert o k c') := by
  cases hl : lookup o k with
  | none => exact .ins hl (.refl _)
  | some c => exact .upd hl (h c hl) (.refl _)

theorem Steps.ofStore {R : Bytes → Val → Val → Prop} {X : Type} {step : WalkStep Val X ErrClass}
    {o o' : RowV} {k : Bytes} {x : X} {e : Option ErrClass}
    (hs : ∀ c c', step (some c) x = .ok (c', e) → R k c c')
    (h : Jl.store step o k x = .ok (o', e)) : Steps R o o' := by
  obtain ⟨c', hc, rfl⟩ := store_inv h
  exact .store fun c hl => hs c c' (by rw [← hl]; exact hc)

/-- Every loop that is a walk (`parseobject`, `Import(map)`, `CreateRow`'s fill) is a chain of its stores. -/
theorem Steps.ofWalk {R : Bytes → Val → Val → Prop} {X : Type} {step : WalkStep Val X ErrClass}
    {l : List (Bytes × X)} {o o' : RowV} {e : Option ErrClass}
    (hs : ∀ kx ∈ l, ∀ c c' e, step (some c) kx.2 = .ok (c', e) → R kx.1 c c')
    (h : walk step o l = .ok (o', e)) : Steps R o o' :=
  walk.rel (R := Steps R) Steps.refl Steps.trans
    (fun kx hkx _ _ _ h1 => .ofStore (fun c c' => hs kx hkx c c' _) h1) h


theorem Steps.mono {R R' : Bytes → Val → Val → Prop} (h : ∀ k c c', R k c c' → R' k c c') {a b : RowV}
    (hs : Steps R a b) : Steps R' a b := by
  induction hs with
  | refl => exact .refl _
  | upd hl hr _ ih => exact .upd hl (h _ _ _ hr) ih
  | ins hl _ ih => exact .ins hl ih

def Keeps (t : Tmpl) (C : Format → Ty → Dyn → Prop) (k : Bytes) (c c' : Val) : Prop :=
  ∀ f ty raw, Declares t k f ty → c = .cell raw f ty → C f ty raw →
    ∃ raw', c' = .cell raw' f ty ∧ C f ty raw'

theorem inv_upsert {C : Format → Ty → Dyn → Prop} {t : Tmpl} {o : RowV} {k : Bytes} {c' : Val}
    (hi : Inv C t o) (hk : ∀ c, lookup o k = some c → Keeps t C k c c') : Inv C t (upsert o k c') := by
  intro k' f ty hd
  obtain ⟨raw, hr, hC⟩ := hi k' f ty hd
  by_cases e : k' = k
  · subst e
    obtain ⟨raw', rfl, h2⟩ := hk _ hr f ty raw hd rfl hC
    exact ⟨raw', OMap.lookup_upsert_self o k' _, h2⟩
  · exact ⟨raw, (OMap.lookup_upsert_ne o _ e).trans hr, hC⟩

theorem inv_steps {C : Format → Ty → Dyn → Prop} {t : Tmpl} {o o' : RowV}
    (hs : Steps (Keeps t C) o o') (hi : Inv C t o) : Inv C t o' := by
  induction hs with
  | refl => exact hi
  | upd hl hr _ ih => exact ih (inv_upsert hi fun c hc => Option.some.inj (hl.symm.trans hc) ▸ hr)
  | ins hl _ ih => exact ih (inv_upsert hi fun c hc => absurd (hl.symm.trans hc) nofun)

theorem nodup_steps {R : Bytes → Val → Val → Prop} {o o' : RowV} (hs : Steps R o o')
    (h : (OMap.keys o).Nodup) : (OMap.keys o').Nodup := by
  induction hs with
  | refl => exact h
  | upd _ _ _ ih => exact ih (OMap.nodup_upsert _ _ _ h)
  | ins _ _ ih => exact ih (OMap.nodup_upsert _ _ _ h)

/-! ## §3 Every mutator of a row is a chain of upserts by one of four cell operations -/

/-- `Set(k, x)` on a value-level row: `setKey` of Driver.AliasCase (with which the correspondence check replays
    `set`), repeated word for word: no module of Proofs/ imports Driver/, and nothing compares the two texts. -/
def setKey (env : Env) (r : RowV) (k : Bytes) (x : Dyn) : Outcome RowV :=
  match lookup r k with
  | some c =>
    match setExisting env c x with
    | .ok c' => .ok (upsert r k c')
    | .err e => .err e
    | .panic s => .panic s
  | none => .ok (upsert r k (Cells.newCell x))

/-- What `Row.Import` hands to its cells: the elements of a slice (to whatever key stands at their index), the
    entries of a Go map; anything else is refused without touching the row. -/
def RowArg (A : Bytes → Dyn → Prop) : Dyn → Prop
  | .arr xs => ∀ x ∈ xs.toList, ∀ k, A k x
  | .gomap kvs => ∀ kx ∈ kvs.toList, A kx.1 kx.2
  | _ => True

/-- What a mutator puts in the place of a cell `c` present under `k`: `Import` of an argument `A` admits
    (succeeding or failing), `Set`, the cell rebuilt around another sub-row (`ImportAtPath` below it), and, where
    `B` allows it (`CreateRow` from Go values), a bare `NewValue` under the cell's own descriptor. -/
inductive CellOp (env : Env) (A : Bytes → Dyn → Prop) (B : Prop) (k : Bytes) (c : Val) : Val → Prop
  | imp {fuel : Nat} {x : Dyn} {c' : Val} {e : Option ErrClass} :
      A k x → importInto env fuel c x = .ok (c', e) → CellOp env A B k c c'
  | set {x : Dyn} {c' : Val} : setExisting env c x = .ok c' → CellOp env A B k c c'
  | sub {sub : RowV} (sub' : RowV) : asRow c = some sub → CellOp env A B k c (withRow c sub')
  | new {x : Dyn} {c' : Val} :
      B → newValue env x (Cells.format c) (Cells.rawType c) = .ok c' → CellOp env A B k c c'

section Mutators
variable {env : Env} {A : Bytes → Dyn → Prop} {B : Prop}

theorem steps_iak {o o' : RowV} {k : Bytes} {x : Dyn} {e : Option ErrClass} (ha : A k x)
    (h : importAtKeyWith (importVal env) o k x = .ok (o', e)) : Steps (CellOp env A B) o o' :=
  -- 64: the fuel `importVal` hands to `importInto` (Model/Value.lean)
  .ofStore (fun _ _ hc => .imp (fuel := 64) ha hc) ((importAtKeyWith_eq_store _ o k x).symm.trans h)

theorem steps_rowImport {fuel : Nat} {ms : Members} {x : Dyn} {v : Val} {e : Option ErrClass}
    (ha : RowArg A x) (h : importInto env fuel (.row ms) x = .ok (v, e)) :
    ∃ ms', v = .row ms' ∧ Steps (CellOp env A B) ms.toList ms'.toList := by
  cases fuel with
  | zero => cases h
  | succ fuel =>
    cases x with
    | arr xs =>
      rw [importInto_arr_eq, Outcome.bind_eq_ok] at h
      obtain ⟨p, hs, h⟩ := h
      cases h
      refine ⟨_, rfl, ?_⟩
      rw [Members.toList_ofList]
      exact Order.importSliceWith_post (Q := fun o r => Steps (CellOp env A B) o r.1) Steps.refl Steps.trans
        _ _ _ _ (fun x hx o k r h1 => .ofStore (fun _ _ hc => .imp (ha x hx k) hc)
          ((importAtKeyWith_eq_store _ o k x).symm.trans h1)) hs
    | gomap kvs =>
      rw [importInto_gomap_eq, Outcome.bind_eq_ok] at h
      obtain ⟨p, hs, h⟩ := h
      cases h
      refine ⟨_, rfl, ?_⟩
      rw [Members.toList_ofList]
      exact .ofWalk (fun kx hkx _ _ _ hc => .imp (ha kx hkx) hc) ((importMapWith_eq_walk _ _ _).symm.trans hs)
    | _ => cases h; exact ⟨ms, rfl, .refl _⟩

/-- Accepted or rejected half-way: the members delivered before the error were imported one after the other. -/
theorem steps_um {o o' : RowV} {text : Bytes} {e : Option ErrClass}
    (ha : ∀ l, ofJVMembers env (Json.unmarshal text).1 = .ok l → ∀ kx ∈ l, A kx.1 kx.2)
    (h : unmarshalInto env o text = .ok (o', e)) : Steps (CellOp env A B) o o' := by
  obtain ⟨l, e0, hl, hp, _⟩ := Order.unmarshalInto_ok h
  exact .ofWalk (fun kx hkx _ _ _ hc => .imp (fuel := 64) (ha l hl kx hkx) hc)
    ((parseMembers_eq_walk env l o).symm.trans hp)

/-- At a one-key path the addressed cell imports; at a longer path the first key's cell (which is or wraps a
    row) is rebuilt around the new sub-row; a path not found changes nothing. -/
theorem steps_iap {o o' : RowV} {path : Bytes} {x : Dyn} {e : Option ErrClass}
    (ha : ∀ k, splitDots path = [k] → A k x)
    (h : importAtPath env o path x = .ok (o', e)) : Steps (CellOp env A B) o o' := by
  unfold importAtPath at h
  cases hk : splitDots path with
  | nil => rw [hk] at h; cases h; exact .refl _
  | cons k rest =>
    rw [hk] at h ha
    rcases importAtKeys_inv (List.cons_ne_nil _ _) h with ⟨_, rfl, _⟩ | ⟨v, v', hg, hi, rfl⟩
    · exact .refl _
    · obtain ⟨w, hl, ⟨rfl, rfl, hp⟩ | ⟨sub, sub', hs, hp⟩⟩ := put_of_get v' hg
      · rw [hp]; exact .upd hl (.imp (ha k rfl) hi) (.refl _)
      · rw [hp]; exact .upd hl (.sub sub' hs) (.refl _)

theorem steps_set {o o' : RowV} {k : Bytes} {x : Dyn} (h : setKey env o k x = .ok o') :
    Steps (CellOp env A B) o o' := by
  unfold setKey at h
  split at h
  · rename_i c hl
    split at h <;> cases h
    exact .upd hl (.set ‹_›) (.refl _)
  · cases h
    exact .ins ‹_› (.refl _)

theorem steps_fill (hb : B) {o o' : RowV} {k : Bytes} {x : Dyn} (h : fill env o k x = .ok o') :
    Steps (CellOp env A B) o o' :=
  .ofStore (fun _ _ hc => .new hb (fillStep_some.1 hc).1) (fill_store.1 h)

theorem steps_fillSlice (hb : B) : ∀ (xs : List Dyn) (o o' : RowV) (i : Nat),
    fillSlice env o i xs = .ok o' → Steps (CellOp env A B) o o'
  | [], _, _, _, h => by cases h; exact .refl _
  | x :: xs, o, o', i, h => by
    obtain ⟨r1, h1, h⟩ := Outcome.bind_eq_ok.1 ((fillSlice_cons_eq o i x xs).symm.trans h)
    exact (steps_fill hb h1).trans (steps_fillSlice hb xs r1 o' _ h)

theorem steps_fillPairs (hb : B) {kvs : List (Bytes × Dyn)} {o o' : RowV}
    (h : fillPairs env o kvs = .ok o') : Steps (CellOp env A B) o o' :=
  .ofWalk (fun _ _ _ _ _ hc => .new hb (fillStep_some.1 hc).1) (fillPairs_walk.1 h)

end Mutators


/-! ## §4 The cell level -/

/-- The argument is not itself a cell `jsonline.Value` (a `value`, not a `Row`) at top level: `value.Import(Value)`
    copies format and raw type of the argument (`Demo.iak_value_replaces_declaration`). -/
def NoCellVal (x : Dyn) : Prop := ∀ raw f ty, x ≠ .val (.cell raw f ty)

/-- `NoCellVal` in the shape of the argument predicates `A` of `CellOp` / `CellLaws`. -/
def DArg : Bytes → Dyn → Prop := fun _ x => NoCellVal x

theorem noCellVal_of_not_val {x : Dyn} (h : ∀ w, x ≠ .val w) : NoCellVal x := fun _ _ _ e => h _ e

/-! For any tables the declaration survives: `Order.importCell_raw`, `Order.setExisting_cell`,
    `Order.newValue_cell`.  For the generated tables, typedness: -/

theorem rawTyped_nil (ty : Ty) : RawTyped ty .nil := Or.inr (Or.inl rfl)

theorem rawTyped_of_castTo (ext : Ext) {ty : Ty} {v r : Dyn}
    (h : castTo genTables ext ty v = .ok r) : RawTyped ty r := by
  by_cases ht : ty = .none
  · exact Or.inl ht
  · exact Or.inr (LineLevel.castTo_rawTyped ext ht h)

theorem newValue_spec (ext : Ext) {x : Dyn} {f : Format} {ty : Ty} {c : Val}
    (h : newValue ⟨genTables, ext⟩ x f ty = .ok c) :
    ∃ raw, c = .cell raw f ty ∧ (RawTyped ty raw ∨ raw = x) := by
  rcases Order.newValue_inv h with ⟨r, hr, rfl⟩ | rfl
  · exact ⟨r, rfl, Or.inl (rawTyped_of_castTo ext hr)⟩
  · exact ⟨x, rfl, Or.inr rfl⟩

theorem newValue_nil_typed (ext : Ext) {f : Format} {ty : Ty} {c : Val}
    (h : newValue ⟨genTables, ext⟩ .nil f ty = .ok c) : ∃ raw, c = .cell raw f ty ∧ RawTyped ty raw := by
  obtain ⟨raw, hc, hr⟩ := newValue_spec ext h
  refine ⟨raw, hc, ?_⟩
  rcases hr with hr | hr
  · exact hr
  · rw [hr]; exact rawTyped_nil ty

/-- `Set` on a present key DOES keep typedness: `cast.To` first; when it succeeds `NewValue` repeats the same
    cast, when it fails nil is stored. -/
theorem setExisting_spec (ext : Ext) {c c' : Val} {x : Dyn}
    (h : setExisting ⟨genTables, ext⟩ c x = .ok c') :
    ∃ raw, c' = .cell raw (Cells.format c) (Cells.rawType c) ∧ RawTyped (Cells.rawType c) raw := by
  unfold setExisting at h
  simp only at h
  split at h
  · rename_i r hr
    unfold newValue at h
    simp only [hr] at h
    cases h
    exact ⟨r, rfl, rawTyped_of_castTo ext hr⟩
  · cases h
  · exact newValue_nil_typed ext h
  · cases h

/-! ### The laws a cell predicate `C` and an argument predicate `A` must satisfy -/

structure CellLaws (env : Env) (t : Tmpl) (C : Format → Ty → Dyn → Prop) (A : Bytes → Dyn → Prop) :
    Prop where
  imp : ∀ k f ty x c' e, Declares t k f ty → A k x → importCell env f ty x = .ok (c', e) →
    ∃ raw', c' = .cell raw' f ty ∧ C f ty raw'
  set : ∀ f ty raw x c', setExisting env (.cell raw f ty) x = .ok c' →
    ∃ raw', c' = .cell raw' f ty ∧ C f ty raw'
  /-- `CloneValue` -/
  clone : ∀ f ty raw c', C f ty raw → newValue env raw f ty = .ok c' →
    ∃ raw', c' = .cell raw' f ty ∧ C f ty raw'
  /-- a cell wrapping a row, rebuilt around another row (`ImportAtPath` below it) -/
  row : ∀ f ty ms ms', C f ty (.val (.row ms)) → C f ty (.val (.row ms'))

/-- The extra law `CreateRow` from Go values needs (a bare `NewValue` of anything): true of the
    declaration, FALSE of typedness (`Demo.newValue_keeps_uncast`). -/
def NewLaw (env : Env) (C : Format → Ty → Dyn → Prop) : Prop :=
  ∀ f ty x c', newValue env x f ty = .ok c' → ∃ raw', c' = .cell raw' f ty ∧ C f ty raw'

theorem laws_true (env : Env) (t : Tmpl) : CellLaws env t CTrue DArg where
  imp := fun _ _ _ _ _ _ _ ha h => by
    obtain ⟨r, hr, _⟩ := Order.importCell_raw ha h
    exact ⟨r, hr, trivial⟩
  set := fun _ _ _ _ _ h => by
    obtain ⟨r, hr⟩ := Order.setExisting_cell h
    exact ⟨r, hr, trivial⟩
  clone := fun _ _ _ _ _ h => by
    obtain ⟨r, hr⟩ := Order.newValue_cell h
    exact ⟨r, hr, trivial⟩
  row := fun _ _ _ _ _ => trivial

theorem newLaw_true (env : Env) : NewLaw env CTrue := fun _ _ _ _ h => by
  obtain ⟨r, hr⟩ := Order.newValue_cell h
  exact ⟨r, hr, trivial⟩

theorem laws_typed (ext : Ext) (t : Tmpl) : CellLaws ⟨genTables, ext⟩ t CTyped DArg where
  imp := fun _ _ _ _ _ _ _ ha h => LineLevel.importCell_rawTyped ext ha h
  set := fun _ _ _ _ _ h => setExisting_spec ext h
  clone := fun f ty raw c' hC h => by
    obtain ⟨r, hr, hs⟩ := newValue_spec ext h
    refine ⟨r, hr, ?_⟩
    rcases hs with hs | hs
    · exact hs
    · rw [hs]; exact hC
  row := fun _ _ _ _ h => by
    rcases h with h | h | h
    · exact Or.inl h
    · cases h
    · exact Or.inr (Or.inr h)

/-! ## §5 The theorems per operation -/

/-- Distinct keys are what `cloneRow` needs: it rebuilds a row by upserts, so that of two entries of one name the
    LAST would win. -/
def St (C : Format → Ty → Dyn → Prop) (t : Tmpl) (row : RowV) : Prop :=
  Inv C t row ∧ (OMap.keys row).Nodup

theorem st_steps {C : Format → Ty → Dyn → Prop} {t : Tmpl} {o o' : RowV}
    (hs : Steps (Keeps t C) o o') (h : St C t o) : St C t o' :=
  ⟨inv_steps hs h.1, nodup_steps hs h.2⟩

section Generic
variable {env : Env} {t : Tmpl} {C : Format → Ty → Dyn → Prop} {A : Bytes → Dyn → Prop} {B : Prop}

theorem keeps_cellOp (L : CellLaws env t C A) (N : B → NewLaw env C) {k : Bytes} {c c' : Val}
    (h : CellOp env A B k c c') : Keeps t C k c c' := by
  intro f ty raw hd hc hC
  subst hc
  cases h with
  | @imp fuel x _ e ha h =>
    cases fuel with
    | zero => cases h
    | succ n => exact L.imp k f ty x c' e hd ha h
  | set h => exact L.set f ty raw _ c' h
  | sub sub' hs =>
    unfold asRow at hs
    split at hs
    · rename_i heq; cases heq
    · rename_i ms f' ty' heq
      cases heq
      exact ⟨_, rfl, L.row f ty ms _ hC⟩
    · cases hs
  | new hb h => exact N hb f ty _ c' h

theorem st_ops (L : CellLaws env t C A) (N : B → NewLaw env C) {o o' : RowV}
    (hs : Steps (CellOp env A B) o o') (h : St C t o) : St C t o' :=
  st_steps (hs.mono fun _ _ _ => keeps_cellOp L N) h

theorem inv_ops (L : CellLaws env t C A) {o o' : RowV}
    (hs : Steps (CellOp env A False) o o') (h : Inv C t o) : Inv C t o' :=
  inv_steps (hs.mono fun _ _ _ => keeps_cellOp L nofun) h

end Generic


/-! ### What the decoder hands over -/

def TextArg (env : Env) (A : Bytes → Dyn → Prop) (text : Bytes) : Prop :=
  ∀ l, ofJVMembers env (Json.unmarshal text).1 = .ok l → ∀ kx ∈ l, A kx.1 kx.2

/-- What the decoder hands over for a member is a scalar, a slice or, for a nested object, a Row: never a cell
    `jsonline.Value`. -/
theorem textArg_dArg (env : Env) (text : Bytes) : TextArg env DArg text :=
  fun l hl kx hkx raw f ty e => by
    have hs := LineLevel.ofJVMembers_shape env _ l hl kx hkx
    rw [e] at hs
    exact hs

/-! ### Operation by operation

  Each operation, SUCCEEDING (`e = none`) OR FAILING (`e = some _`: the row the refused call leaves behind),
  keeps the declarations, for any tables (`_declKept`), and declarations and typedness, over the generated tables
  (`_typed`), under the SAME argument condition: `NoCellVal`, and for JSON text no condition at all.  `.err` /
  `.panic` outcomes are not states: `.err .ext` is the model's "no standard-library answer supplied", and
  Proofs.NoPanic excludes `.panic`. -/

theorem importAtKey_declKept (env : Env) {t : Tmpl} {o o' : RowV} {k : Bytes} {x : Dyn}
    {e : Option ErrClass} (hx : NoCellVal x)
    (h : importAtKeyWith (importVal env) o k x = .ok (o', e)) (hd : DeclKept t o) : DeclKept t o' :=
  inv_true_iff.mp (inv_ops (laws_true env t) (steps_iak hx h) (inv_true_iff.mpr hd))

theorem importAtKey_typed (ext : Ext) {t : Tmpl} {o o' : RowV} {k : Bytes} {x : Dyn}
    {e : Option ErrClass} (hx : NoCellVal x)
    (h : importAtKeyWith (importVal ⟨genTables, ext⟩) o k x = .ok (o', e))
    (hd : DeclKept t o ∧ TypedAt t o) : DeclKept t o' ∧ TypedAt t o' :=
  inv_typed_iff.mp (inv_ops (laws_typed ext t) (steps_iak hx h) (inv_typed_iff.mpr hd))

/-- No condition on the text: accepted, rejected half-way, or not JSON. -/
theorem unmarshal_declKept (env : Env) {t : Tmpl} {o o' : RowV} {text : Bytes} {e : Option ErrClass}
    (h : unmarshalInto env o text = .ok (o', e)) (hd : DeclKept t o) : DeclKept t o' :=
  inv_true_iff.mp (inv_ops (laws_true env t) (steps_um (textArg_dArg env text) h) (inv_true_iff.mpr hd))

theorem unmarshal_typed (ext : Ext) {t : Tmpl} {o o' : RowV} {text : Bytes} {e : Option ErrClass}
    (h : unmarshalInto ⟨genTables, ext⟩ o text = .ok (o', e))
    (hd : DeclKept t o ∧ TypedAt t o) : DeclKept t o' ∧ TypedAt t o' :=
  inv_typed_iff.mp (inv_ops (laws_typed ext t) (steps_um (textArg_dArg _ text) h)
    (inv_typed_iff.mpr hd))

theorem rowImport_declKept (env : Env) {t : Tmpl} {o : RowV} {x : Dyn} {v : Val} {e : Option ErrClass}
    (hx : RowArg DArg x) (h : importVal env (.row (Members.ofList o)) x = .ok (v, e))
    (hd : DeclKept t o) : ∃ ms', v = .row ms' ∧ DeclKept t ms'.toList := by
  obtain ⟨ms', hv, hs⟩ := steps_rowImport hx h
  rw [Members.toList_ofList] at hs
  exact ⟨ms', hv, inv_true_iff.mp (inv_ops (laws_true env t) hs (inv_true_iff.mpr hd))⟩

theorem rowImport_typed (ext : Ext) {t : Tmpl} {o : RowV} {x : Dyn} {v : Val} {e : Option ErrClass}
    (hx : RowArg DArg x) (h : importVal ⟨genTables, ext⟩ (.row (Members.ofList o)) x = .ok (v, e))
    (hd : DeclKept t o ∧ TypedAt t o) : ∃ ms', v = .row ms' ∧ DeclKept t ms'.toList ∧ TypedAt t ms'.toList := by
  obtain ⟨ms', hv, hs⟩ := steps_rowImport hx h
  rw [Members.toList_ofList] at hs
  exact ⟨ms', hv, inv_typed_iff.mp (inv_ops (laws_typed ext t) hs (inv_typed_iff.mpr hd))⟩

/-- The argument matters only when the path is a single key: below a first key the declared cell is rebuilt
    around the new sub-row with its own format and raw type. -/
theorem importAtPath_declKept (env : Env) {t : Tmpl} {o o' : RowV} {path : Bytes} {x : Dyn}
    {e : Option ErrClass} (hx : ∀ k, splitDots path = [k] → NoCellVal x)
    (h : importAtPath env o path x = .ok (o', e)) (hd : DeclKept t o) : DeclKept t o' :=
  inv_true_iff.mp (inv_ops (laws_true env t) (steps_iap hx h) (inv_true_iff.mpr hd))

theorem importAtPath_typed (ext : Ext) {t : Tmpl} {o o' : RowV} {path : Bytes} {x : Dyn}
    {e : Option ErrClass} (hx : ∀ k, splitDots path = [k] → NoCellVal x)
    (h : importAtPath ⟨genTables, ext⟩ o path x = .ok (o', e))
    (hd : DeclKept t o ∧ TypedAt t o) : DeclKept t o' ∧ TypedAt t o' :=
  inv_typed_iff.mp (inv_ops (laws_typed ext t) (steps_iap hx h) (inv_typed_iff.mpr hd))

/-- ANY argument, a `jsonline.Value` included: on a present key `Set` goes through `NewValue` with the cell's
    own format and raw type. -/
theorem set_declKept (env : Env) {t : Tmpl} {o o' : RowV} {k : Bytes} {x : Dyn}
    (h : setKey env o k x = .ok o') (hd : DeclKept t o) : DeclKept t o' :=
  inv_true_iff.mp (inv_ops (laws_true env t) (steps_set h) (inv_true_iff.mpr hd))

theorem set_typed (ext : Ext) {t : Tmpl} {o o' : RowV} {k : Bytes} {x : Dyn}
    (h : setKey ⟨genTables, ext⟩ o k x = .ok o')
    (hd : DeclKept t o ∧ TypedAt t o) : DeclKept t o' ∧ TypedAt t o' :=
  inv_typed_iff.mp (inv_ops (laws_typed ext t) (steps_set h) (inv_typed_iff.mpr hd))

/-! ### CloneRow, and the initial states -/

/-- A declared column holding a cell is cloned by `NewValue(raw, format, rawtype)`: on a cast failure the raw
    value, which satisfied `C`, is kept. -/
theorem inv_cloneRow {env : Env} {t : Tmpl} {C : Format → Ty → Dyn → Prop} {A : Bytes → Dyn → Prop}
    (L : CellLaws env t C A) {row row' : RowV} (hnd : (OMap.keys row).Nodup)
    (h : cloneRow env row = .ok row') (hi : Inv C t row) : Inv C t row' := by
  intro k f ty hd
  obtain ⟨raw, hl, hC⟩ := hi k f ty hd
  obtain ⟨c, hc, hl'⟩ := Order.cloneRow_lookup env row row' h hnd k _ hl
  obtain ⟨raw', rfl, h2⟩ := L.clone f ty raw c hC hc
  exact ⟨raw', hl', h2⟩

theorem st_cloneRow {env : Env} {t : Tmpl} {C : Format → Ty → Dyn → Prop} {A : Bytes → Dyn → Prop}
    (L : CellLaws env t C A) {row row' : RowV} (h : cloneRow env row = .ok row') (hs : St C t row) :
    St C t row' :=
  ⟨inv_cloneRow L hs.2 h hs.1, Order.cloneRow_keys_nodup env row row' h⟩

theorem inv_true_self (t : Tmpl) : Inv CTrue t t := fun _ _ _ ⟨raw, h⟩ => ⟨raw, h, trivial⟩

/-- What `With…` stores; such prototypes are typed (`inv_typed_self`). -/
def NilProtos (t : Tmpl) : Prop := ∀ k raw f ty, lookup t k = some (.cell raw f ty) → raw = .nil

theorem inv_typed_self {t : Tmpl} (h : NilProtos t) : Inv CTyped t t := fun k f ty ⟨raw, hl⟩ =>
  ⟨raw, hl, by rw [h k raw f ty hl]; exact rawTyped_nil ty⟩

theorem nilProtos_nil : NilProtos [] := fun k raw f ty h => by simp [lookup, OMap.lookup] at h

theorem nilProtos_withCol {t : Tmpl} (h : NilProtos t) (name : Bytes) (f : Format) (ty : Ty) :
    NilProtos (withCol t name f ty) := by
  intro k raw f' ty' hl
  unfold withCol lookup upsert at hl
  rw [OMap.lookup_upsert] at hl
  split at hl
  · cases hl; rfl
  · exact h k raw f' ty' hl

theorem nodup_withCol {t : Tmpl} (h : (OMap.keys t).Nodup) (name : Bytes) (f : Format) (ty : Ty) :
    (OMap.keys (withCol t name f ty)).Nodup := OMap.nodup_upsert _ _ _ h

theorem st_createRowEmpty {env : Env} {t : Tmpl} {C : Format → Ty → Dyn → Prop} {A : Bytes → Dyn → Prop}
    (L : CellLaws env t C A) (hnd : (OMap.keys t).Nodup) (hp : Inv C t t) {row : RowV}
    (h : createRowEmpty env t = .ok row) : St C t row :=
  st_cloneRow L h ⟨hp, hnd⟩

theorem createRowEmpty_declKept (env : Env) {t : Tmpl} (hnd : (OMap.keys t).Nodup) {row : RowV}
    (h : createRowEmpty env t = .ok row) : DeclKept t row :=
  inv_true_iff.mp (st_createRowEmpty (laws_true env t) hnd (inv_true_self t) h).1

theorem createRowEmpty_typed (ext : Ext) {t : Tmpl} (hnd : (OMap.keys t).Nodup) (hp : NilProtos t)
    {row : RowV} (h : createRowEmpty ⟨genTables, ext⟩ t = .ok row) : DeclKept t row ∧ TypedAt t row :=
  inv_typed_iff.mp (st_createRowEmpty (laws_typed ext t) hnd (inv_typed_self hp) h).1

theorem cloneRow_declKept (env : Env) {t : Tmpl} {row row' : RowV} (hnd : (OMap.keys row).Nodup)
    (h : cloneRow env row = .ok row') (hd : DeclKept t row) : DeclKept t row' :=
  inv_true_iff.mp (inv_cloneRow (laws_true env t) hnd h (inv_true_iff.mpr hd))

theorem cloneRow_typed (ext : Ext) {t : Tmpl} {row row' : RowV} (hnd : (OMap.keys row).Nodup)
    (h : cloneRow ⟨genTables, ext⟩ row = .ok row') (hd : DeclKept t row ∧ TypedAt t row) :
    DeclKept t row' ∧ TypedAt t row' :=
  inv_typed_iff.mp (inv_cloneRow (laws_typed ext t) hnd h (inv_typed_iff.mpr hd))

/-- The arguments `CreateRow` fills in through a bare `NewValue`. -/
def UsesNewValue : Dyn → Prop
  | .arr _ => True
  | .gomap _ => True
  | .val (.row _) => True
  | _ => False

theorem st_createRow {env : Env} {t : Tmpl} {C : Format → Ty → Dyn → Prop} {A : Bytes → Dyn → Prop}
    (L : CellLaws env t C A) (hnd : (OMap.keys t).Nodup) (hp : Inv C t t) {x : Dyn}
    (hN : UsesNewValue x → NewLaw env C)
    (ha : ∀ s, (x = .str s ∨ x = .bytes s) → TextArg env A s)
    {row : RowV} {e : Option ErrClass} (h : createRow env t x = .ok (row, e)) : St C t row := by
  rw [createRow_eq, Outcome.bind_eq_ok] at h
  obtain ⟨row0, h0, h⟩ := h
  have hs0 : St C t row0 := st_cloneRow L h0 ⟨hp, hnd⟩
  split at h
  · obtain ⟨r, hr, h⟩ := Outcome.bind_eq_ok.1 h
    cases h
    exact st_ops L hN (steps_fillSlice trivial _ _ _ _ hr) hs0
  · obtain ⟨r, hr, h⟩ := Outcome.bind_eq_ok.1 h
    cases h
    exact st_ops L hN (steps_fillPairs trivial hr) hs0
  · obtain ⟨r, hr, h⟩ := Outcome.bind_eq_ok.1 h
    cases h
    exact st_ops L hN (steps_fillPairs trivial hr) hs0
  · exact st_ops L hN (steps_um (ha _ (Or.inr rfl)) h) hs0
  · exact st_ops L hN (steps_um (ha _ (Or.inl rfl)) h) hs0
  · cases h
    exact hs0

/-- `importer.GetRow` is `CreateRow(JSON text)`. -/
theorem st_getRow {env : Env} {t : Tmpl} {C : Format → Ty → Dyn → Prop} (L : CellLaws env t C DArg)
    (hnd : (OMap.keys t).Nodup) (hp : Inv C t t) {line : Bytes} {row : RowV} {e : Option ErrClass}
    (h : getRow env t line = .ok (row, e)) : St C t row :=
  st_createRow L hnd hp (x := .str line) (fun hu => False.elim hu) (fun s _ => textArg_dArg env s)
    ((Order.createRow_str env t line).symm ▸ h)

theorem getRow_declKept (env : Env) {t : Tmpl} (hnd : (OMap.keys t).Nodup) {line : Bytes}
    {row : RowV} {e : Option ErrClass} (h : getRow env t line = .ok (row, e)) : DeclKept t row :=
  inv_true_iff.mp (st_getRow (laws_true env t) hnd (inv_true_self t) h).1

/-- From a Go map, a slice, a Row or anything; typedness is not kept (`Demo.createRow_gomap_untyped`). -/
theorem createRow_declKept (env : Env) {t : Tmpl} (hnd : (OMap.keys t).Nodup) {x : Dyn}
    {row : RowV} {e : Option ErrClass} (h : createRow env t x = .ok (row, e)) : DeclKept t row :=
  inv_true_iff.mp (st_createRow (laws_true env t) hnd (inv_true_self t) (fun _ => newLaw_true env)
    (fun s _ => textArg_dArg env s) h).1

/-! ## §6 The history theorem -/

/-- The operations of the histories of Driver.AliasCase on ONE row of a template (`um`, `iak`, `imp2`,
    `iap`, `set`), plus `cl` (go on with the clone of the row) and `create` (go on with a fresh row the
    template makes of `x`: `cm` / `cs` / `cj` / `imp` / `cr`). -/
inductive Op
  | iak (k : Bytes) (x : Dyn)        -- ImportAtKey
  | um (text : Bytes)                -- UnmarshalJSON
  | imp (x : Dyn)                    -- Row.Import
  | iap (path : Bytes) (x : Dyn)     -- ImportAtPath
  | set (k : Bytes) (x : Dyn)        -- Set
  | cl                               -- CloneRow
  | create (x : Dyn)                 -- Template.CreateRow(x)

def rowOf : Outcome (RowV × Option ErrClass) → Option RowV
  | .ok (r, _) => some r
  | _ => none

/-- The row after the operation, whether the call SUCCEEDED OR FAILED (`.ok (row, some e)`: the row a refused
    import / a line rejected half-way leaves behind); `none`: the model has no answer (`.err .ext`). -/
def apply (env : Env) (t : Tmpl) (row : RowV) : Op → Option RowV
  | .iak k x => rowOf (importAtKeyWith (importVal env) row k x)
  | .um text => rowOf (unmarshalInto env row text)
  | .imp x =>
    match importVal env (.row (Members.ofList row)) x with
    | .ok (.row ms, _) => some ms.toList
    | _ => none
  | .iap path x => rowOf (importAtPath env row path x)
  | .set k x =>
    match setKey env row k x with
    | .ok r => some r
    | _ => none
  | .cl =>
    match cloneRow env row with
    | .ok r => some r
    | _ => none
  | .create x => rowOf (createRow env t x)

/-- Every state of a history, the initial one included (the history stops where the model abstains). -/
def trace (env : Env) (t : Tmpl) (row : RowV) : List Op → List RowV
  | [] => [row]
  | op :: ops =>
    row :: (match apply env t row op with
            | some row' => trace env t row' ops
            | none => [])

def Op.Shape (env : Env) (A : Bytes → Dyn → Prop) : Op → Prop
  | .iak k x => A k x
  | .um text => TextArg env A text
  | .imp x => RowArg A x
  | .iap path x => ∀ k, splitDots path = [k] → A k x
  | .set _ _ => True
  | .cl => True
  | .create x => ∀ s, (x = .str s ∨ x = .bytes s) → TextArg env A s

/-- The operations that go through a BARE `NewValue` ("cast, else keep the uncast value"): `CreateRow` from a
    slice, a Go map or a Row.  `Set` is not one of them: it casts first. -/
def Op.Bare : Op → Prop
  | .create x => UsesNewValue x
  | _ => False

theorem rowOf_some {o : Outcome (RowV × Option ErrClass)} {r : RowV} (h : rowOf o = some r) :
    ∃ e, o = .ok (r, e) := by
  unfold rowOf at h
  split at h
  · cases h; exact ⟨_, rfl⟩
  · cases h

section History
variable {env : Env} {t : Tmpl} {C : Format → Ty → Dyn → Prop} {A : Bytes → Dyn → Prop}

theorem st_apply (L : CellLaws env t C A) (hnd : (OMap.keys t).Nodup) (hp : Inv C t t)
    {op : Op} (hs : op.Shape env A) (hn : op.Bare → NewLaw env C) {row row' : RowV}
    (h : apply env t row op = some row') (hst : St C t row) : St C t row' := by
  cases op with
  | iak k x =>
    obtain ⟨e, he⟩ := rowOf_some h
    exact st_ops L hn (steps_iak hs he) hst
  | um text =>
    obtain ⟨e, he⟩ := rowOf_some h
    exact st_ops L hn (steps_um hs he) hst
  | imp x =>
    simp only [apply] at h
    split at h
    · rename_i ms e he
      cases h
      obtain ⟨ms', hv, hsteps⟩ := steps_rowImport hs he
      cases hv
      rw [Members.toList_ofList] at hsteps
      exact st_ops L hn hsteps hst
    · cases h
  | iap path x =>
    obtain ⟨e, he⟩ := rowOf_some h
    exact st_ops L hn (steps_iap hs he) hst
  | set k x =>
    simp only [apply] at h
    split at h
    · rename_i r he
      cases h
      exact st_ops L hn (steps_set he) hst
    · cases h
  | cl =>
    simp only [apply] at h
    split at h
    · rename_i r he
      cases h
      exact st_cloneRow L he hst
    · cases h
  | create x =>
    obtain ⟨e, he⟩ := rowOf_some h
    exact st_createRow L hnd hp hn hs he

theorem history (L : CellLaws env t C A) (hnd : (OMap.keys t).Nodup) (hp : Inv C t t) :
    ∀ (ops : List Op) (row₀ : RowV), (∀ op ∈ ops, op.Shape env A) →
      (∀ op ∈ ops, op.Bare → NewLaw env C) → St C t row₀ → ∀ r ∈ trace env t row₀ ops, St C t r := by
  intro ops
  induction ops with
  | nil =>
    intro row₀ _ _ h0 r hr
    simp only [trace, List.mem_singleton] at hr
    rw [hr]; exact h0
  | cons op ops ih =>
    intro row₀ hs hn h0 r hr
    simp only [trace, List.mem_cons] at hr
    rcases hr with hr | hr
    · rw [hr]; exact h0
    · split at hr
      · rename_i row' ha
        exact ih row' (fun o ho => hs o (List.mem_cons_of_mem _ ho))
          (fun o ho => hn o (List.mem_cons_of_mem _ ho))
          (st_apply L hnd hp (hs op List.mem_cons_self) (hn op List.mem_cons_self) ha h0) r hr
      · cases hr

end History

/-! ### The two instances -/

/-- No argument is a cell Value at top level (true of every history of Driver.AliasCase): the condition for the
    declarations AND for typedness. -/
def Op.NoValueArg : Op → Prop
  | .iak _ x => NoCellVal x
  | .imp x => RowArg DArg x
  | .iap path x => ∀ k, splitDots path = [k] → NoCellVal x
  | _ => True

theorem shape_of_noValueArg (env : Env) {op : Op} (h : op.NoValueArg) : op.Shape env DArg := by
  cases op with
  | iak k x => exact h
  | um text => exact textArg_dArg env text
  | imp x => exact h
  | iap path x => exact h
  | set k x => trivial
  | cl => trivial
  | create x => exact fun s _ => textArg_dArg env s

/-- For ANY tables, whatever was stored, imported or REFUSED, `Set` and `CreateRow` from Go values included. -/
theorem history_declKept (env : Env) {t : Tmpl} (hnd : (OMap.keys t).Nodup) (ops : List Op)
    (hs : ∀ op ∈ ops, op.NoValueArg) {row₀ : RowV} (h0 : DeclKept t row₀)
    (hnd0 : (OMap.keys row₀).Nodup) : ∀ r ∈ trace env t row₀ ops, DeclKept t r := fun r hr =>
  inv_true_iff.mp (history (laws_true env t) hnd (inv_true_self t) ops row₀
    (fun op ho => shape_of_noValueArg env (hs op ho)) (fun _ _ _ => newLaw_true env)
    ⟨inv_true_iff.mpr h0, hnd0⟩ r hr).1

/-- Over the generated tables, for every `ext` and ANY JSON text, but not through a bare `NewValue`
    (`Demo.createRow_gomap_untyped`). -/
theorem history_typed (ext : Ext) {t : Tmpl} (hnd : (OMap.keys t).Nodup) (hp : NilProtos t)
    (ops : List Op) (hs : ∀ op ∈ ops, op.NoValueArg) (hb : ∀ op ∈ ops, ¬ op.Bare) {row₀ : RowV}
    (h0 : DeclKept t row₀ ∧ TypedAt t row₀) (hnd0 : (OMap.keys row₀).Nodup) :
    ∀ r ∈ trace ⟨genTables, ext⟩ t row₀ ops, DeclKept t r ∧ TypedAt t r := fun r hr =>
  inv_typed_iff.mp (history (laws_typed ext t) hnd (inv_typed_self hp) ops row₀
    (fun op ho => shape_of_noValueArg _ (hs op ho))
    (fun op ho hbare => absurd hbare (hb op ho))
    ⟨inv_typed_iff.mpr h0, hnd0⟩ r hr).1

theorem history_empty_declKept (env : Env) {t : Tmpl} (hnd : (OMap.keys t).Nodup) (ops : List Op)
    (hs : ∀ op ∈ ops, op.NoValueArg) {row₀ : RowV} (h0 : createRowEmpty env t = .ok row₀) :
    ∀ r ∈ trace env t row₀ ops, DeclKept t r :=
  history_declKept env hnd ops hs (createRowEmpty_declKept env hnd h0)
    (Order.cloneRow_keys_nodup env t row₀ h0)

theorem history_empty_typed (ext : Ext) {t : Tmpl} (hnd : (OMap.keys t).Nodup) (hp : NilProtos t)
    (ops : List Op) (hs : ∀ op ∈ ops, op.NoValueArg) (hb : ∀ op ∈ ops, ¬ op.Bare) {row₀ : RowV}
    (h0 : createRowEmpty ⟨genTables, ext⟩ t = .ok row₀) :
    ∀ r ∈ trace ⟨genTables, ext⟩ t row₀ ops, DeclKept t r ∧ TypedAt t r :=
  history_typed ext hnd hp ops hs hb (createRowEmpty_typed ext hnd hp h0)
    (Order.cloneRow_keys_nodup _ t row₀ h0)

theorem history_text_declKept (env : Env) {t : Tmpl} (hnd : (OMap.keys t).Nodup) (ops : List Op)
    (hs : ∀ op ∈ ops, op.NoValueArg) {line : Bytes} {row₀ : RowV} {e : Option ErrClass}
    (h0 : getRow env t line = .ok (row₀, e)) : ∀ r ∈ trace env t row₀ ops, DeclKept t r := by
  have hst := st_getRow (laws_true env t) hnd (inv_true_self t) h0
  exact history_declKept env hnd ops hs (inv_true_iff.mp hst.1) hst.2

/-! ## §7 Kernel-checked examples: the non-vacuity history, and the counterexamples

  Template `a : numeric(int8)`, `s : string`, `h : hidden(int64)`; the generated tables, no standard-library
  oracle (`Ext.empty`).  Every row below is COMPUTED by the model: the kernel evaluates the reader, the casts and
  the mutators on the concrete texts and values (`runs`). -/

namespace Demo
def envE : Env := ⟨genTables, Ext.empty⟩
def kA : Bytes := [0x61]
def kS : Bytes := [0x73]
def kH : Bytes := [0x68]
def tmpl : Tmpl := withCol (withCol (withCol [] kA .numeric (.int .i8)) kS .string .none) kH .hidden (.int .i64)

-- {"a":5,"s":"x"}
def line1 : Bytes := [0x7B,0x22,0x61,0x22,0x3A,0x35,0x2C,0x22,0x73,0x22,0x3A,0x22,0x78,0x22,0x7D]
-- {"a":"7","h":"y"}
def line2 : Bytes := [0x7B,0x22,0x61,0x22,0x3A,0x22,0x37,0x22,0x2C,0x22,0x68,0x22,0x3A,0x22,0x79,0x22,0x7D]
-- {"h":{}}
def line3 : Bytes := [0x7B,0x22,0x68,0x22,0x3A,0x7B,0x7D,0x7D]

def row0 : RowV := [(kA, .cell .nil .numeric (.int .i8)), (kS, .cell .nil .string .none), (kH, .cell .nil .hidden (.int .i64))]
def row1 : RowV := [(kA, .cell (.int .i8 5) .numeric (.int .i8)), (kS, .cell (.str [0x78]) .string .none), (kH, .cell .nil .hidden (.int .i64))]
def row2 : RowV := [(kA, .cell .nil .numeric (.int .i8)), (kS, .cell (.str [0x78]) .string .none), (kH, .cell .nil .hidden (.int .i64))]
def row3 : RowV := [(kA, .cell (.int .i8 7) .numeric (.int .i8)), (kS, .cell (.str [0x78]) .string .none), (kH, .cell .nil .hidden (.int .i64))]
def row4 : RowV := [(kA, .cell (.int .i8 7) .numeric (.int .i8)), (kS, .cell (.str [0x31, 0x32]) .string .none), (kH, .cell .nil .hidden (.int .i64))]

def hist : List Op :=
  [.um line1, .iak kA (.int .int 300), .um line2, .iak kS (.int .int 12), .um line3]

def rowMap : RowV := [(kA, .cell (.int .int 300) .numeric (.int .i8)), (kS, .cell .nil .string .none), (kH, .cell .nil .hidden (.int .i64))]

def rowVal : RowV := [(kA, .cell (.str [0x78]) .string .str), (kS, .cell .nil .string .none), (kH, .cell .nil .hidden (.int .i64))]

/-- Why `CreateRowEmpty` / `CloneRow` need distinct names: of two entries of one name (which no `With…`
    call can produce) the clone keeps the LAST, while `GetValue` / `lookup` on the template reads the first. -/
def tDup : Tmpl := [(kA, .cell .nil .numeric (.int .i8)), (kA, .cell .nil .string .none)]

theorem runs :
    createRowEmpty envE tmpl = .ok row0 ∧
    trace envE tmpl row0 hist = [row0, row1, row2, row3, row4, row4] ∧
    unmarshalInto envE row0 line3 = .ok (row0, some .cast) ∧
    newValue envE (.int .int 300) .numeric (.int .i8) = .ok (.cell (.int .int 300) .numeric (.int .i8)) ∧
    createRow envE tmpl (.gomap (.cons kA (.int .int 300) .nil)) = .ok (rowMap, none) ∧
    setKey envE row1 kA (.int .int 300) = .ok row2 ∧
    createRowEmpty envE tDup = .ok [(kA, .cell .nil .string .none)] := by
  decide +kernel

theorem s0 : createRowEmpty envE tmpl = .ok row0 := runs.1

theorem tmpl_nodup : (OMap.keys tmpl).Nodup := by decide
theorem tmpl_nil : NilProtos tmpl :=
  nilProtos_withCol (nilProtos_withCol (nilProtos_withCol nilProtos_nil _ _ _) _ _ _) _ _ _

theorem declA : Declares tmpl kA .numeric (.int .i8) := ⟨.nil, rfl⟩
theorem declS : Declares tmpl kS .string .none := ⟨.nil, rfl⟩
theorem declH : Declares tmpl kH .hidden (.int .i64) := ⟨.nil, rfl⟩

theorem trace_hist : trace envE tmpl row0 hist = [row0, row1, row2, row3, row4, row4] := runs.2.1

theorem hist_noValueArg : ∀ op ∈ hist, op.NoValueArg := by
  intro op hop
  simp only [hist, List.mem_cons, List.mem_nil_iff, or_false] at hop
  rcases hop with rfl | rfl | rfl | rfl | rfl
  · trivial
  · exact noCellVal_of_not_val (fun _ e => by cases e)
  · trivial
  · exact noCellVal_of_not_val (fun _ e => by cases e)
  · trivial

theorem hist_notBare : ∀ op ∈ hist, ¬ op.Bare := by
  intro op hop
  simp only [hist, List.mem_cons, List.mem_nil_iff, or_false] at hop
  rcases hop with rfl | rfl | rfl | rfl | rfl <;> exact fun h => h

/-- The history theorem applies, and says what was computed. -/
theorem goods : ∀ r ∈ [row0, row1, row2, row3, row4, row4], DeclKept tmpl r ∧ TypedAt tmpl r := by
  rw [← trace_hist]
  exact history_empty_typed Ext.empty tmpl_nodup tmpl_nil hist hist_noValueArg hist_notBare s0

example : ∀ r ∈ [row0, row1, row2, row3, row4, row4], DeclKept tmpl r ∧ TypedAt tmpl r := goods

theorem good0 : DeclKept tmpl row0 ∧ TypedAt tmpl row0 := goods _ (.head _)
theorem good1 : DeclKept tmpl row1 ∧ TypedAt tmpl row1 := goods _ (.tail _ (.head _))
theorem good2 : DeclKept tmpl row2 ∧ TypedAt tmpl row2 := goods _ (.tail _ (.tail _ (.head _)))
theorem good3 : DeclKept tmpl row3 ∧ TypedAt tmpl row3 := goods _ (.tail _ (.tail _ (.tail _ (.head _))))
theorem good4 : DeclKept tmpl row4 ∧ TypedAt tmpl row4 :=
  goods _ (.tail _ (.tail _ (.tail _ (.tail _ (.head _)))))

/-- A nested OBJECT addressed to the Hidden column declared int64 (`{"h":{}}`): the column has a raw type, so the
    Row goes to `cast.To(int64, row)`, which refuses it: h is nil, still hidden(int64), and the line is reported
    with a cast error. -/
theorem um_object_into_typed_hidden_refused :
    unmarshalInto envE row0 line3 = .ok (row0, some .cast) ∧ DeclKept tmpl row0 ∧ TypedAt tmpl row0 :=
  ⟨runs.2.2.1, good0⟩

/-- A Hidden (or Auto) column WITHOUT raw type keeps the Row as it is. -/
theorem object_into_untyped_hidden_kept :
    importCell envE .hidden .none (.val (.row .nil)) = .ok (.cell (.val (.row .nil)) .hidden .none, none) ∧
      Typed (.cell (.val (.row .nil)) .hidden .none) :=
  ⟨by rfl, Or.inl rfl⟩


/-- 300 does not fit int8: NewValue keeps it UNCAST, in a cell that says int8. -/
theorem newValue_keeps_uncast :
    newValue envE (.int .int 300) .numeric (.int .i8) = .ok (.cell (.int .int 300) .numeric (.int .i8)) ∧
      ¬ Typed (.cell (.int .int 300) .numeric (.int .i8)) := by
  refine ⟨runs.2.2.2.1, ?_⟩
  intro h
  rcases h with h | h | h <;> cases h

theorem createRow_gomap_untyped :
    createRow envE tmpl (.gomap (.cons kA (.int .int 300) .nil)) = .ok (rowMap, none) ∧
      DeclKept tmpl rowMap ∧ ¬ TypedAt tmpl rowMap := by
  refine ⟨runs.2.2.2.2.1, ?_, ?_⟩
  · exact createRow_declKept envE tmpl_nodup runs.2.2.2.2.1
  · intro h
    have := h kA _ _ declA _ rfl
    rcases this with h | h | h <;> cases h

theorem set_refused_typed : setKey envE row1 kA (.int .int 300) = .ok row2 := runs.2.2.2.2.2.1

theorem iak_value_replaces_declaration :
    importAtKeyWith (importVal envE) row0 kA (.val (.cell (.str [0x78]) .string .str)) = .ok (rowVal, none) ∧
      DeclKept tmpl row0 ∧ ¬ DeclKept tmpl rowVal := by
  refine ⟨by rfl, good0.1, ?_⟩
  intro h
  obtain ⟨raw, hr⟩ := h kA _ _ declA
  have : lookup rowVal kA = some (.cell (.str [0x78]) .string .str) := rfl
  rw [this] at hr
  cases hr

theorem dup_names_lose_declaration :
    createRowEmpty envE tDup = .ok [(kA, .cell .nil .string .none)] ∧
      Declares tDup kA .numeric (.int .i8) ∧ ¬ DeclKept tDup [(kA, .cell .nil .string .none)] := by
  refine ⟨runs.2.2.2.2.2.2, ⟨.nil, rfl⟩, ?_⟩
  intro h
  obtain ⟨raw, hr⟩ := h kA _ _ ⟨.nil, rfl⟩
  have : lookup [(kA, Val.cell .nil .string .none)] kA = some (.cell .nil .string .none) := rfl
  rw [this] at hr
  cases hr

end Demo

end Jl.TypedHistory
