/-
  Proofs.CastTyped — C10: casts are total and return exactly the requested type.  By reflection: a static type checker
  for the branch language of Model.CastSyntax, evaluated on the regenerated tables by `decide +kernel` (nothing of
  Gen.CastTable is copied here; a changed table is re-checked), and its soundness for the interpreter of Model.Cast, by
  induction on the fuel of the mutual `callNamed` / `evalBranch` / `special`.

  Reading of the outcomes.  `Outcome.err .cast` = an error that wraps `cast.ErrUnableToCast` (`failWith` with a sentinel
  whose `%w` chain reaches the root, which the checker demands of every sentinel in a reachable branch, in
  binary_ops.go and in the verbatim bodies).  `Outcome.err .ext` is not an outcome of the code: it is the model's marker
  for "a standard library answer was not supplied" (and for exhausted fuel / unrecognised shapes) and is the third
  possibility in the statements.  Not proved here: that `.err .ext` arises only from `Ext` (no progress theorem; that
  the fuel suffices for the regenerated table is Proofs.CastFuel's `call_eq_cast`); only typedness, panic-freedom and the
  error class are.  A well-typed but diverging table (a default clause that tail-calls its own caster on `val`) passes
  the checker: termination is not part of it.
-/
import Model.CastGen
import Model.CastSpec
import Proofs.CastEval

namespace Jl
namespace CastTyped
open Cast

/-! ## The checker -/

/-- int / float64 / float32: the operand types of Go's numeric conversions. -/
def isNumeric : Ty → Bool
  | .int _ | .f64 | .f32 => true
  | _ => false

def lookupBin (binfns : List (String × BinFn)) (fn : String) : Option BinFn :=
  (binfns.find? (fun p => p.1 == fn)).map (·.2)

def isPut : BinFn → Bool
  | .put .. | .put1 _ | .putBool _ => true
  | _ => false

/-- Static type of an expression when `val : vt` and the parse-bound variable has type `pt`.
    `some t` only where `evalE` cannot reach one of its "wrong shape" `.err .ext` fallbacks. -/
def tyE (binfns : List (String × BinFn)) (vt pt : Ty) : E → Option Ty
  | .val => some vt
  | .parsed => some pt
  | .intLit t _ => some (.int t)
  | .f64Lit _ => some .f64
  | .f32Lit _ => some .f32
  | .numLit _ => some .num
  | .toInt t e =>
    match tyE binfns vt pt e with
    | some a => if isNumeric a then some (.int t) else none
    | none => none
  | .toF64 e =>
    match tyE binfns vt pt e with
    | some a => if isNumeric a then some .f64 else none
    | none => none
  | .toF32 e =>
    match tyE binfns vt pt e with
    | some a => if isNumeric a then some .f32 else none
    | none => none
  | .toStr e =>
    match tyE binfns vt pt e with
    | some .bytes | some .num | some .str => some .str
    | _ => none
  | .toBytes e =>
    match tyE binfns vt pt e with
    | some .bytes | some .num | some .str => some .bytes
    | _ => none
  | .toNum e =>
    match tyE binfns vt pt e with
    | some .num | some .str => some .num
    | _ => none
  | .unix e =>
    match tyE binfns vt pt e with
    | some .time => some (.int .i64)
    | _ => none
  | .year e =>
    match tyE binfns vt pt e with
    | some .time => some (.int .int)
    | _ => none
  | .ne0 e =>
    match tyE binfns vt pt e with
    | some a => if isNumeric a then some .bool else none
    | none => none
  | .fmtInt e base =>
    match tyE binfns vt pt e with
    | some (.int _) => if base == 10 then some .str else none
    | _ => none
  | .fmtUint e base =>
    match tyE binfns vt pt e with
    | some (.int _) => if base == 10 then some .str else none
    | _ => none
  | .itoa e =>
    match tyE binfns vt pt e with
    | some (.int _) => some .str
    | _ => none
  | .fmtFloat e verb prec _ =>
    match tyE binfns vt pt e with
    | some .f64 => if verb == 102 && prec == -1 then some .str else none
    | _ => none
  | .fmtBool e =>
    match tyE binfns vt pt e with
    | some .bool => some .str
    | _ => none
  | .timeFormat e _ =>
    match tyE binfns vt pt e with
    | some .time => some .str
    | _ => none
  | .timeUnix e =>
    match tyE binfns vt pt e with
    | some (.int _) => some .time
    | _ => none
  | .call fn e =>
    match tyE binfns vt pt e, lookupBin binfns fn with
    | some a, some f => if (isNumeric a || a == .bool) && isPut f then some .bytes else none
    | _, _ => none

/-- Guards compare numeric expressions only (then `evalG` is never `none`). -/
def tyG (binfns : List (String × BinFn)) (vt : Ty) : G → Bool
  | .cmp _ l _ =>
    match tyE binfns vt .none l with
    | some a => isNumeric a
    | none => false
  | .or a b => tyG binfns vt a && tyG binfns vt b
  | .and a b => tyG binfns vt a && tyG binfns vt b
  | .not a => tyG binfns vt a

def parseTy : ParseFn → Ty
  | .parseInt .. => .int .i64
  | .parseUint .. => .int .u64
  | .parseFloat _ => .f64

/-- The parse calls the model reads (base 0 for the integer parsers). -/
def parseFnOK : ParseFn → Bool
  | .parseInt base _ => base == 0
  | .parseUint base _ => base == 0
  | .parseFloat _ => true

def binGetTy : BinFn → Option Ty
  | .get _ _ _ res _ _ => if isNumeric res then some res else none
  | .get1 _ res _ => if isNumeric res then some res else none
  | .getBool _ _ => some .bool
  | _ => none

def orderOK (order : String) : Bool := order == "LittleEndian" || order == "BigEndian"

/-- A function of binary_ops.go: sizes are consistent (no index out of range in
    `binPut` / `binGet`), the result type is one `ofUnsigned` builds, and the sentinel wraps the
    root. -/
def binFnOK (T : CastTables) : BinFn → Bool
  | .get size order width res _ s =>
    decide (width / 8 ≤ size) && orderOK order && isNumeric res && wrapsRoot T.sentinels 4 s
  | .put size order width => decide (width / 8 ≤ size) && orderOK order
  | .get1 size res s => decide (1 ≤ size) && isNumeric res && wrapsRoot T.sentinels 4 s
  | .put1 size => decide (1 ≤ size)
  | .getBool size s => decide (1 ≤ size) && wrapsRoot T.sentinels 4 s
  | .putBool size => decide (1 ≤ size)
  | .unknown _ => false

def isCaster (T : CastTables) (name : String) : Bool :=
  (T.casters.find? (fun c => c.name == name)).isSome

/-- Type of the normal results of `callNamed T _ _ name v` for `v : at`, mirroring its lookup
    order: a caster maps nil to nil and anything else to its promised type; a `xFromBytes`
    function wants bytes. -/
def calleeTy (T : CastTables) (promised : String → Option Ty) (name : String) (at_ : Ty) : Option Ty :=
  if isCaster T name then
    if at_ == .none then some .none else promised name
  else
    match lookupBin T.binFns name with
    | some f => if at_ == .bytes then binGetTy f else none
    | none => none

/-- What each body recognised verbatim needs: the source type it is written for (`none`: any
    non-nil), its result type, the casters it calls with the types they must promise, and the
    sentinels it fails with. -/
structure SpecialSig where
  src : Option Ty
  res : Ty
  callees : List (String × Ty)
  sentinels : List String

def specialSig : String → Option SpecialSig
  | "binary.default" => some ⟨none, .bytes, [], ["ErrUnableToCastToBinary"]⟩
  | "bool.string" => some ⟨some .str, .bool, [("ToFloat64", .f64)], ["ErrUnableToCastToBool"]⟩
  | "bool.number" => some ⟨none, .bool, [("ToFloat64", .f64)], ["ErrUnableToCastToBool"]⟩
  | "date.string" =>
    some ⟨some .str, .str, [("ToInt64", .int .i64), ("ToDate", .str)], ["ErrUnableToCastToDate"]⟩
  | "date.bytes" =>
    some ⟨some .bytes, .str, [("ToInt64", .int .i64), ("ToDate", .str)], ["ErrUnableToCastToDate"]⟩
  | "date.default" =>
    some ⟨none, .str, [("ToString", .str), ("ToDate", .str)], ["ErrUnableToCastToTime"]⟩
  | "time.string" =>
    some ⟨some .str, .time, [("ToInt64", .int .i64), ("ToTime", .time)], ["ErrUnableToCastToTime"]⟩
  | "time.bytes" =>
    some ⟨some .bytes, .time, [("ToInt64", .int .i64), ("ToTime", .time)], ["ErrUnableToCastToTime"]⟩
  | "time.default" =>
    some ⟨none, .time, [("ToInt64", .int .i64), ("ToTime", .time)], ["ErrUnableToCastToTime"]⟩
  | "timestamp.string" => some ⟨some .str, .int .i64, [], ["ErrUnableToCastToTime"]⟩
  | _ => none

def specialOK (T : CastTables) (promised : String → Option Ty) (want vt : Ty) (id : String) : Bool :=
  match specialSig id with
  | some sg =>
    vt != .none && (match sg.src with | some s => vt == s | none => true) && sg.res == want &&
    sg.callees.all (fun p => isCaster T p.1 && promised p.1 == some p.2) &&
    sg.sentinels.all (fun s => wrapsRoot T.sentinels 4 s)
  | none => false

/-- For a source of type `vt`, every normal return of the branch has type `want`, every error
    wraps the root sentinel, and no panic is reachable. -/
def branchOK (T : CastTables) (promised : String → Option Ty) (want vt : Ty) : Branch → Bool
  | .ret e => tyE T.binFns vt .none e == some want
  | .retNil => want == .none
  | .fail s => wrapsRoot T.sentinels 4 s
  | .guarded g s e =>
    tyG T.binFns vt g && wrapsRoot T.sentinels 4 s && tyE T.binFns vt .none e == some want
  | .ifBool t f =>
    vt == .bool && tyE T.binFns vt .none t == some want && tyE T.binFns vt .none f == some want
  | .parse fn e s =>
    vt == .str && parseFnOK fn && wrapsRoot T.sentinels 4 s &&
      tyE T.binFns vt (parseTy fn) e == some want
  | .tail callee e =>
    match tyE T.binFns vt .none e with
    | some a => calleeTy T promised callee a == some want
    | none => false
  | .special id => specialOK T promised want vt id
  | .unknown _ => false

def wantFor (t vt : Ty) : Ty := if vt == .none then .none else t

/-- `case nil` hands nil back (`return nil, nil` or `return val, nil`). -/
def nilBranchOK : Branch → Bool
  | .retNil => true
  | .ret .val => true
  | _ => false

/-- No type is listed by two case clauses (Go rejects duplicate cases): then every clause is
    the one `findClause` selects for each type it lists (`clause_checked`). -/
def noDupCases (c : Caster) : Bool := decide (c.clauses.flatMap (·.types)).Nodup

def casterOK (T : CastTables) (promised : String → Option Ty) (c : Caster) : Bool :=
  match promised c.name with
  | some t =>
    t != .none && nilBranchOK (findClause c .none) && noDupCases c &&
    allTys.all (fun vt => branchOK T promised (wantFor t vt) vt (findClause c vt))
  | none => false

/-- The 18 sample types `cast.To` has a case for (every tag but `other`; `none` is the nil
    sample). -/
def dispatchOK (T : CastTables) (promised : String → Option Ty) : Bool :=
  allTys.all (fun t =>
    match T.dispatchTo.find? (fun p => p.1 == t) with
    | some (_, br) =>
      if t == .none then br == .ret .val
      else
        (match br with
         | .tail callee .val => isCaster T callee && promised callee == some t
         | _ => false) &&
        allTys.all (fun vt => branchOK T promised (wantFor t vt) vt br)
    | none => t == .other) &&
  (match T.dispatchToDefault with
   | .fail s => wrapsRoot T.sentinels 4 s
   | _ => false)

def tablesOKFor (promised : String → Option Ty) (T : CastTables) : Bool :=
  T.casters.all (casterOK T promised) &&
  T.binFns.all (fun p => binFnOK T p.2) &&
  dispatchOK T promised &&
  T.sentinels.any (fun p => p.1 == "ErrUnableToCast")

def tablesOK (T : CastTables) : Bool := tablesOKFor resultTyOfCaster? T

theorem genTables_ok : tablesOK genTables = true := by decide +kernel

/-! ## Soundness of the checker -/

def GoodE (want : Ty) : Outcome Dyn → Prop
  | .ok r => typeOf r = want
  | .err e => e = .ext
  | .panic _ => False

def Good (want : Ty) : Outcome Dyn → Prop
  | .ok r => typeOf r = want
  | .err e => e = .cast ∨ e = .ext
  | .panic _ => False

theorem GoodE.good {want : Ty} {o : Outcome Dyn} (h : GoodE want o) : Good want o := by
  cases o with
  | ok r => exact h
  | err e => exact Or.inr h
  | panic s => exact h

@[simp] theorem good_ext (want : Ty) : Good want (.err .ext) := Or.inr rfl
@[simp] theorem goodE_ext (want : Ty) : GoodE want (.err .ext) := rfl

theorem typeOf_eq_none {r : Dyn} : typeOf r = .none ↔ r = .nil := by
  cases r <;> simp [typeOf]

theorem failWith_good (T : CastTables) (s : String) (want : Ty)
    (h : wrapsRoot T.sentinels 4 s = true) : Good want (failWith T s) := by
  simp [failWith, h, Good]

@[simp] theorem goodE_ok (w : Ty) (r : Dyn) : GoodE w (.ok r) = (typeOf r = w) := rfl
@[simp] theorem goodE_err (w : Ty) (e : ErrClass) : GoodE w (.err e) = (e = .ext) := rfl
@[simp] theorem goodE_panic (w : Ty) (s : String) : GoodE w (.panic s) = False := rfl
@[simp] theorem good_ok (w : Ty) (r : Dyn) : Good w (.ok r) = (typeOf r = w) := rfl
@[simp] theorem good_err (w : Ty) (e : ErrClass) : Good w (.err e) = (e = .cast ∨ e = .ext) := rfl
@[simp] theorem good_panic (w : Ty) (s : String) : Good w (.panic s) = False := rfl

theorem goodE_ite {w : Ty} {c : Prop} [Decidable c] {a b : Outcome Dyn}
    (ha : GoodE w a) (hb : GoodE w b) : GoodE w (if c then a else b) := by
  split <;> assumption

theorem good_ite {w : Ty} {c : Prop} [Decidable c] {a b : Outcome Dyn}
    (ha : Good w a) (hb : Good w b) : Good w (if c then a else b) := by
  split <;> assumption

theorem binPut_good (T : CastTables) (f : BinFn) (v : Dyn) (h : binFnOK T f = true) :
    GoodE .bytes (binPut f v) := by
  unfold binPut
  extract_lets image
  generalize image = im
  cases im with
  | none => cases f <;> exact goodE_ext _
  | some u =>
    cases f with
    | put size order width =>
      simp only [binFnOK, Bool.and_eq_true, decide_eq_true_eq] at h
      simp only [show ¬ size < width / 8 by omega, if_false]
      exact goodE_ite rfl rfl
    | put1 size =>
      simp only [binFnOK, decide_eq_true_eq] at h
      simp only [show ¬ size < 1 by omega, if_false]
      rfl
    | putBool size =>
      simp only [binFnOK, decide_eq_true_eq] at h
      simp only [show ¬ size < 1 by omega, if_false]
      rfl
    | _ => exact goodE_ext _

theorem ofUnsigned_ty {res : Ty} {w u : Nat} {d : Dyn} (h : ofUnsigned res w u = some d) :
    typeOf d = res := by
  unfold ofUnsigned at h
  split at h <;> simp at h <;> subst h <;> simp [typeOf]

/-- A `xToBytes` function called as a caster has no type (`binGetTy f = none`) and no case in `binGet`: the EXT
    marker, good at any type. -/
theorem binGet_good (T : CastTables) (f : BinFn) (v : Dyn) (h : binFnOK T f = true) :
    Good ((binGetTy f).getD .none) (binGet T f v) := by
  unfold binGet
  split
  · rename_i s size order width res nc sent
    simp only [binFnOK, Bool.and_eq_true, decide_eq_true_eq] at h
    obtain ⟨⟨⟨h1, _⟩, hres⟩, hs⟩ := h
    simp only [binGetTy, hres, if_true, Option.getD_some]
    split
    · exact failWith_good T _ _ hs
    · rename_i hlen
      have hlen : s.length = size := by simpa using hlen
      simp only [show ¬ s.length < width / 8 by omega, if_false]
      split
      · rename_i d hd
        obtain ⟨u, _, hu⟩ := Option.bind_eq_some_iff.mp hd
        exact ofUnsigned_ty hu
      · exact good_ext _
  · rename_i s size res sent
    simp only [binFnOK, Bool.and_eq_true, decide_eq_true_eq] at h
    obtain ⟨⟨h1, hres⟩, hs⟩ := h
    simp only [binGetTy, hres, if_true, Option.getD_some]
    split
    · exact failWith_good T _ _ hs
    · rename_i hlen
      have hlen : s.length = size := by simpa using hlen
      split
      · split
        · rename_i d hd
          exact ofUnsigned_ty hd
        · exact good_ext _
      · subst hlen; exact absurd h1 (by simp)
  · rename_i s size sent
    simp only [binFnOK, Bool.and_eq_true, decide_eq_true_eq] at h
    obtain ⟨h1, hs⟩ := h
    show Good .bool _
    split
    · exact failWith_good T _ _ hs
    · rename_i hlen
      have hlen : s.length = size := by simpa using hlen
      split
      · rfl
      · subst hlen; exact absurd h1 (by simp)
  · exact good_ext _

theorem lookupBin_mem {binfns : List (String × BinFn)} {fn : String} {f : BinFn}
    (h : lookupBin binfns fn = some f) :
    ∃ n, binfns.find? (fun p => p.1 == fn) = some (n, f) ∧ (n, f) ∈ binfns := by
  unfold lookupBin at h
  cases hf : binfns.find? (fun p => p.1 == fn) with
  | none => simp [hf] at h
  | some p =>
    simp [hf] at h
    subst h
    exact ⟨p.1, rfl, List.mem_of_find?_eq_some hf⟩

def BinOK (T : CastTables) : Prop := ∀ p ∈ T.binFns, binFnOK T p.2 = true

/-- The constructors of `E` with one sub-expression whose value `evalE` inspects. -/
local macro "unary_case" T:ident ext:ident val:ident parsed:ident e:ident ih:ident : tactic =>
  `(tactic| (
    intro want h
    simp only [tyE] at h
    cases ha : tyE ($T).binFns (typeOf $val) (typeOf $parsed) $e with
    | none => simp [ha] at h
    | some a =>
      have hg := $ih a ha
      simp only [ha] at h
      simp only [evalE]
      cases hr : evalE $T $ext $val $parsed $e with
      | panic s => simp [hr] at hg
      | err er => simpa [hr] using hg
      | ok r =>
        simp only [hr, goodE_ok] at hg
        subst hg
        cases r <;> simp [typeOf, isNumeric] at h <;> (try subst h) <;> simp [typeOf] <;>
          (repeat' split) <;> simp_all [typeOf]))

theorem evalE_good (T : CastTables) (ext : Ext) (val parsed : Dyn) (hb : BinOK T) :
    ∀ (e : E) (want : Ty), tyE T.binFns (typeOf val) (typeOf parsed) e = some want →
      GoodE want (evalE T ext val parsed e) := by
  intro e
  induction e with
  | val | parsed | intLit t n | f64Lit n | f32Lit n | numLit n =>
    intro want h
    cases h
    rfl
  | call fn e ih =>
    intro want h
    simp only [tyE] at h
    cases ha : tyE T.binFns (typeOf val) (typeOf parsed) e with
    | none => simp [ha] at h
    | some a =>
      cases hf : lookupBin T.binFns fn with
      | none => simp [ha, hf] at h
      | some f =>
        simp only [ha, hf] at h
        split at h <;> simp at h
        subst h
        obtain ⟨n, hfind, hmem⟩ := lookupBin_mem hf
        have hg := ih a ha
        simp only [evalE]
        cases hr : evalE T ext val parsed e with
        | panic s => simp [hr] at hg
        | err er => simpa [hr] using hg
        | ok r =>
          simp only [hfind]
          exact binPut_good T f r (hb _ hmem)
  -- One sub-expression, and `tyE` and `evalE` both match on its result `r`: `h` evaluates to `some want` on the
  -- constructors of `r` the operator converts and to `none` on the others. Five arms stand behind a condition on
  -- the operator's own arguments (`base == 10`, the verb and precision) or on what `ext` supplies: there every
  -- alternative is a value of type `want` or the EXT marker.
  | toInt t e ih | toF64 e ih | toF32 e ih | toStr e ih | toBytes e ih | toNum e ih | unix e ih | year e ih
  | ne0 e ih | itoa e ih | fmtBool e ih | fmtInt e base ih | fmtUint e base ih | fmtFloat e verb prec bits ih
  | timeFormat e l ih | timeUnix e ih =>
    intro want h
    simp only [tyE] at h
    simp only [evalE]
    cases ha : tyE T.binFns (typeOf val) (typeOf parsed) e with
    | none => rw [ha] at h; cases h
    | some a =>
      have hg := ih a ha
      rw [ha] at h
      generalize evalE T ext val parsed e = o at hg
      cases o with
      | panic s => exact hg.elim
      | err er => exact hg
      | ok r =>
        subst hg
        cases r <;> first
          | (cases h <;> exact rfl)
          | (simp only [typeOf] at h
             (try split at h) <;> cases h <;> simp only [*, if_true] <;> (repeat' split) <;> rfl)

theorem evalE_typed (T : CastTables) (ext : Ext) (val parsed : Dyn) (hb : BinOK T) (e : E)
    (t : Ty) (r : Dyn) (ht : tyE T.binFns (typeOf val) (typeOf parsed) e = some t)
    (hr : evalE T ext val parsed e = .ok r) : typeOf r = t ∧ (t ≠ .none → r ≠ .nil) := by
  have hg := evalE_good T ext val parsed hb e t ht
  rw [hr] at hg
  simp only [goodE_ok] at hg
  exact ⟨hg, fun hn hnil => hn (by rw [← hg, hnil]; rfl)⟩

theorem evalE_no_panic (T : CastTables) (ext : Ext) (val parsed : Dyn) (hb : BinOK T) (e : E)
    (t : Ty) (ht : tyE T.binFns (typeOf val) (typeOf parsed) e = some t) (s : String) :
    evalE T ext val parsed e ≠ .panic s := by
  intro hp
  have hg := evalE_good T ext val parsed hb e t ht
  simp [hp] at hg

/-- The three mutually recursive functions at one fuel level. -/
structure Inv (T : CastTables) (ext : Ext) (promised : String → Option Ty) (fuel : Nat) : Prop where
  call : ∀ name v want, calleeTy T promised name (typeOf v) = some want →
    Good want (callNamed T ext fuel name v)
  branch : ∀ self br v want, branchOK T promised want (typeOf v) br = true →
    Good want (evalBranch T ext fuel self br v)
  special : ∀ id v want, specialOK T promised want (typeOf v) id = true →
    Good want (special T ext fuel id v)

def CastersOK (T : CastTables) (promised : String → Option Ty) : Prop :=
  ∀ c ∈ T.casters, casterOK T promised c = true

theorem find_caster {T : CastTables} {name : String} {c : Caster}
    (hf : T.casters.find? (fun c => c.name == name) = some c) : c ∈ T.casters ∧ c.name = name := by
  refine ⟨List.mem_of_find?_eq_some hf, ?_⟩
  have := List.find?_some hf
  simpa using this

theorem casterOK_branch {T : CastTables} {promised : String → Option Ty} {c : Caster}
    (hok : casterOK T promised c = true) :
    ∃ t, promised c.name = some t ∧ t ≠ .none ∧ nilBranchOK (findClause c .none) = true ∧
      ∀ vt, branchOK T promised (wantFor t vt) vt (findClause c vt) = true := by
  unfold casterOK at hok
  cases hp : promised c.name with
  | none => simp [hp] at hok
  | some t =>
    simp only [hp, Bool.and_eq_true, List.all_eq_true] at hok
    obtain ⟨⟨⟨htn, hnil⟩, _⟩, hall⟩ := hok
    exact ⟨t, rfl, by simpa using htn, hnil, fun vt => hall vt (mem_allTys vt)⟩

theorem find_clause_of_nodup (cls : List Clause) (cl : Clause) (vt : Ty)
    (hnd : (cls.flatMap (·.types)).Nodup) (hcl : cl ∈ cls) (hvt : vt ∈ cl.types) :
    cls.find? (fun cl => cl.types.contains vt) = some cl := by
  induction cls with
  | nil => cases hcl
  | cons a l ih =>
    simp only [List.flatMap_cons, List.nodup_append] at hnd
    obtain ⟨_, hl, hdis⟩ := hnd
    rcases List.mem_cons.mp hcl with rfl | hmem
    · simp [List.find?, hvt]
    · have hna : vt ∉ a.types := by
        intro ha
        exact hdis vt ha vt (List.mem_flatMap.mpr ⟨cl, hmem, hvt⟩) rfl
      have hc : a.types.contains vt = false := by simpa using hna
      rw [List.find?_cons, hc]
      exact ih hl hmem

theorem clause_checked {T : CastTables} {promised : String → Option Ty} {c : Caster}
    (hok : casterOK T promised c = true) (cl : Clause) (hcl : cl ∈ c.clauses) (vt : Ty)
    (hvt : vt ∈ cl.types) :
    ∃ t, promised c.name = some t ∧ branchOK T promised (wantFor t vt) vt cl.body = true := by
  obtain ⟨t, hp, _, _, hall⟩ := casterOK_branch hok
  refine ⟨t, hp, ?_⟩
  have hnd : (c.clauses.flatMap (·.types)).Nodup := by
    unfold casterOK at hok
    simp only [hp, Bool.and_eq_true, noDupCases, decide_eq_true_eq] at hok
    exact hok.1.2
  have := hall vt
  unfold findClause at this
  rwa [find_clause_of_nodup c.clauses cl vt hnd hcl hvt] at this

theorem call_step {T : CastTables} {ext : Ext} {promised : String → Option Ty} {fuel : Nat}
    (hc : CastersOK T promised) (hb : BinOK T) (ih : Inv T ext promised fuel)
    (name : String) (v : Dyn) (want : Ty)
    (h : calleeTy T promised name (typeOf v) = some want) :
    Good want (callNamed T ext (fuel + 1) name v) := by
  simp only [callNamed]
  unfold calleeTy isCaster at h
  cases hf : T.casters.find? (fun c => c.name == name) with
  | some c =>
    simp only [hf, Option.isSome_some, if_true] at h
    obtain ⟨hmem, hname⟩ := find_caster hf
    obtain ⟨t, hp, _, _, hall⟩ := casterOK_branch (hc c hmem)
    have hw : want = wantFor t (typeOf v) := by
      unfold wantFor
      rw [hname] at hp
      split at h <;> simp_all
    subst hw
    exact ih.branch c.name _ v _ (hall (typeOf v))
  | none =>
    simp only [hf, Option.isSome_none, Bool.false_eq_true, if_false] at h
    cases hl : lookupBin T.binFns name with
    | none => simp [hl] at h
    | some f =>
      simp only [hl] at h
      split at h
      · obtain ⟨n, hfind, hmem⟩ := lookupBin_mem hl
        simp only [hfind]
        simpa only [h, Option.getD_some] using binGet_good T f v (hb _ hmem)
      · simp at h

theorem runParse_ty {ext : Ext} {fn : ParseFn} {s : Bytes} {v : Dyn}
    (h : runParse ext fn s = some (some v)) : typeOf v = parseTy fn := by
  unfold runParse at h
  cases fn with
  | parseInt base bits =>
    simp only at h
    split at h
    · simp only [Option.some.injEq, Option.map_eq_some_iff] at h
      obtain ⟨x, _, rfl⟩ := h
      rfl
    · simp at h
  | parseUint base bits =>
    simp only at h
    split at h
    · simp only [Option.some.injEq, Option.map_eq_some_iff] at h
      obtain ⟨x, _, rfl⟩ := h
      rfl
    · simp at h
  | parseFloat bits =>
    simp only [Option.map_eq_some_iff] at h
    obtain ⟨r, _, hr⟩ := h
    obtain ⟨b, _, rfl⟩ := hr
    rfl

theorem branch_step {T : CastTables} {ext : Ext} {promised : String → Option Ty} {fuel : Nat}
    (hb : BinOK T) (ih : Inv T ext promised fuel)
    (self : String) (br : Branch) (v : Dyn) (want : Ty)
    (h : branchOK T promised want (typeOf v) br = true) :
    Good want (evalBranch T ext (fuel + 1) self br v) := by
  cases br with
  | ret e =>
    simp only [branchOK, beq_iff_eq] at h
    simp only [evalBranch]
    exact (evalE_good T ext v .nil hb e want h).good
  | retNil =>
    simp only [branchOK, beq_iff_eq] at h
    simp [evalBranch, typeOf, h]
  | fail s =>
    simp only [branchOK] at h
    simp only [evalBranch]
    exact failWith_good T s want h
  | guarded g s e =>
    simp only [branchOK, Bool.and_eq_true, beq_iff_eq] at h
    obtain ⟨⟨_, hs⟩, he⟩ := h
    simp only [evalBranch]
    cases evalG T ext v g with
    | none => simp
    | some b =>
      cases b with
      | true => exact failWith_good T s want hs
      | false => exact (evalE_good T ext v .nil hb e want he).good
  | ifBool t f =>
    simp only [branchOK, Bool.and_eq_true, beq_iff_eq] at h
    obtain ⟨⟨_, ht⟩, hf⟩ := h
    cases v with
    | bool b =>
      cases b with
      | true => simp only [evalBranch]; exact (evalE_good T ext _ .nil hb t want ht).good
      | false => simp only [evalBranch]; exact (evalE_good T ext _ .nil hb f want hf).good
    | _ => simp [evalBranch]
  | parse fn e s =>
    simp only [branchOK, Bool.and_eq_true, beq_iff_eq] at h
    obtain ⟨⟨_, hs⟩, he⟩ := h
    cases v with
    | str str =>
      simp only [evalBranch]
      cases hp : runParse ext fn str with
      | none => simp
      | some o =>
        cases o with
        | none => exact failWith_good T s want hs
        | some p =>
          have hpt := runParse_ty hp
          rw [← hpt] at he
          exact (evalE_good T ext _ p hb e want he).good
    | _ => simp [evalBranch]
  | tail callee e =>
    simp only [branchOK] at h
    simp only [evalBranch]
    cases ha : tyE T.binFns (typeOf v) .none e with
    | none => simp [ha] at h
    | some a =>
      simp only [ha, beq_iff_eq] at h
      have hg := evalE_good T ext v .nil hb e a ha
      cases hr : evalE T ext v .nil e with
      | panic s => simp [hr] at hg
      | err er => simp [hr] at hg; simp [hg]
      | ok r =>
        simp only [hr, goodE_ok] at hg
        subst hg
        exact ih.call callee r want h
  | special id =>
    simp only [branchOK] at h
    simp only [evalBranch]
    exact ih.special id v want h
  | unknown s => simp [branchOK] at h

theorem calleeTy_caster {T : CastTables} {promised : String → Option Ty} {name : String}
    {a t : Ty} (hc : isCaster T name = true) (hp : promised name = some t) (hn : a ≠ .none) :
    calleeTy T promised name a = some t := by
  simp [calleeTy, hc, hn, hp]

theorem specialOK_unpack {T : CastTables} {promised : String → Option Ty} {want vt : Ty}
    {id : String} (h : specialOK T promised want vt id = true) :
    ∃ sg, specialSig id = some sg ∧ vt ≠ .none ∧ (∀ s, sg.src = some s → vt = s) ∧ sg.res = want ∧
      (∀ p ∈ sg.callees, isCaster T p.1 = true ∧ promised p.1 = some p.2) ∧
      (∀ s ∈ sg.sentinels, wrapsRoot T.sentinels 4 s = true) := by
  unfold specialOK at h
  cases hs : specialSig id with
  | none => simp [hs] at h
  | some sg =>
    simp only [hs, Bool.and_eq_true, List.all_eq_true, bne_iff_ne, beq_iff_eq] at h
    obtain ⟨⟨⟨⟨h1, h2⟩, h3⟩, h4⟩, h5⟩ := h
    refine ⟨sg, rfl, h1, ?_, h3, h4, h5⟩
    intro s hsrc
    rw [hsrc] at h2
    exact eq_of_beq h2

theorem typeOf_inv {v : Dyn} {t : Ty} (h : typeOf v = t) :
    match t with
    | .none => v = .nil
    | .int t => ∃ x, v = .int t x
    | .f64 => ∃ x, v = .f64 x
    | .f32 => ∃ x, v = .f32 x
    | .bool => ∃ x, v = .bool x
    | .str => ∃ x, v = .str x
    | .bytes => ∃ x, v = .bytes x
    | .num => ∃ x, v = .num x
    | .time => ∃ x, v = .time x
    | .other => True := by
  subst h
  cases v <;> simp [typeOf]

theorem good_via {T : CastTables} {ext : Ext} {promised : String → Option Ty} {fuel : Nat}
    (ih : Inv T ext promised fuel) {a b sent : String} {ta want : Ty} {v : Dyn}
    (ha : isCaster T a = true ∧ promised a = some ta) (hb : isCaster T b = true ∧ promised b = some want)
    (hta : ta ≠ .none) (hv : typeOf v ≠ .none) (hs : wrapsRoot T.sentinels 4 sent = true) :
    Good want (via T (callNamed T ext fuel) a b sent v) := by
  have ho := ih.call a v _ (calleeTy_caster ha.1 ha.2 hv)
  unfold via
  generalize callNamed T ext fuel a v = o at ho
  cases o with
  | ok i => exact ih.call b i _ (calleeTy_caster hb.1 hb.2 (by rw [ho]; exact hta))
  | err e => cases e <;> simp [failWith, hs]
  | panic s => exact ho

theorem good_nonzero {T : CastTables} {a : Ty} {call : String → Dyn → Outcome Dyn} {v : Dyn}
    (ho : Good a (call "ToFloat64" v)) (hs : wrapsRoot T.sentinels 4 "ErrUnableToCastToBool" = true) :
    Good .bool (nonzero T call v) := by
  unfold nonzero
  generalize call "ToFloat64" v = o at ho
  cases o with
  | ok i => cases i <;> simp [typeOf]
  | err e => cases e <;> simp [failWith, hs]
  | panic s => exact ho

theorem good_fallback {w : Ty} {o alt : Outcome Dyn} (ho : Good w o) (ha : Good w alt) :
    Good w (orElse o alt) := by
  cases o with
  | ok t => exact ho
  | err e => cases e <;> first | exact ha | exact good_ext _
  | panic p => exact ho

theorem special_step {T : CastTables} {ext : Ext} {promised : String → Option Ty} {fuel : Nat}
    (ih : Inv T ext promised fuel)
    (id : String) (v : Dyn) (want : Ty)
    (h : specialOK T promised want (typeOf v) id = true) :
    Good want (special T ext (fuel + 1) id v) := by
  obtain ⟨sg, hsg, hv, hsrc, hres, hcal, hsent⟩ := specialOK_unpack h
  unfold specialSig at hsg
  split at hsg <;> cases hsg <;> simp at hsrc hres hcal hsent <;> subst hres
  · -- binary.default
    rw [special_binary_default]
    split
    · rfl
    · exact failWith_good T _ _ hsent
  · -- bool.string
    obtain ⟨s, rfl⟩ := typeOf_inv hsrc
    rw [special_bool_string]
    dsimp only
    split
    · rfl
    · exact good_nonzero (ih.call "ToFloat64" _ _ (calleeTy_caster hcal.1 hcal.2 hv)) hsent
  · -- bool.number
    rw [special_bool_number]
    exact good_nonzero (ih.call "ToFloat64" v _ (calleeTy_caster hcal.1 hcal.2 hv)) hsent
  · -- date.string
    obtain ⟨s, rfl⟩ := typeOf_inv hsrc
    rw [special_date_string]
    dsimp only
    exact good_ite rfl (good_via ih hcal.1 hcal.2 (by simp) hv hsent)
  · -- date.bytes
    obtain ⟨s, rfl⟩ := typeOf_inv hsrc
    rw [special_date_bytes]
    dsimp only
    exact good_fallback (ih.call "ToDate" (.str s) _ (calleeTy_caster (a := .str) hcal.2.1 hcal.2.2 (by simp)))
      (good_via ih hcal.1 hcal.2 (by simp) hv hsent)
  · -- date.default
    rw [special_date_default]
    exact good_via ih hcal.1 hcal.2 (by simp) hv hsent
  · -- time.string
    obtain ⟨s, rfl⟩ := typeOf_inv hsrc
    rw [special_time_string]
    dsimp only
    refine good_ite (good_ext _) ?_
    split
    · rfl
    · exact good_via ih hcal.1 hcal.2 (by simp) hv hsent
  · -- time.bytes
    obtain ⟨s, rfl⟩ := typeOf_inv hsrc
    rw [special_time_bytes]
    dsimp only
    exact good_fallback (ih.call "ToTime" (.str s) _ (calleeTy_caster (a := .str) hcal.2.1 hcal.2.2 (by simp)))
      (good_via ih hcal.1 hcal.2 (by simp) hv hsent)
  · -- time.default
    rw [special_time_default]
    exact good_via ih hcal.1 hcal.2 (by simp) hv hsent
  · -- timestamp.string
    obtain ⟨s, rfl⟩ := typeOf_inv hsrc
    rw [special_timestamp_string]
    refine good_ite (good_ext _) ?_
    split
    · rfl
    · exact failWith_good T _ _ hsent

theorem inv_all {T : CastTables} {promised : String → Option Ty} (ext : Ext)
    (hc : CastersOK T promised) (hb : BinOK T) : ∀ fuel, Inv T ext promised fuel
  | 0 => ⟨fun _ _ _ _ => good_ext _, fun _ _ _ _ _ => good_ext _, fun _ _ _ _ => good_ext _⟩
  | fuel + 1 =>
    ⟨call_step hc hb (inv_all ext hc hb fuel), branch_step hb (inv_all ext hc hb fuel),
      special_step (inv_all ext hc hb fuel)⟩

/-! ## Typedness and totality for any table that passes the check -/

theorem tablesOKFor_unpack {promised : String → Option Ty} {T : CastTables}
    (h : tablesOKFor promised T = true) :
    CastersOK T promised ∧ BinOK T ∧ dispatchOK T promised = true := by
  simp only [tablesOKFor, Bool.and_eq_true, List.all_eq_true] at h
  obtain ⟨⟨⟨h1, h2⟩, h3⟩, _⟩ := h
  exact ⟨h1, h2, h3⟩

theorem isCaster_of_mem {T : CastTables} {name : String}
    (h : name ∈ T.casters.map (·.name)) : isCaster T name = true := by
  simp only [List.mem_map] at h
  obtain ⟨c, hc, rfl⟩ := h
  simp only [isCaster, List.find?_isSome]
  exact ⟨c, hc, by simp⟩

theorem promised_of_ok {T : CastTables} (h : tablesOK T = true) {name : String}
    (hn : isCaster T name = true) : ∃ t, resultTyOfCaster? name = some t ∧ t ≠ .none := by
  obtain ⟨hc, _, _⟩ := tablesOKFor_unpack h
  unfold isCaster at hn
  cases hf : T.casters.find? (fun c => c.name == name) with
  | none => simp [hf] at hn
  | some c =>
    obtain ⟨hmem, hname⟩ := find_caster hf
    obtain ⟨t, hp, htn, _, _⟩ := casterOK_branch (hc c hmem)
    exact ⟨t, hname ▸ hp, htn⟩

theorem callNamed_good {T : CastTables} (ext : Ext) (h : tablesOK T = true) {name : String}
    (hn : isCaster T name = true) {t : Ty} (ht : resultTyOfCaster? name = some t) (fuel : Nat)
    (v : Dyn) : Good (wantFor t (typeOf v)) (callNamed T ext fuel name v) := by
  obtain ⟨hc, hb, _⟩ := tablesOKFor_unpack h
  apply (inv_all ext hc hb fuel).call
  unfold calleeTy wantFor
  simp only [hn, if_true, ht]
  split <;> rfl

theorem wantFor_eq_none {t vt : Ty} (ht : t ≠ .none) : wantFor t vt = .none ↔ vt = .none := by
  unfold wantFor
  split <;> simp_all

theorem good_ok_iff {t : Ty} (ht : t ≠ .none) {v r : Dyn}
    (hg : Good (wantFor t (typeOf v)) (.ok r)) :
    (r = .nil ↔ v = .nil) ∧ (v ≠ .nil → typeOf r = t) := by
  simp only [good_ok] at hg
  constructor
  · rw [← typeOf_eq_none, hg, wantFor_eq_none ht, typeOf_eq_none]
  · intro hv
    have : ¬ typeOf v = .none := fun h => hv (typeOf_eq_none.mp h)
    simpa [wantFor, this] using hg

theorem binGet_no_panic (T : CastTables) (f : BinFn) (v : Dyn) (h : binFnOK T f = true) (s : String) :
    binGet T f v ≠ .panic s := fun hp => by
  have hg := binGet_good T f v h
  rw [hp] at hg
  exact hg

/-- C10 (totality): no call by name panics — a caster, a function of binary_ops.go, or a name the tables do not
    have. -/
theorem callNamed_no_panic {T : CastTables} (ext : Ext) (h : tablesOK T = true) (name : String)
    (fuel : Nat) (v : Dyn) (s : String) : callNamed T ext fuel name v ≠ .panic s := by
  intro hp
  cases hn : isCaster T name with
  | true =>
    obtain ⟨t, ht, _⟩ := promised_of_ok h hn
    have hg := callNamed_good ext h hn ht fuel v
    rw [hp] at hg
    exact hg
  | false =>
    obtain ⟨_, hb, _⟩ := tablesOKFor_unpack h
    cases fuel with
    | zero => cases hp
    | succ fuel =>
      have hnone : T.casters.find? (fun c => c.name == name) = none := by
        simpa [isCaster] using hn
      simp only [callNamed, hnone] at hp
      split at hp
      · rename_i n f hf
        exact binGet_no_panic T f v (hb _ (List.mem_of_find?_eq_some hf)) s hp
      · cases hp

theorem callNamed_nil {T : CastTables} (hT : tablesOK T = true) (ext : Ext) {name : String}
    (hn : isCaster T name = true) (fuel : Nat) : callNamed T ext (fuel + 2) name .nil = .ok .nil := by
  obtain ⟨hc, _, _⟩ := tablesOKFor_unpack hT
  obtain ⟨c, hf⟩ := Option.isSome_iff_exists.mp hn
  obtain ⟨_, _, _, hnil, _⟩ := casterOK_branch (hc c (find_caster hf).1)
  rw [callNamed_caster hf]
  show evalBranch T ext (fuel + 1) c.name (findClause c .none) .nil = _
  generalize findClause c .none = br at hnil ⊢
  unfold nilBranchOK at hnil
  split at hnil
  · rfl
  · rfl
  · cases hnil

theorem isCaster_of_clause {T : CastTables} {name : String} {ty : Ty} {br : Branch}
    (h : clauseOf T name ty = some br) : isCaster T name = true := by
  obtain ⟨c, hf, _⟩ := Option.map_eq_some_iff.mp h
  exact Option.isSome_iff_exists.mpr ⟨c, hf⟩

theorem clause_ok {T : CastTables} (hT : tablesOK T = true) {name : String} {ty : Ty} {br : Branch}
    (h : clauseOf T name ty = some br) : ∃ want, branchOK T resultTyOfCaster? want ty br = true := by
  obtain ⟨hc, _, _⟩ := tablesOKFor_unpack hT
  obtain ⟨c, hf, rfl⟩ := Option.map_eq_some_iff.mp h
  obtain ⟨t, _, _, _, hall⟩ := casterOK_branch (hc c (find_caster hf).1)
  exact ⟨_, hall ty⟩

theorem parse_wraps {T : CastTables} (hT : tablesOK T = true) {name : String} {ty : Ty}
    {fn : ParseFn} {e : E} {s : String} (h : clauseOf T name ty = some (.parse fn e s)) :
    wrapsRoot T.sentinels 4 s = true := by
  obtain ⟨_, hw⟩ := clause_ok hT h
  simp only [branchOK, Bool.and_eq_true] at hw
  exact hw.1.2

/-! ### `cast.To` -/

theorem dispatchOf_ok {T : CastTables} {promised : String → Option Ty} (hd : dispatchOK T promised = true)
    (t : Ty) :
    (t = .none ∧ dispatchOf T t = .ret .val) ∨
    (t ≠ .none ∧ ∃ callee, dispatchOf T t = .tail callee .val ∧ isCaster T callee = true ∧
      promised callee = some t) ∨
    (t = .other ∧ ∃ s, dispatchOf T t = .fail s ∧ wrapsRoot T.sentinels 4 s = true) := by
  simp only [dispatchOK, Bool.and_eq_true, List.all_eq_true] at hd
  have h1 := hd.1 t (mem_allTys t)
  have h2 := hd.2
  unfold dispatchOf
  cases hf : T.dispatchTo.find? (fun p => p.1 == t) with
  | some p =>
    obtain ⟨t', br⟩ := p
    simp only [hf] at h1 ⊢
    split at h1
    · rename_i ht
      exact .inl ⟨eq_of_beq ht, eq_of_beq h1⟩
    · rename_i ht
      simp only [Bool.and_eq_true] at h1
      obtain ⟨hbr, _⟩ := h1
      split at hbr
      · simp only [Bool.and_eq_true, beq_iff_eq] at hbr
        exact .inr (.inl ⟨by simpa using ht, _, rfl, hbr.1, hbr.2⟩)
      · cases hbr
  | none =>
    simp only [hf, beq_iff_eq] at h1 ⊢
    split at h2
    · rename_i s hs
      exact .inr (.inr ⟨h1, s, hs, h2⟩)
    · cases h2

theorem castTo_good {T : CastTables} (ext : Ext) (h : tablesOK T = true) {t : Ty} (ht : t ≠ .none)
    (v : Dyn) : Good (wantFor t (typeOf v)) (castTo T ext t v) := by
  obtain ⟨_, _, hd⟩ := tablesOKFor_unpack h
  rcases dispatchOf_ok hd t with ⟨hn, _⟩ | ⟨_, callee, hb, hc, hp⟩ | ⟨_, s, hb, hs⟩
  · exact absurd hn ht
  · rw [castTo_tail hb]
    exact callNamed_good ext h hc hp 23 v
  · rw [castTo_dispatch, hb]
    exact failWith_good T s _ hs

theorem castTo_none (T : CastTables) (ext : Ext) (h : tablesOK T = true) (v : Dyn) :
    castTo T ext .none v = .ok v := by
  obtain ⟨_, _, hd⟩ := tablesOKFor_unpack h
  rcases dispatchOf_ok hd .none with ⟨_, hb⟩ | ⟨hn, _⟩ | ⟨ho, _⟩
  · rw [castTo_dispatch, hb]
    rfl
  · exact absurd rfl hn
  · cases ho

theorem castTo_nil {T : CastTables} (hT : tablesOK T = true) (ext : Ext) (ty : Ty) :
    castTo T ext ty .nil = .ok .nil ∨ castTo T ext ty .nil = .err .cast := by
  obtain ⟨_, _, hd⟩ := tablesOKFor_unpack hT
  rcases dispatchOf_ok hd ty with ⟨_, hb⟩ | ⟨_, callee, hb, hn, _⟩ | ⟨_, s, hb, hs⟩
  · exact .inl (by rw [castTo_dispatch, hb]; rfl)
  · exact .inl ((castTo_tail hb ext .nil).trans (callNamed_nil hT ext hn 21))
  · exact .inr (by rw [castTo_dispatch, hb]; exact failWith_of_wraps hs)

/-- The oracle of the differential harness (`CastSpec.typedViolation`) accepts every outcome
    the soundness theorem allows, the EXT marker aside. -/
theorem typedViolation_of_good {t : Ty} (ht : t ≠ .none) {v : Dyn} {o : Outcome Dyn}
    (hg : Good (wantFor t (typeOf v)) o) :
    CastSpec.typedViolation t v o = none ∨ o = .err .ext := by
  cases o with
  | panic s => exact absurd hg (by simp)
  | err e =>
    simp only [good_err] at hg
    rcases hg with rfl | rfl
    · left; rfl
    · right; rfl
  | ok r =>
    left
    obtain ⟨h1, h2⟩ := good_ok_iff ht hg
    unfold CastSpec.typedViolation
    simp only
    split
    · rfl
    · rename_i hr; exact absurd (h1.mpr rfl) hr
    · rename_i hv; exact absurd (h1.mp rfl) hv
    · rename_i hv _ _; simp [h2 hv]

/-! ## The regenerated tables -/

/-- The conversion functions of pkg/cast. -/
def casterNames : List String :=
  ["ToInt", "ToInt64", "ToInt32", "ToInt16", "ToInt8", "ToUint", "ToUint64", "ToUint32", "ToUint16",
   "ToUint8", "ToFloat64", "ToFloat32", "ToBool", "ToString", "ToNumber", "ToBinary", "ToTime",
   "ToDate", "ToTimestamp"]

theorem casterNames_present : casterNames.all (isCaster genTables) = true := by decide +kernel

theorem gen_isCaster {name : String} (hn : name ∈ casterNames) : isCaster genTables name = true :=
  List.all_eq_true.mp casterNames_present name hn

/-- C10 for the casters of the current source, in one statement. -/
theorem gen_cast_C10 (ext : Ext) (name : String) (hn : name ∈ casterNames) (v : Dyn) :
    match castNamed genTables ext name v with
    | .ok r => (r = .nil ↔ v = .nil) ∧ (v ≠ .nil → some (typeOf r) = resultTyOfCaster? name)
    | .err e => e = .cast ∨ e = .ext
    | .panic _ => False := by
  obtain ⟨t, ht, htn⟩ := promised_of_ok genTables_ok (gen_isCaster hn)
  have hg := callNamed_good ext genTables_ok (gen_isCaster hn) ht 24 v
  rw [ht]
  unfold castNamed
  generalize callNamed genTables ext 24 name v = o at hg
  cases o with
  | ok r => exact ⟨(good_ok_iff htn hg).1, fun hv => congrArg some ((good_ok_iff htn hg).2 hv)⟩
  | err e => exact hg
  | panic s => exact hg

theorem gen_cast_typed (ext : Ext) (name : String) (hn : name ∈ casterNames) (v r : Dyn)
    (hr : castNamed genTables ext name v = .ok r) :
    (r = .nil ↔ v = .nil) ∧ (v ≠ .nil → some (typeOf r) = resultTyOfCaster? name) := by
  simpa only [hr] using gen_cast_C10 ext name hn v

theorem call_result_ty (ext : Ext) {name : String} (hn : name ∈ casterNames) {t : Ty}
    (ht : resultTyOfCaster? name = some t) (hne : t ≠ .none) (fuel : Nat) {v r : Dyn} (hv : v ≠ .nil)
    (h : callNamed genTables ext fuel name v = .ok r) : typeOf r = t :=
  (good_ok_iff hne (h ▸ callNamed_good ext genTables_ok (gen_isCaster hn) ht fuel v)).2 hv

theorem gen_cast_no_panic (ext : Ext) (name : String) (v : Dyn) (s : String) :
    castNamed genTables ext name v ≠ .panic s :=
  callNamed_no_panic ext genTables_ok name 24 v s

theorem gen_cast_err (ext : Ext) (name : String) (hn : name ∈ casterNames) (v : Dyn) (e : ErrClass)
    (he : castNamed genTables ext name v = .err e) : e = .cast ∨ e = .ext := by
  simpa only [he] using gen_cast_C10 ext name hn v

theorem gen_cast_nil (ext : Ext) (name : String) (hn : name ∈ casterNames) :
    castNamed genTables ext name .nil = .ok .nil :=
  callNamed_nil genTables_ok ext (gen_isCaster hn) 22

theorem gen_castTo_none (ext : Ext) (v : Dyn) : castTo genTables ext .none v = .ok v :=
  castTo_none genTables ext genTables_ok v

/-- C10 for `cast.To` of the current source, in one statement (`t` = dynamic type of the
    sample; `Ty.none` = nil sample, `Ty.other` = a sample of a type without a case). -/
theorem gen_castTo_C10 (ext : Ext) (t : Ty) (v : Dyn) :
    match castTo genTables ext t v with
    | .ok r => if t = .none then r = v else (r = .nil ↔ v = .nil) ∧ (v ≠ .nil → typeOf r = t)
    | .err e => e = .cast ∨ e = .ext
    | .panic _ => False := by
  by_cases ht : t = .none
  · subst ht
    rw [gen_castTo_none]
    exact (if_pos rfl).mpr rfl
  · have hg := castTo_good ext genTables_ok ht v
    generalize castTo genTables ext t v = o at hg
    cases o with
    | ok r => exact (if_neg ht).mpr (good_ok_iff ht hg)
    | err e => exact hg
    | panic s => exact hg

theorem gen_castTo_typed (ext : Ext) (t : Ty) (ht : t ≠ .none) (v r : Dyn)
    (hr : castTo genTables ext t v = .ok r) : (r = .nil ↔ v = .nil) ∧ (v ≠ .nil → typeOf r = t) := by
  simpa only [hr, if_neg ht] using gen_castTo_C10 ext t v

theorem gen_castTo_no_panic (ext : Ext) (t : Ty) (v : Dyn) (s : String) :
    castTo genTables ext t v ≠ .panic s := fun hp => by
  simpa only [hp] using gen_castTo_C10 ext t v

theorem gen_castTo_err (ext : Ext) (t : Ty) (v : Dyn) (e : ErrClass)
    (he : castTo genTables ext t v = .err e) : e = .cast ∨ e = .ext := by
  simpa only [he] using gen_castTo_C10 ext t v

/-- C10 in the words of the harness oracle. -/
theorem gen_cast_no_violation (ext : Ext) (name : String) (hn : name ∈ casterNames) (v : Dyn)
    (want : Ty) (hw : resultTyOfCaster? name = some want) :
    CastSpec.typedViolation want v (castNamed genTables ext name v) = none ∨
      castNamed genTables ext name v = .err .ext := by
  obtain ⟨t, ht, htn⟩ := promised_of_ok genTables_ok (gen_isCaster hn)
  have : t = want := by rw [ht] at hw; exact Option.some.inj hw
  subst this
  exact typedViolation_of_good htn (callNamed_good ext genTables_ok (gen_isCaster hn) ht 24 v)

end CastTyped
end Jl
