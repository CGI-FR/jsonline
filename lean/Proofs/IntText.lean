/-
  Proofs.IntText — FormatInt / ParseInt / ParseUint round trips, canonical decimal text, and what may
  follow a JSON number literal (`NumberEnds`; that FormatInt's output is one is in Proofs.JsonLexical).
-/
import Proofs.Digits
import Model.CastSpec
import Model.JsonRead

namespace Jl.IntText

/-! ### `ParseUint` on `natDigits`

`parseUint0` and `parseInt0.parseUintAny` are restated over a named copy (`basePrefix`) of
their inline base-prefix `match`; the restatements hold by unfolding. -/

def basePrefix (s : Bytes) : Nat × Bytes :=
  match s with
  | 0x30 :: p :: rest =>
    if rest.length ≥ 1 && lower p == 0x62 then (2, rest)
    else if rest.length ≥ 1 && lower p == 0x6F then (8, rest)
    else if rest.length ≥ 1 && lower p == 0x78 then (16, rest)
    else (8, p :: rest)
  | 0x30 :: rest => (8, rest)
  | _ => (10, s)

theorem parseUintAny_eq (s : Bytes) :
    parseInt0.parseUintAny s =
      if s.isEmpty then none
      else
        match digitsVal (basePrefix s).1 true (basePrefix s).2 0 with
        | none => none
        | some n => if (basePrefix s).2.contains 0x5F && !underscoreOK s then none else some n := rfl

theorem parseUint0_eq (s : Bytes) (bits : Nat) :
    parseUint0 s bits =
      if s.isEmpty then none
      else
        match digitsVal (basePrefix s).1 true (basePrefix s).2 0 with
        | none => none
        | some n =>
          if n ≥ 2 ^ (if bits = 0 then 64 else bits) then none
          else if (basePrefix s).2.contains 0x5F && !underscoreOK s then none else some n := by
  unfold parseUint0 basePrefix
  simp only [beq_iff_eq]
  rfl

theorem basePrefix_of_ne {c : UInt8} (tl : Bytes) (hc : c ≠ 0x30) :
    basePrefix (c :: tl) = (10, c :: tl) := by
  simp [basePrefix, hc]

theorem basePrefix_zero : basePrefix [0x30] = (8, []) := rfl

theorem parseUint0_eq_bind (s : Bytes) (bits : Nat) :
    parseUint0 s bits = (parseInt0.parseUintAny s).bind
      (fun n => if n < 2 ^ (if bits = 0 then 64 else bits) then some n else none) := by
  rw [parseUint0_eq, parseUintAny_eq]
  generalize (if bits = 0 then 64 else bits) = b
  by_cases hs : s.isEmpty
  · simp [hs]
  · simp only [hs]
    cases digitsVal (basePrefix s).1 true (basePrefix s).2 0 with
    | none => rfl
    | some n =>
      generalize ((basePrefix s).2.contains 0x5F && !underscoreOK s) = u
      by_cases hn : n < 2 ^ b
      · cases u <;> simp [hn, Nat.not_le.2 hn]
      · cases u <;> simp [hn, Nat.not_lt.1 hn]

theorem natDigits_contains_underscore (n : Nat) : (natDigits n).contains 0x5F = false := by
  simp only [List.contains_eq_mem, decide_eq_false_iff_not]
  exact fun h => absurd (natDigits_all_isDig n _ h) (by decide)

theorem ne_of_toNat_ne {a b : UInt8} (h : a.toNat ≠ b.toNat) : a ≠ b :=
  fun e => h (by rw [e])

theorem parseUintAny_natDigits (n : Nat) : parseInt0.parseUintAny (natDigits n) = some n := by
  rw [parseUintAny_eq]
  by_cases hn : n = 0
  · subst hn; rw [natDigits_zero]; rfl
  · obtain ⟨c, tl, e, h1, h2, h3⟩ := natDigits_pos_shape n (by omega)
    have hc : c ≠ 0x30 := ne_of_toNat_ne (by simp; omega)
    have hb : basePrefix (natDigits n) = (10, natDigits n) := by rw [e]; exact basePrefix_of_ne tl hc
    rw [hb]
    simp only [digitsVal_natDigits, natDigits_contains_underscore]
    simp [natDigits_ne_nil]

theorem parseUint0_natDigits (n bits : Nat) :
    parseUint0 (natDigits n) bits
      = if n < 2 ^ (if bits = 0 then 64 else bits) then some n else none := by
  rw [parseUint0_eq_bind, parseUintAny_natDigits]; rfl

example : natDigits 255 = [0x32, 0x35, 0x35] := by simp [natDigits, digitChar]
example : natDigits 255 = [0x32, 0x35, 0x35] := by
  rw [natDigits_ge (by omega), natDigits_ge (by omega), natDigits_lt (by omega)]; decide
example : parseUint0 (natDigits 0) 8 = some 0 := by simp [parseUint0_natDigits]
example : parseUint0 (natDigits 255) 8 = some 255 := by simp [parseUint0_natDigits]
example : parseUint0 (natDigits 256) 8 = none := by simp [parseUint0_natDigits]
example : parseUint0 [0x30] 8 = some 0 := by decide
example : parseUint0 [0x32, 0x35, 0x35] 8 = some 255 := by decide
example : parseUint0 [0x32, 0x35, 0x36] 8 = none := by decide

/-! ### `ParseInt`: the sign -/

theorem parseInt0_cons (c : UInt8) (tl : Bytes) (bits : Nat) :
    parseInt0 (c :: tl) bits =
      (parseInt0.parseUintAny (if c = 0x2D ∨ c = 0x2B then tl else c :: tl)).bind fun un =>
        if c = 0x2D then
          if un > 2 ^ ((if bits = 0 then 64 else bits) - 1) then none else some (-(un : Int))
        else if un ≥ 2 ^ ((if bits = 0 then 64 else bits) - 1) then none else some (un : Int) := by
  unfold parseInt0
  obtain rfl | h2 := Decidable.em (c = 0x2D)
  · cases h : parseInt0.parseUintAny tl <;> simp [h]
  · obtain rfl | h1 := Decidable.em (c = 0x2B)
    · cases h : parseInt0.parseUintAny tl <;> simp [h]
    · cases h : parseInt0.parseUintAny (c :: tl) <;> simp [h, h1, h2]

theorem natDigits_head_ne_sign (n : Nat) :
    ∃ c tl, natDigits n = c :: tl ∧ c ≠ 0x2B ∧ c ≠ 0x2D := by
  match natDigits n, natDigits_ne_nil n, natDigits_all_isDig n with
  | c :: tl, _, hall =>
    have ⟨h1, h2⟩ := hall c (by simp)
    exact ⟨c, tl, rfl, ne_of_toNat_ne (by simp; omega), ne_of_toNat_ne (by simp; omega)⟩

/-! ### `ParseInt` / `ParseUint` on any text: the specification's reading, then the range check;
    `formatInt` read back -/

/-- The specification's reading of a text that is not canonical decimal (`CastSpec.numVal`): optional
    sign, then Go's base-0 unsigned literal syntax, no range check. -/
def specText (s : Bytes) : Option Int :=
  (parseInt0.parseUintAny (match s with | 0x2D :: r => r | 0x2B :: r => r | _ => s)).map fun u =>
    match s with | 0x2D :: _ => -(u : Int) | _ => (u : Int)

theorem specText_cons (c : UInt8) (tl : Bytes) :
    specText (c :: tl) =
      (parseInt0.parseUintAny (if c = 0x2D ∨ c = 0x2B then tl else c :: tl)).map fun (u : Nat) =>
        if c = 0x2D then -(u : Int) else (u : Int) := by
  unfold specText
  split <;> simp_all [Option.map_eq_bind, Function.comp_def, Option.bind_assoc]

theorem parseInt0_eq_spec (s : Bytes) (bits : Nat) :
    parseInt0 s bits =
      (specText s).bind fun v =>
        if -(2 ^ ((if bits = 0 then 64 else bits) - 1) : Int) ≤ v ∧ v < 2 ^ ((if bits = 0 then 64 else bits) - 1)
        then some v else none := by
  generalize hk : (if bits = 0 then 64 else bits) - 1 = k
  have hP : ((2 ^ k : Nat) : Int) = (2 : Int) ^ k := by simp
  rw [← hP]
  have hpos : 0 < (2 ^ k : Nat) := Nat.two_pow_pos k
  cases s with
  | nil => rfl
  | cons c tl =>
    rw [parseInt0_cons, specText_cons, hk]
    generalize (2 ^ k : Nat) = P at hpos ⊢
    cases parseInt0.parseUintAny (if c = 0x2D ∨ c = 0x2B then tl else c :: tl) with
    | none => rfl
    | some un =>
      simp only [Option.bind_some, Option.map_some]
      by_cases hc : c = 0x2D
      · rw [if_pos hc, if_pos hc]
        by_cases h : un > P
        · rw [if_pos h, if_neg (by omega)]
        · rw [if_neg h, if_pos (by omega)]
      · rw [if_neg hc, if_neg hc]
        by_cases h : un ≥ P
        · rw [if_pos h, if_neg (by omega)]
        · rw [if_neg h, if_pos (by omega)]

theorem parseUintAny_sign (c : UInt8) (tl : Bytes) (h : c = 0x2D ∨ c = 0x2B) :
    parseInt0.parseUintAny (c :: tl) = none := by
  rcases h with rfl | rfl <;> rw [parseUintAny_eq, basePrefix_of_ne _ (by decide)] <;> rfl

theorem parseUint0_some_spec {s : Bytes} {bits n : Nat} (h : parseUint0 s bits = some n) :
    specText s = some (n : Int) ∧ n < 2 ^ (if bits = 0 then 64 else bits) := by
  rw [parseUint0_eq_bind] at h
  obtain ⟨m, hp, hm⟩ := Option.bind_eq_some_iff.1 h
  simp only [Option.ite_none_right_eq_some, Option.some.injEq] at hm
  obtain ⟨hm, rfl⟩ := hm
  refine ⟨?_, hm⟩
  cases s with
  | nil => simp [parseUintAny_eq] at hp
  | cons c tl =>
    have hs : ¬ (c = 0x2D ∨ c = 0x2B) := fun hs => by rw [parseUintAny_sign c tl hs] at hp; cases hp
    rw [specText_cons, if_neg hs, hp, Option.map_some, if_neg (not_or.1 hs).1]

theorem specText_formatInt (v : Int) : specText (formatInt v) = some v := by
  unfold formatInt
  by_cases hv : v < 0
  · rw [if_pos hv, specText_cons, if_pos (.inl rfl), parseUintAny_natDigits, Option.map_some, if_pos rfl]
    congr 1; omega
  · obtain ⟨c, tl, e, h1, h2⟩ := natDigits_head_ne_sign v.toNat
    rw [if_neg hv, e, specText_cons, if_neg (not_or.mpr ⟨h2, h1⟩), ← e, parseUintAny_natDigits,
      Option.map_some, if_neg h2]
    congr 1; omega

theorem parseInt0_formatInt (v : Int) (bits : Nat) :
    parseInt0 (formatInt v) bits =
      if -(2 ^ ((if bits = 0 then 64 else bits) - 1) : Int) ≤ v
          ∧ v < 2 ^ ((if bits = 0 then 64 else bits) - 1)
      then some v else none := by
  rw [parseInt0_eq_spec, specText_formatInt]
  rfl

theorem parseUint0_formatInt (v : Int) (bits : Nat) :
    parseUint0 (formatInt v) bits =
      if 0 ≤ v ∧ v < 2 ^ (if bits = 0 then 64 else bits) then some v.toNat else none := by
  generalize hb : (if bits = 0 then 64 else bits) = b
  have hP : ((2 ^ b : Nat) : Int) = (2 : Int) ^ b := by simp
  rw [← hP]
  unfold formatInt
  split
  · rw [if_neg (by omega), parseUint0_eq_bind, parseUintAny_sign _ _ (.inl rfl)]
    rfl
  · rw [parseUint0_natDigits, hb]
    generalize (2 ^ b : Nat) = P
    split <;> simp <;> omega

example : formatInt (-128) = [0x2D, 0x31, 0x32, 0x38] := by
  simp [formatInt, natDigits, digitChar]
example : formatInt 0 = [0x30] := by simp [formatInt, natDigits, digitChar]
example : parseInt0 (formatInt (-128)) 8 = some (-128) := by rw [parseInt0_formatInt]; decide
example : parseInt0 (formatInt (-129)) 8 = none := by rw [parseInt0_formatInt]; decide
example : parseInt0 (formatInt 127) 8 = some 127 := by rw [parseInt0_formatInt]; decide
example : parseInt0 (formatInt 128) 8 = none := by rw [parseInt0_formatInt]; decide
example : parseInt0 (formatInt 0) 0 = some 0 := by rw [parseInt0_formatInt]; decide
example : parseInt0 [0x2D, 0x31, 0x32, 0x38] 8 = some (-128) := by decide
example : parseInt0 [0x31, 0x32, 0x38] 8 = none := by decide
example : parseInt0 [0x30] 8 = some 0 := by decide
example : parseUint0 (formatInt 255) 8 = some 255 := by rw [parseUint0_formatInt]; decide
example : parseUint0 (formatInt 256) 8 = none := by rw [parseUint0_formatInt]; decide
example : parseUint0 (formatInt (-1)) 8 = none := by rw [parseUint0_formatInt]; decide
example : parseUint0 (formatInt 0) 8 = some 0 := by rw [parseUint0_formatInt]; decide
example : parseUint0 [0x2D, 0x31] 8 = none := by decide

/-! ### A text whose last byte is no digit is no integer text -/

def EndsBad (s : Bytes) : Prop := ∃ xs c, s = xs ++ [c] ∧ digitVal c = none ∧ c ≠ 0x5F

theorem endsBad_tail {x : UInt8} {s : Bytes} (h : EndsBad (x :: s)) (hs : s ≠ []) : EndsBad s := by
  obtain ⟨xs, c, e, h⟩ := h
  cases xs with
  | nil => cases e; exact absurd rfl hs
  | cons y ys => cases e; exact ⟨ys, c, rfl, h⟩

theorem digitsVal_endsBad (base : Nat) (b0 : Bool) (s : Bytes) (h : EndsBad s) (acc : Nat) :
    digitsVal base b0 s acc = none := by
  obtain ⟨xs, c, rfl, h1, h2⟩ := h
  induction xs generalizing acc with
  | nil => simp [digitsVal, h1, h2]
  | cons x xs ih =>
    simp only [List.cons_append, digitsVal]
    split
    · exact ih acc
    · cases digitVal x with
      | none => rfl
      | some d => simp only; split; rfl; exact ih _

/-- `3 ≤ s.length`: the base prefix takes at most two bytes, so the last byte stays (`4` below: one more
    for the sign).  Shorter texts are not needed (the user is `Pairings.endsBad_put_sec`, 8 bytes). -/
theorem basePrefix_endsBad (s : Bytes) (h : EndsBad s) (hl : 3 ≤ s.length) :
    EndsBad (basePrefix s).2 := by
  unfold basePrefix
  split
  · rename_i p rest
    have h1 : EndsBad (p :: rest) := endsBad_tail h (by simp)
    have h2 : EndsBad rest := endsBad_tail h1 (by rintro rfl; simp at hl)
    -- every branch leaves `rest` or `p :: rest`
    repeat' split
    all_goals assumption
  · exact endsBad_tail h (by rintro rfl; simp at hl)
  · exact h

theorem parseUintAny_endsBad (s : Bytes) (h : EndsBad s) (hl : 3 ≤ s.length) :
    parseInt0.parseUintAny s = none := by
  rw [parseUintAny_eq, digitsVal_endsBad _ _ _ (basePrefix_endsBad s h hl)]
  split <;> rfl

theorem parseInt0_endsBad (s : Bytes) (bits : Nat) (h : EndsBad s) (hl : 4 ≤ s.length) :
    parseInt0 s bits = none := by
  match s, hl with
  | c :: rest, hl =>
    have hr : rest ≠ [] := by intro e; subst e; simp at hl
    have hp : parseInt0.parseUintAny (if c = 0x2D ∨ c = 0x2B then rest else c :: rest) = none := by
      split
      · exact parseUintAny_endsBad rest (endsBad_tail h hr) (by simp at hl ⊢; omega)
      · exact parseUintAny_endsBad (c :: rest) h (by simp at hl ⊢; omega)
    rw [parseInt0_cons, hp]
    rfl

open CastSpec

/-! ### Canonical decimal text -/

def signSplit (s : Bytes) : Bool × Bytes :=
  match s with
  | 0x2D :: r => (true, r)
  | _ => (false, s)

def canonBody (neg : Bool) (body : Bytes) : Option Int :=
  match body with
  | [] => none
  | [0x30] => if neg then none else some 0
  | c :: rest =>
    if 0x31 ≤ c && c ≤ 0x39 && rest.all (fun d => 0x30 ≤ d && d ≤ 0x39) then
      let n : Nat := (c :: rest).foldl decStep 0
      some (if neg then -(n : Int) else (n : Int))
    else none

theorem canonicalDecimal_eq (s : Bytes) :
    canonicalDecimal s = canonBody (signSplit s).1 (signSplit s).2 := rfl

theorem signSplit_minus (r : Bytes) : signSplit (0x2D :: r) = (true, r) := rfl

theorem signSplit_of_ne {c : UInt8} (tl : Bytes) (h : c ≠ 0x2D) :
    signSplit (c :: tl) = (false, c :: tl) := by
  simp [signSplit, h]

theorem signSplit_cases (s : Bytes) :
    (∃ r, s = 0x2D :: r ∧ signSplit s = (true, r)) ∨ signSplit s = (false, s) := by
  unfold signSplit
  split
  · exact .inl ⟨_, rfl, rfl⟩
  · exact .inr rfl

theorem digitChar_of_isDig {d : UInt8} (h : IsDig d) : digitChar (d.toNat - 48) = d := by
  unfold IsDig at h
  apply UInt8.toNat_inj.1
  rw [digitChar_toNat (by omega)]; omega

theorem natDigits_foldl_decStep (ds : Bytes) (acc : Nat) (hacc : 0 < acc)
    (hds : ∀ d ∈ ds, IsDig d) :
    natDigits (ds.foldl decStep acc) = natDigits acc ++ ds := by
  induction ds generalizing acc with
  | nil => simp
  | cons d ds ih =>
    have hd : IsDig d := hds d (by simp)
    have hd' := hd
    unfold IsDig at hd'
    rw [List.foldl_cons, ih _ (by unfold decStep; omega) (fun x hx => hds x (by simp [hx]))]
    have hge : ¬ decStep acc d < 10 := by unfold decStep; omega
    rw [natDigits_ge hge]
    have h1 : decStep acc d / 10 = acc := by unfold decStep; omega
    have h2 : decStep acc d % 10 = d.toNat - 48 := by unfold decStep; omega
    rw [h1, h2, digitChar_of_isDig hd]
    simp


theorem nonzero_digit_iff (c : UInt8) :
    (0x31 ≤ c && c ≤ 0x39) = true ↔ (49 ≤ c.toNat ∧ c.toNat ≤ 57) := by
  simp [UInt8.le_iff_toNat_le]

theorem canonBody_natDigits_pos (neg : Bool) (m : Nat) (hm : 0 < m) :
    canonBody neg (natDigits m) = some (if neg then -(m : Int) else (m : Int)) := by
  obtain ⟨c, tl, e, h1, h2, h3⟩ := natDigits_pos_shape m hm
  have hf := foldl_decStep_natDigits m 0
  rw [e] at hf ⊢
  have hc : (0x31 ≤ c && c ≤ 0x39) = true := (nonzero_digit_iff c).2 ⟨h1, h2⟩
  have htl : tl.all (fun d => 0x30 ≤ d && d ≤ 0x39) = true := by simpa [isDig_iff] using h3
  unfold canonBody
  split
  · contradiction
  · rename_i h; cases h; exact absurd h1 (by decide)
  · rename_i h; cases h; simp [hc, htl, hf]

theorem canonBody_some {neg : Bool} {body : Bytes} {v : Int} (h : canonBody neg body = some v) :
    (neg = false ∧ body = [0x30] ∧ v = 0) ∨
      ∃ m : Nat, 0 < m ∧ body = natDigits m ∧ v = if neg then -(m : Int) else (m : Int) := by
  revert h
  fun_cases canonBody neg body
  · rintro ⟨⟩
  · rintro ⟨⟩
  · rintro ⟨⟩; exact .inl ⟨by simp_all, rfl, rfl⟩
  · rename_i c tl _ hc _
    rintro ⟨⟩
    simp only [Bool.and_eq_true, decide_eq_true_eq, List.all_eq_true, ← isDig_iff] at hc
    simp [UInt8.le_iff_toNat_le] at hc
    obtain ⟨⟨h1, h2⟩, h3⟩ := hc
    have hnd : natDigits ((c :: tl).foldl decStep 0) = c :: tl := by
      rw [List.foldl_cons, natDigits_foldl_decStep tl _ (by unfold decStep; omega) h3,
        show decStep 0 c = c.toNat - 48 by unfold decStep; omega, natDigits_lt (by omega),
        digitChar_of_isDig ⟨by omega, h2⟩]
      rfl
    refine .inr ⟨_, Nat.pos_of_ne_zero fun h0 => ?_, hnd.symm, rfl⟩
    rw [h0, natDigits_zero] at hnd
    cases hnd
    exact absurd h1 (by decide)
  · rintro ⟨⟩

theorem canonicalDecimal_formatInt (v : Int) : canonicalDecimal (formatInt v) = some v := by
  rw [canonicalDecimal_eq]
  unfold formatInt
  by_cases hv : v < 0
  · simp only [hv, if_true, signSplit_minus]
    rw [canonBody_natDigits_pos true _ (by omega)]
    simp; omega
  · simp only [hv, if_false]
    by_cases h0 : v = 0
    · subst h0
      rw [show (0 : Int).toNat = 0 from rfl, natDigits_zero]; rfl
    · obtain ⟨c, tl, e, _, h2⟩ := natDigits_head_ne_sign v.toNat
      have hs : signSplit (natDigits v.toNat) = (false, natDigits v.toNat) := by
        rw [e]; exact signSplit_of_ne tl h2
      rw [hs]
      simp only []
      rw [canonBody_natDigits_pos false _ (by omega)]
      simp; omega

theorem eq_formatInt_of_canonicalDecimal {s : Bytes} {v : Int}
    (h : canonicalDecimal s = some v) : s = formatInt v := by
  rw [canonicalDecimal_eq] at h
  rcases signSplit_cases s with ⟨r, rfl, hs⟩ | hs <;> rw [hs] at h
  · rcases canonBody_some h with ⟨⟨⟩, _⟩ | ⟨m, hm, rfl, rfl⟩
    simp [formatInt, Nat.ne_of_gt hm]
  · rcases canonBody_some h with ⟨_, rfl, rfl⟩ | ⟨m, hm, rfl, rfl⟩
    · simp [formatInt, natDigits_zero]
    · have : ¬ ((m : Int) < 0) := by omega
      simp [formatInt, this]

example : canonicalDecimal (formatInt (-128)) = some (-128) := canonicalDecimal_formatInt _
example : canonicalDecimal [0x2D, 0x31, 0x32, 0x38] = some (-128) := by decide
example : canonicalDecimal [0x30] = some 0 := by decide
example : canonicalDecimal [0x2D, 0x30] = none := by decide
example : canonicalDecimal [0x30, 0x31] = none := by decide
example : canonicalDecimal [0x2B, 0x31] = none := by decide

open Json

/-! ### What may follow a number literal -/

def NumberEnds (rest : Bytes) : Prop :=
  ∀ c, rest.head? = some c → ¬ (0x30 ≤ c ∧ c ≤ 0x39) ∧ c ≠ 0x2E ∧ c ≠ 0x65 ∧ c ≠ 0x45

theorem numberEnds_nil : NumberEnds [] := fun _ hc => by cases hc

theorem numberEnds_cons {c : UInt8} (tl : Bytes)
    (h : ¬ (0x30 ≤ c ∧ c ≤ 0x39) ∧ c ≠ 0x2E ∧ c ≠ 0x65 ∧ c ≠ 0x45) : NumberEnds (c :: tl) :=
  fun _ hc => by cases hc; exact h

theorem digits_append (ds rest : Bytes) (hds : ∀ d ∈ ds, IsDig d)
    (h : ∀ c, rest.head? = some c → ¬ IsDig c) : digits (ds ++ rest) = (ds, rest) := by
  induction ds with
  | nil =>
    cases rest with
    | nil => rfl
    | cons c tl => simpa [digits, ← isDigit_iff] using h c rfl
  | cons d ds ih => simp_all [digits, ← isDigit_iff]

example : scanNumber [0x2D, 0x31, 0x32, 0x38, 0x2C] = some ([0x2D, 0x31, 0x32, 0x38], [0x2C]) := by
  decide
example : scanNumber [0x30, 0x7D] = some ([0x30], [0x7D]) := by decide
/-- Why `JsonLexical.scanNumber_iff` asks `NumberEnds`: a following digit, `.` or `e` is absorbed or fails the scan. -/
example : scanNumber [0x31, 0x32, 0x2E] = none := by decide

/-! ### `natDigits` in byte-literal form; `formatInt` is injective -/

theorem natDigits_isDigit (n : Nat) : ∀ c ∈ natDigits n, 0x30 ≤ c ∧ c ≤ 0x39 :=
  fun c hc => (isDig_iff c).1 (natDigits_all_isDig n c hc)

theorem natDigits_head_zero_iff (n : Nat) : (natDigits n).head? = some 0x30 ↔ n = 0 := by
  constructor
  · intro h
    apply Classical.byContradiction
    intro hn
    obtain ⟨c, tl, e, h1, _, _⟩ := natDigits_pos_shape n (by omega)
    rw [e] at h
    simp at h
    have : c.toNat = 48 := by rw [h]; rfl
    omega
  · rintro rfl; rw [natDigits_zero]; rfl

theorem digitsVal_natDigits_zero (n : Nat) : digitsVal 10 true (natDigits n) 0 = some n := by
  rw [digitsVal_natDigits]; simp

theorem formatInt_injective {v w : Int} (h : formatInt v = formatInt w) : v = w := by
  have := canonicalDecimal_formatInt v
  rw [h, canonicalDecimal_formatInt] at this
  exact (Option.some.inj this).symm

example : (natDigits 0).head? = some 0x30 := (natDigits_head_zero_iff 0).2 rfl
example : digitsVal 10 true [0x31, 0x32, 0x38] 0 = some 128 := by decide

end Jl.IntText
