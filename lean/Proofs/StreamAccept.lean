/-
  Proofs.StreamAccept — the stream writes EXACTLY the acceptable lines, in order
  (C07 "one in-order outcome per line, independent of neighbours" + C16 "a line is accepted iff it
  is exactly one valid JSON object whose declared columns convert" + C01 "every emitted line is one
  valid JSON object plus newline"), for a fault-free reader (any chunking), a writer that never fails
  and lines that fit the limit; under the tolerant processor (the one `jl` uses) and the default one.
-/
import Model.Stream
import Proofs.Stream
import Proofs.Scanner
import Proofs.ScannerLimit
import Proofs.LineAccept
import Proofs.JsonPrint
import Proofs.Order

namespace Jl.StreamAccept
open Jl Jl.Value Jl.Template Jl.Scanner Jl.Stream Jl.LineAccept


/-! ### 0. Vocabulary: what one line does, in terms of `jlLine` -/

/-- What the line makes `jl` write, if anything. -/
def out (cfg : Cfg) (l : Bytes) : Option Bytes :=
  match jlLine cfg.env cfg.ti cfg.to l with
  | .ok (b, none) => some b
  | _ => none

def emitted (cfg : Cfg) (l : Bytes) : Bytes := (out cfg l).getD []

def lineErr (cfg : Cfg) (l : Bytes) : Option ErrClass :=
  match jlLine cfg.env cfg.ti cfg.to l with
  | .ok (_, e) => e
  | _ => none

/-- C16's acceptance condition, with the exporter's side (`LineAccept.jlLine_accepts_iff`). -/
def Acceptable (cfg : Cfg) (l : Bytes) : Prop :=
  Grammar.IsObjectText l ∧ ConvertsAll cfg.env cfg.ti l = true ∧
    RendersAll cfg.env cfg.to (importedRow cfg.env cfg.ti l) = true

def acceptable (cfg : Cfg) (l : Bytes) : Bool :=
  Json.accepts l && ConvertsAll cfg.env cfg.ti l &&
    RendersAll cfg.env cfg.to (importedRow cfg.env cfg.ti l)

/-- No abstention on this line: `jlLine` ends with a line or an error, not with the model's "stdlib answer
    missing" marker (`.err .ext`) nor a panic.  Over the regenerated tables: `gen_settled_iff`. -/
def Settled (cfg : Cfg) (l : Bytes) : Prop := ∃ r, jlLine cfg.env cfg.ti cfg.to l = .ok r

theorem acceptable_iff (cfg : Cfg) (l : Bytes) : acceptable cfg l = true ↔ Acceptable cfg l := by
  simp only [acceptable, Acceptable, Bool.and_eq_true, JsonAcc.accepts_iff, and_assoc]

theorem out_eq_some_iff (cfg : Cfg) (l b : Bytes) :
    out cfg l = some b ↔ jlLine cfg.env cfg.ti cfg.to l = .ok (b, none) := by
  unfold out
  split
  · rename_i b' h; rw [h]; simp
  · rename_i hn
    simp only [reduceCtorEq, false_iff]
    intro h
    exact hn b h

theorem out_isSome_iff (cfg : Cfg) (l : Bytes) : (out cfg l).isSome = true ↔ Acceptable cfg l := by
  unfold Acceptable
  rw [← jlLine_accepts_iff, Option.isSome_iff_exists]
  exact exists_congr fun b => out_eq_some_iff cfg l b

theorem out_isSome_eq (cfg : Cfg) (l : Bytes) : (out cfg l).isSome = acceptable cfg l := by
  rw [Bool.eq_iff_iff, out_isSome_iff, acceptable_iff]

theorem out_eq_none_iff (cfg : Cfg) (l : Bytes) : out cfg l = none ↔ ¬ Acceptable cfg l := by
  rw [← out_isSome_iff]; cases out cfg l <;> simp

theorem settled_of_acceptable {cfg : Cfg} {l : Bytes} (h : acceptable cfg l = true) : Settled cfg l := by
  rw [← out_isSome_eq] at h
  obtain ⟨b, hb⟩ := Option.isSome_iff_exists.1 h
  exact ⟨_, (out_eq_some_iff cfg l b).1 hb⟩

theorem jlLine_of_lineErr {cfg : Cfg} {l : Bytes} {e : ErrClass} (h : lineErr cfg l = some e) :
    jlLine cfg.env cfg.ti cfg.to l = .ok ([], some e) := by
  unfold lineErr at h
  split at h
  · rename_i b e' hj
    subst h
    rw [hj, JsonPrint.jlLine_error _ _ _ _ b e hj]
  · cases h

/-! ### 1. `lineOutcome` (C07's per-line function) in terms of `jlLine` -/

/-- The processor calls a line outcome stands for; it is `ScannerLimit.callsOf` (`fold_tolerant`). -/
def ocalls : LineOutcome → List (Bool × Option ErrClass)
  | .importError e => [(false, some e)]
  | .written _ => [(true, none)]
  | .exportError e => [(true, none), (true, some e)]

/-- `lineOutcome`, totalised (the default is never met on settled lines). -/
def lo (cfg : Cfg) (l : Bytes) : LineOutcome :=
  match lineOutcome cfg l with
  | .ok o => o
  | _ => .importError .ext

/-- The processor calls the line causes, each as `(row ≠ nil, error)`. -/
def lineCalls (cfg : Cfg) (l : Bytes) : List (Bool × Option ErrClass) := ocalls (lo cfg l)

theorem lineOutcome_cases (cfg : Cfg) (l : Bytes) :
    match jlLine cfg.env cfg.ti cfg.to l with
    | .ok (b, none) => lineOutcome cfg l = .ok (.written b)
    | .ok (_, some e) =>
      lineOutcome cfg l = .ok (.importError e) ∨ lineOutcome cfg l = .ok (.exportError e)
    | .err e => lineOutcome cfg l = .err e
    | .panic s => lineOutcome cfg l = .panic s := by
  rw [jlLine_eq]
  unfold lineOutcome
  cases getRow cfg.env cfg.ti l with
  | err e => simp only [Outcome.bind_err]
  | panic s => simp only [Outcome.bind_panic]
  | ok p =>
    obtain ⟨row, oe⟩ := p
    cases oe with
    | some e => simp only [Outcome.bind_ok, true_or]
    | none =>
      simp only [Outcome.bind_ok]
      cases exportLine cfg.env cfg.to (.val (.row (Members.ofList row))) with
      | err e => simp only
      | panic s => simp only
      | ok q =>
        obtain ⟨b, oe⟩ := q
        cases oe with
        | none => simp only
        | some e => simp only [or_true]

theorem writtenOf_lo (cfg : Cfg) (l : Bytes) : ScannerLimit.writtenOf (lo cfg l) = out cfg l := by
  have hc := lineOutcome_cases cfg l
  unfold lo out
  cases h : jlLine cfg.env cfg.ti cfg.to l with
  | ok p =>
    obtain ⟨b, e⟩ := p
    rw [h] at hc
    cases e with
    | none => simp only at hc; rw [hc]; rfl
    | some e => simp only at hc; rcases hc with hc | hc <;> rw [hc] <;> rfl
  | err e => rw [h] at hc; simp only at hc; rw [hc]; rfl
  | panic s => rw [h] at hc; simp only at hc; rw [hc]; rfl

theorem lo_of_written {cfg : Cfg} {l b : Bytes}
    (h : jlLine cfg.env cfg.ti cfg.to l = .ok (b, none)) : lo cfg l = .written b := by
  have hc := lineOutcome_cases cfg l
  rw [h] at hc
  simp only [lo, hc]

theorem lo_of_refused {cfg : Cfg} {l : Bytes} {r : List (Bytes × Val)} {e : ErrClass}
    (h : getRow cfg.env cfg.ti l = .ok (r, some e)) : lo cfg l = .importError e := by
  simp only [lo, lineOutcome, h]

/-- What a settled line is, in every reading used below (`line_view`). -/
inductive LineView (cfg : Cfg) (l : Bytes) : Prop
  | written (b : Bytes) (jl : jlLine cfg.env cfg.ti cfg.to l = .ok (b, none))
      (acc : acceptable cfg l = true) (oc : lineOutcome cfg l = .ok (lo cfg l))
      (lo : lo cfg l = .written b) (emitted : emitted cfg l = b) (err : lineErr cfg l = none)
      (calls : lineCalls cfg l = [(true, none)])
  | refused (e : ErrClass) (jl : jlLine cfg.env cfg.ti cfg.to l = .ok ([], some e))
      (acc : acceptable cfg l = false) (oc : lineOutcome cfg l = .ok (lo cfg l))
      (err : lineErr cfg l = some e)
      (lo : (lo cfg l = .importError e ∧ lineCalls cfg l = [(false, some e)]) ∨
        (lo cfg l = .exportError e ∧ lineCalls cfg l = [(true, none), (true, some e)]))

theorem line_view {cfg : Cfg} {l : Bytes} (hs : Settled cfg l) : LineView cfg l := by
  obtain ⟨⟨b, e⟩, h⟩ := hs
  have hc := lineOutcome_cases cfg l
  have ha := out_isSome_eq cfg l
  rw [h] at hc
  cases e with
  | none =>
    have hl := lo_of_written h
    have ho : out cfg l = some b := by simp only [out, h]
    rw [ho] at ha
    exact .written b h ha.symm (by rw [hl]; exact hc) hl (by simp only [emitted, ho]; rfl)
      (by simp only [lineErr, h]) (by simp only [lineCalls, hl, ocalls])
  | some e =>
    have hb := JsonPrint.jlLine_error _ _ _ _ b e h
    subst hb
    have ho : out cfg l = none := by simp only [out, h]
    rw [ho] at ha
    have hlo : ∀ o, lineOutcome cfg l = .ok o → lo cfg l = o := fun o ho => by simp only [lo, ho]
    refine .refused e h ha.symm ?_ (by simp only [lineErr, h]) ?_
    · rcases hc with hc | hc <;> rw [hlo _ hc] <;> exact hc
    · rcases hc with hc | hc
      · exact .inl ⟨hlo _ hc, by simp only [lineCalls, hlo _ hc, ocalls]⟩
      · exact .inr ⟨hlo _ hc, by simp only [lineCalls, hlo _ hc, ocalls]⟩

theorem jlLine_of_acceptable {cfg : Cfg} {l : Bytes} (h : acceptable cfg l = true) :
    jlLine cfg.env cfg.ti cfg.to l = .ok (emitted cfg l, none) := by
  cases line_view (settled_of_acceptable h) with
  | written b jl _ _ _ em => rw [em]; exact jl
  | refused _ _ acc => rw [h] at acc; cases acc

/-- C01 for the emitted lines. -/
theorem emitted_valid (cfg : Cfg) (hx : JsonPrint.FloatTextOK cfg.env.ext) (l : Bytes)
    (h : acceptable cfg l = true) :
    ∃ body, emitted cfg l = body ++ [0x0A] ∧ Grammar.IsObjectText body ∧
      Json.accepts body = true ∧ (0x0A : UInt8) ∉ body := by
  obtain ⟨body, h1, h2, h3⟩ :=
    JsonPrint.jlLine_valid cfg.env hx cfg.ti cfg.to l _ (jlLine_of_acceptable h)
  exact ⟨body, h1, (JsonAcc.accepts_iff body).1 h2, h2, h3⟩

theorem mapOutcomes_of_settled (cfg : Cfg) : ∀ (ls : List Bytes), (∀ l ∈ ls, Settled cfg l) →
    mapOutcomes cfg ls = .ok (ls.map (lo cfg))
  | [], _ => rfl
  | l :: ls, h => by
    have oc : lineOutcome cfg l = .ok (lo cfg l) := by
      cases line_view (h l (by simp)) with
      | written _ _ _ oc => exact oc
      | refused _ _ _ oc => exact oc
    simp only [mapOutcomes, oc,
      mapOutcomes_of_settled cfg ls (fun x hx => h x (by simp [hx])), List.map_cons]

/-! ### 2. The tolerant fold in closed form -/

theorem fold_tolerant (os : List LineOutcome) (obs : Obs) :
    foldOutcomes .tolerant os obs =
      ⟨obs.ret, obs.calls ++ os.flatMap ocalls, obs.writes ++ os.filterMap ScannerLimit.writtenOf⟩ := by
  have : ocalls = ScannerLimit.callsOf := funext fun o => by cases o <;> rfl
  rw [ScannerLimit.foldOutcomes_tolerant, this]

/-! ### 3. List facts -/

theorem filterMap_eq_filter_map {α β : Type} (f : α → Option β) (d : β) : ∀ (l : List α),
    l.filterMap f = (l.filter (fun x => (f x).isSome)).map (fun x => (f x).getD d)
  | [] => rfl
  | x :: l => by
    rw [List.filterMap_cons, List.filter_cons, filterMap_eq_filter_map f d l]
    cases h : f x <;> simp [h]

theorem length_filterMap_eq {α β : Type} (f : α → Option β) (l : List α) :
    (l.filterMap f).length = (l.filter (fun x => (f x).isSome)).length := by
  rw [List.length_filterMap_eq_countP, List.countP_eq_length_filter]

theorem mem_of_mem_takeWhile {α : Type} {p : α → Bool} {l : List α} {x : α}
    (h : x ∈ l.takeWhile p) : x ∈ l :=
  (List.takeWhile_sublist p).subset h

theorem find_split {α : Type} (p : α → Bool) (ls : List α) (l : α)
    (h : ls.find? (fun x => !p x) = some l) :
    ∃ good rest, ls = good ++ l :: rest ∧ (∀ x ∈ good, p x = true) ∧ p l = false ∧
      ls.takeWhile p = good := by
  obtain ⟨hl, good, rest, rfl, hg⟩ := List.find?_eq_some_iff_append.1 h
  have hg' : ∀ x ∈ good, p x = true := fun x hx => by simpa using hg x hx
  have hl' : p l = false := by simpa using hl
  refine ⟨good, rest, rfl, hg', hl', ?_⟩
  rw [List.takeWhile_append_of_pos hg', List.takeWhile_cons_of_neg (by simp [hl']), List.append_nil]

theorem takeWhile_all {α : Type} (p : α → Bool) (l : List α) (h : ∀ x ∈ l, p x = true) :
    l.takeWhile p = l := by
  simpa using List.takeWhile_append_of_pos (l₂ := []) h

/-! ### 4. The stream as the fold of the lines' outcomes -/

/-- The hypotheses of `C07_stream_eq_spec`; the library's sizes (64 KiB → 10 MiB) satisfy `le` and `pow`. -/
structure FaultFree (cfg : Cfg) (reader : List ReadEv) (ws : List WriteEv) : Prop where
  calm : Calm 100 reader
  fit : LinesFit cfg.maxSize (allData reader)
  le : cfg.initSize ≤ cfg.maxSize
  pow : cfg.maxSize ≤ cfg.initSize * 2 ^ 200
  writer : ∀ w ∈ ws, w = WriteEv.ok

theorem stream_of_settled (cfg : Cfg) (reader : List ReadEv) (ws : List WriteEv)
    (hff : FaultFree cfg reader ws) (hset : ∀ l ∈ specLines (allData reader), Settled cfg l) :
    stream cfg reader ws =
      .ok (foldOutcomes cfg.proc ((specLines (allData reader)).map (lo cfg)) ⟨none, [], []⟩) := by
  have hmap := mapOutcomes_of_settled cfg _ hset
  rw [C07_stream_eq_spec cfg reader ws hff.calm hff.fit hff.le hff.pow hff.writer _ hmap]
  unfold specObs
  rw [hmap]

theorem errors_of_lines (cfg : Cfg) : ∀ (ls : List Bytes), (∀ l ∈ ls, Settled cfg l) →
    (ls.flatMap (lineCalls cfg)).filterMap (·.2) = ls.filterMap (lineErr cfg)
  | [], _ => rfl
  | l :: ls, h => by
    rw [List.flatMap_cons, List.filterMap_append, errors_of_lines cfg ls (fun x hx => h x (by simp [hx])),
      List.filterMap_cons]
    cases line_view (h l (by simp)) with
    | written _ _ _ _ _ _ err calls => rw [calls, err]; rfl
    | refused e _ _ _ err lo => rcases lo with ⟨-, calls⟩ | ⟨-, calls⟩ <;> rw [calls, err] <;> rfl

theorem writes_of_outcomes (cfg : Cfg) (ls : List Bytes) :
    (ls.map (lo cfg)).filterMap ScannerLimit.writtenOf = ls.filterMap (out cfg) := by
  rw [List.filterMap_map]
  exact congrArg (fun f => List.filterMap f ls) (funext fun l => writtenOf_lo cfg l)

theorem linesFit_of_length {m : Nat} {bs : Bytes} (h : bs.length < m) : LinesFit m bs :=
  fun _ hseg _ => Nat.lt_of_le_of_lt hseg.length_le h

/-! ### 5. The tolerant processor -/

theorem tolerant_stream (cfg : Cfg) (hp : cfg.proc = .tolerant) (reader : List ReadEv)
    (ws : List WriteEv) (hff : FaultFree cfg reader ws)
    (hset : ∀ l ∈ specLines (allData reader), Settled cfg l) :
    ∃ obs, stream cfg reader ws = .ok obs ∧ obs.ret = none ∧
      obs.writes = (specLines (allData reader)).filterMap (out cfg) ∧
      obs.calls = (specLines (allData reader)).flatMap (lineCalls cfg) ∧
      obs.calls.filterMap (·.2) = (specLines (allData reader)).filterMap (lineErr cfg) := by
  refine ⟨_, stream_of_settled cfg reader ws hff hset, ?_⟩
  rw [hp, fold_tolerant]
  have hc : (List.map (lo cfg) (specLines (allData reader))).flatMap ocalls =
      (specLines (allData reader)).flatMap (lineCalls cfg) := by
    rw [List.flatMap_map]; rfl
  simp only [List.nil_append, writes_of_outcomes, hc, true_and]
  exact errors_of_lines cfg _ hset

/-- The writes are EXACTLY the emitted lines of the acceptable input lines, in input order; the processor calls
    carrying an error are as many as the lines that are NOT acceptable — blank lines included
    (`blank_not_acceptable`: an empty line is not an object text; it costs one error call and no write). -/
theorem tolerant_writes_exactly_acceptable (cfg : Cfg) (hp : cfg.proc = .tolerant)
    (reader : List ReadEv) (ws : List WriteEv) (hff : FaultFree cfg reader ws)
    (hset : ∀ l ∈ specLines (allData reader), Settled cfg l) :
    ∃ obs, stream cfg reader ws = .ok obs ∧ obs.ret = none ∧
      obs.writes = ((specLines (allData reader)).filter (acceptable cfg)).map (emitted cfg) ∧
      (obs.calls.filter (fun c => c.2.isSome)).length =
        ((specLines (allData reader)).filter (fun l => !acceptable cfg l)).length ∧
      obs.calls.filterMap (·.2) =
        ((specLines (allData reader)).filter (fun l => !acceptable cfg l)).filterMap (lineErr cfg) := by
  obtain ⟨obs, h, hr, hw, _, he⟩ := tolerant_stream cfg hp reader ws hff hset
  have hf : (specLines (allData reader)).filter (fun l => (lineErr cfg l).isSome) =
      (specLines (allData reader)).filter (fun l => !acceptable cfg l) :=
    List.filter_congr fun l hl => by
      cases line_view (hset l hl) with
      | written _ _ acc _ _ _ err => rw [acc, err]; rfl
      | refused _ _ acc _ err => rw [acc, err]; rfl
  refine ⟨obs, h, hr, ?_, ?_, ?_⟩
  · rw [hw, filterMap_eq_filter_map (out cfg) []]
    have : (fun l => (out cfg l).isSome) = acceptable cfg := funext fun l => out_isSome_eq cfg l
    rw [this]
    rfl
  · rw [← length_filterMap_eq (·.2) obs.calls, he, length_filterMap_eq, hf]
  · rw [he, ← hf, List.filterMap_filter]
    exact congrArg (fun f => List.filterMap f _) (funext fun l => by cases lineErr cfg l <;> rfl)

/-- The C01 part: every write of the tolerant stream is one JSON object text, free of LF, followed by one LF,
    and is what `jlLine` emits for an acceptable input line. -/
theorem tolerant_writes_valid (cfg : Cfg) (hp : cfg.proc = .tolerant)
    (hx : JsonPrint.FloatTextOK cfg.env.ext)
    (reader : List ReadEv) (ws : List WriteEv) (hff : FaultFree cfg reader ws)
    (hset : ∀ l ∈ specLines (allData reader), Settled cfg l) :
    ∃ obs, stream cfg reader ws = .ok obs ∧
      ∀ w ∈ obs.writes, ∃ l body, l ∈ specLines (allData reader) ∧ Acceptable cfg l ∧
        jlLine cfg.env cfg.ti cfg.to l = .ok (w, none) ∧ w = body ++ [0x0A] ∧
        Grammar.IsObjectText body ∧ (0x0A : UInt8) ∉ body := by
  obtain ⟨obs, h, _, hw, _⟩ := tolerant_writes_exactly_acceptable cfg hp reader ws hff hset
  refine ⟨obs, h, ?_⟩
  intro w hwm
  rw [hw, List.mem_map] at hwm
  obtain ⟨l, hl, rfl⟩ := hwm
  rw [List.mem_filter] at hl
  obtain ⟨body, h1, h2, _, h4⟩ := emitted_valid cfg hx l hl.2
  exact ⟨l, body, hl.1, (acceptable_iff cfg l).1 hl.2, jlLine_of_acceptable hl.2, h1, h2, h4⟩

/-! #### Blank lines -/

theorem blank_not_objectText (l : Bytes) (h : Grammar.WS l) : ¬ Grammar.IsObjectText l := by
  rintro ⟨w1, o, w2, rfl, _, ho, _⟩
  have hm : (0x7B : UInt8) ∈ w1 ++ o ++ w2 := by
    cases ho with
    | empty w hw => simp
    | members body hb => simp
  have := h _ hm
  revert this
  decide

theorem blank_not_acceptable (cfg : Cfg) (l : Bytes) (h : Grammar.WS l) : acceptable cfg l = false := by
  cases ha : acceptable cfg l with
  | false => rfl
  | true => exact absurd ((acceptable_iff cfg l).1 ha).1 (blank_not_objectText l h)

theorem blank_writes_nothing (cfg : Cfg) (l : Bytes) (h : Grammar.WS l) : out cfg l = none := by
  rw [← Option.not_isSome_iff_eq_none, out_isSome_eq, blank_not_acceptable cfg l h]
  simp

theorem unmarshal_nil : Json.unmarshal [] = (.nil, false) := by
  simp [Json.unmarshal, Json.token, Json.skipSpace, Json.asClose]

/-- The empty line: `GetRow` reports a syntax error ("unexpected end of JSON input"); `jl` writes nothing and
    hands `.syntax` to the processor in one call without a row. -/
theorem empty_line (cfg : Cfg) (row : List (Bytes × Val)) (hc : cloneRow cfg.env cfg.ti = .ok row) :
    jlLine cfg.env cfg.ti cfg.to [] = .ok ([], some .syntax) ∧ Settled cfg [] ∧
      lineErr cfg [] = some .syntax ∧ lineCalls cfg [] = [(false, some .syntax)] := by
  have hg : getRow cfg.env cfg.ti [] = .ok (row, some .syntax) := by
    rw [Order.getRow_of_clone hc, unmarshalInto_eq, unmarshal_nil]; rfl
  have hj : jlLine cfg.env cfg.ti cfg.to [] = .ok ([], some .syntax) :=
    Order.jlLine_of_rejected hg cfg.to
  refine ⟨hj, ⟨_, hj⟩, by simp only [lineErr, hj], ?_⟩
  rw [lineCalls, lo_of_refused hg]
  rfl

/-! ### 6. Independence from the neighbours -/

/-- The writes of the stream under the tolerant processor (`tolerant_stream`), as a function of the bytes alone. -/
def writesOf (cfg : Cfg) (bs : Bytes) : List Bytes := (specLines bs).filterMap (out cfg)

theorem specLines_around (pre l post : Bytes) (hpre : pre = [] ∨ ∃ q, pre = q ++ [0x0A])
    (hl : (0x0A : UInt8) ∉ l) :
    specLines (pre ++ l ++ [0x0A] ++ post) = specLines pre ++ dropCR l :: specLines post := by
  have e : pre ++ l ++ [0x0A] ++ post = pre ++ (l ++ 0x0A :: post) := by simp
  rw [e, ScannerLimit.specLines_append pre _ hpre, specLines_line l post hl]

/-- Independence: the line `l` contributes `out cfg (dropCR l)`, a function of the line and the templates alone;
    inserting, deleting or changing OTHER lines changes `pre` and `post` only. -/
theorem writesOf_around (cfg : Cfg) (pre l post : Bytes) (hpre : pre = [] ∨ ∃ q, pre = q ++ [0x0A])
    (hl : (0x0A : UInt8) ∉ l) :
    writesOf cfg (pre ++ l ++ [0x0A] ++ post) =
      writesOf cfg pre ++ (out cfg (dropCR l)).toList ++ writesOf cfg post := by
  unfold writesOf
  rw [specLines_around pre l post hpre hl, List.filterMap_append, List.filterMap_cons]
  cases out cfg (dropCR l) <;> simp

/-- Deleting the line: what is left writes what the neighbours wrote. -/
theorem writesOf_append (cfg : Cfg) (pre post : Bytes) (hpre : pre = [] ∨ ∃ q, pre = q ++ [0x0A]) :
    writesOf cfg (pre ++ post) = writesOf cfg pre ++ writesOf cfg post := by
  unfold writesOf
  rw [ScannerLimit.specLines_append pre post hpre, List.filterMap_append]

theorem writesOf_last (cfg : Cfg) (pre l : Bytes) (hpre : pre = [] ∨ ∃ q, pre = q ++ [0x0A])
    (hne : l ≠ []) (hl : (0x0A : UInt8) ∉ l) :
    writesOf cfg (pre ++ l) = writesOf cfg pre ++ (out cfg (dropCR l)).toList := by
  unfold writesOf
  rw [ScannerLimit.specLines_append pre l hpre, specLines_last l hne hl, List.filterMap_append,
    List.filterMap_cons]
  cases out cfg (dropCR l) <;> simp

/-! ### 7. The default processor (stops at the first error) -/

theorem default_fold_lines (cfg : Cfg) : ∀ (ls : List Bytes) (obs : Obs), (∀ l ∈ ls, Settled cfg l) →
    foldOutcomes .default (ls.map (lo cfg)) obs =
      ⟨match ls.find? (fun l => !acceptable cfg l) with
        | none => obs.ret
        | some l => lineErr cfg l,
       obs.calls ++ ((ls.takeWhile (acceptable cfg)).flatMap (lineCalls cfg) ++
         ((ls.find? (fun l => !acceptable cfg l)).map (lineCalls cfg)).getD []),
       obs.writes ++ (ls.takeWhile (acceptable cfg)).map (emitted cfg)⟩
  | [], obs, _ => by simp [foldOutcomes]
  | l :: ls, obs, hset => by
    cases line_view (hset l List.mem_cons_self) with
    | written b _ acc _ hlo em _ calls =>
      rw [List.map_cons, hlo]
      simp only [foldOutcomes, Proc.result]
      rw [default_fold_lines cfg ls _ fun x hx => hset x (List.mem_cons_of_mem _ hx)]
      simp [acc, calls, em]
    | refused e _ acc _ err hlo =>
      rcases hlo with ⟨hlo, calls⟩ | ⟨hlo, calls⟩ <;>
        simp [foldOutcomes, Proc.result, hlo, acc, err, calls]

/-- The writes are the emitted lines of the longest prefix of acceptable lines; `ret` is the error of the first
    line that is not acceptable (`none` when all are); the calls are one `(row, nil)` per written line and then
    those of that first rejected line.  A BLANK line is such a line (`blank_not_acceptable`): it stops the stream
    with `.syntax` (`empty_line`). -/
theorem default_stream (cfg : Cfg) (hp : cfg.proc = .default) (reader : List ReadEv)
    (ws : List WriteEv) (hff : FaultFree cfg reader ws)
    (hset : ∀ l ∈ specLines (allData reader), Settled cfg l) :
    ∃ obs, stream cfg reader ws = .ok obs ∧
      obs.writes = ((specLines (allData reader)).takeWhile (acceptable cfg)).map (emitted cfg) ∧
      obs.ret = ((specLines (allData reader)).find? (fun l => !acceptable cfg l)).bind (lineErr cfg) ∧
      obs.calls = ((specLines (allData reader)).takeWhile (acceptable cfg)).flatMap (lineCalls cfg) ++
        (((specLines (allData reader)).find? (fun l => !acceptable cfg l)).map (lineCalls cfg)).getD [] := by
  refine ⟨_, stream_of_settled cfg reader ws hff hset, ?_⟩
  rw [hp, default_fold_lines cfg _ _ hset]
  refine ⟨rfl, ?_, rfl⟩
  cases (specLines (allData reader)).find? (fun l => !acceptable cfg l) <;> rfl

theorem default_ret (cfg : Cfg) (hp : cfg.proc = .default) (reader : List ReadEv)
    (ws : List WriteEv) (hff : FaultFree cfg reader ws)
    (hset : ∀ l ∈ specLines (allData reader), Settled cfg l) :
    ∃ obs, stream cfg reader ws = .ok obs ∧
      (obs.ret = none ↔ ∀ l ∈ specLines (allData reader), Acceptable cfg l) ∧
      (∀ e, obs.ret = some e → ∃ good l rest, specLines (allData reader) = good ++ l :: rest ∧
        (∀ x ∈ good, Acceptable cfg x) ∧ ¬ Acceptable cfg l ∧
        jlLine cfg.env cfg.ti cfg.to l = .ok ([], some e) ∧
        obs.writes = good.map (emitted cfg)) := by
  obtain ⟨obs, h, hw, hr, _⟩ := default_stream cfg hp reader ws hff hset
  refine ⟨obs, h, ?_, ?_⟩
  · rw [hr]
    cases hf : (specLines (allData reader)).find? (fun l => !acceptable cfg l) with
    | none =>
      simp only [Option.bind_none, true_iff]
      intro l hl
      have := List.find?_eq_none.1 hf l hl
      exact (acceptable_iff cfg l).1 (by simpa using this)
    | some l =>
      have hm := List.mem_of_find?_eq_some hf
      have hb : acceptable cfg l = false := by simpa using List.find?_some hf
      obtain ⟨e, he⟩ : ∃ e, lineErr cfg l = some e := by
        cases line_view (hset l hm) with
        | written _ _ acc => rw [hb] at acc; cases acc
        | refused e _ _ _ err => exact ⟨e, err⟩
      simp only [Option.bind_some, he, reduceCtorEq, false_iff]
      intro hall
      have := (acceptable_iff cfg l).2 (hall l hm)
      rw [hb] at this
      cases this
  · intro e he
    rw [hr] at he
    cases hf : (specLines (allData reader)).find? (fun l => !acceptable cfg l) with
    | none => rw [hf] at he; cases he
    | some l =>
      rw [hf] at he
      simp only [Option.bind_some] at he
      obtain ⟨good, rest, h1, h2, h3, h4⟩ := find_split (acceptable cfg) _ l hf
      refine ⟨good, l, rest, h1, fun x hx => (acceptable_iff cfg x).1 (h2 x hx), ?_,
        jlLine_of_lineErr he, by rw [hw, h4]⟩
      intro ha
      have := (acceptable_iff cfg l).2 ha
      rw [h3] at this; cases this

theorem default_stream_all_acceptable (cfg : Cfg) (hp : cfg.proc = .default) (reader : List ReadEv)
    (ws : List WriteEv) (hff : FaultFree cfg reader ws)
    (hall : ∀ l ∈ specLines (allData reader), acceptable cfg l = true) :
    stream cfg reader ws =
      .ok ⟨none, (specLines (allData reader)).flatMap (lineCalls cfg),
        (specLines (allData reader)).map (emitted cfg)⟩ := by
  obtain ⟨obs, h, hw, hr, hc⟩ := default_stream cfg hp reader ws hff
    fun l hl => settled_of_acceptable (hall l hl)
  have hf : (specLines (allData reader)).find? (fun l => !acceptable cfg l) = none :=
    List.find?_eq_none.2 fun x hx => by simp [hall x hx]
  rw [takeWhile_all _ _ hall] at hw hc
  rw [hf] at hr hc
  rw [h]
  obtain ⟨r, c, w⟩ := obs
  simp only at hw hr hc
  rw [hw, hr, hc]
  simp

/-! ### 8. Over the regenerated tables: abstention is `.err .ext`, nothing else -/

theorem gen_settled_iff (ext : Ext) (cfg : Cfg) (henv : cfg.env = ⟨genTables, ext⟩) (l : Bytes) :
    Settled cfg l ↔ jlLine cfg.env cfg.ti cfg.to l ≠ .err .ext := by
  unfold Settled
  rw [henv]
  rcases gen_jlLine_cases ext cfg.ti cfg.to l with ⟨b, h⟩ | ⟨e, h⟩ | h
  · rw [h]; simp
  · rw [h]; simp
  · rw [h]; simp

theorem gen_tolerant_writes_exactly_acceptable (ext : Ext) (cfg : Cfg)
    (henv : cfg.env = ⟨genTables, ext⟩) (hp : cfg.proc = .tolerant)
    (reader : List ReadEv) (ws : List WriteEv) (hff : FaultFree cfg reader ws)
    (hset : ∀ l ∈ specLines (allData reader), jlLine cfg.env cfg.ti cfg.to l ≠ .err .ext) :
    ∃ obs, stream cfg reader ws = .ok obs ∧ obs.ret = none ∧
      obs.writes = ((specLines (allData reader)).filter (acceptable cfg)).map (emitted cfg) ∧
      (obs.calls.filter (fun c => c.2.isSome)).length =
        ((specLines (allData reader)).filter (fun l => !acceptable cfg l)).length ∧
      obs.calls.filterMap (·.2) =
        ((specLines (allData reader)).filter (fun l => !acceptable cfg l)).filterMap (lineErr cfg) :=
  tolerant_writes_exactly_acceptable cfg hp reader ws hff
    fun l hl => (gen_settled_iff ext cfg henv l).2 (hset l hl)

theorem gen_default_stream (ext : Ext) (cfg : Cfg)
    (henv : cfg.env = ⟨genTables, ext⟩) (hp : cfg.proc = .default)
    (reader : List ReadEv) (ws : List WriteEv) (hff : FaultFree cfg reader ws)
    (hset : ∀ l ∈ specLines (allData reader), jlLine cfg.env cfg.ti cfg.to l ≠ .err .ext) :
    ∃ obs, stream cfg reader ws = .ok obs ∧
      obs.writes = ((specLines (allData reader)).takeWhile (acceptable cfg)).map (emitted cfg) ∧
      obs.ret = ((specLines (allData reader)).find? (fun l => !acceptable cfg l)).bind (lineErr cfg) ∧
      obs.calls = ((specLines (allData reader)).takeWhile (acceptable cfg)).flatMap (lineCalls cfg) ++
        (((specLines (allData reader)).find? (fun l => !acceptable cfg l)).map (lineCalls cfg)).getD [] :=
  default_stream cfg hp reader ws hff fun l hl => (gen_settled_iff ext cfg henv l).2 (hset l hl)

/-! ### 9. Non-vacuity: five lines under a numeric(int8) column `n`

  Importer and exporter template: one column `n`, format numeric, raw type int8; the regenerated
  tables and `Ext.empty`; buffer sizes of the source (64 KiB, 10 MiB).  Input (no final newline):

      {"n":1}        accepted, written as it is
      {"n":300}      one object, but 300 does not convert to int8: ErrUnsupportedImportType
      (empty line)   not an object text: syntax error
      {"n":2} x      not an object text (trailing bytes): syntax error
      {"n":3}        accepted, written as it is

  The scanner is not evaluated: the lines come from `specLines` and the general theorems above, so
  the result holds for EVERY fault-free chunking of the input. -/
namespace Demo
open LineAccept.Demo

def cfgOf (p : Proc) : Cfg :=
  { env := env, ti := ti, to := ti, proc := p, initSize := 65536, maxSize := 10485760 }

/-- `{"n":1}` -/
def l1 : Bytes := [0x7B, 0x22, 0x6E, 0x22, 0x3A, 0x31, 0x7D]
/-- `{"n":300}` -/
def l300 : Bytes := [0x7B, 0x22, 0x6E, 0x22, 0x3A, 0x33, 0x30, 0x30, 0x7D]
/-- `{"n":2} x` -/
def l2x : Bytes := [0x7B, 0x22, 0x6E, 0x22, 0x3A, 0x32, 0x7D, 0x20, 0x78]
/-- `{"n":3}` -/
def l3 : Bytes := [0x7B, 0x22, 0x6E, 0x22, 0x3A, 0x33, 0x7D]

/-- `{"n":1}\n{"n":300}\n\n{"n":2} x\n{"n":3}` -/
def input : Bytes := l1 ++ [0x0A] ++ l300 ++ [0x0A] ++ [0x0A] ++ l2x ++ [0x0A] ++ l3

theorem reads :
    specLines input = [l1, l300, [], l2x, l3] ∧
    (Json.unmarshal l1 = (.cons [0x6E] (.num [0x31]) .nil, true) ∧
      Json.unmarshal l3 = (.cons [0x6E] (.num [0x33]) .nil, true)) ∧
    (getRow env ti l300 = .ok ([([0x6E], .cell .nil .numeric (.int .i8))], some .unsupportedImport) ∧
      Json.accepts l300 = true ∧ ConvertsAll env ti l300 = false) ∧
    getRow env ti [] = .ok (ti, some .syntax) ∧
    getRow env ti l2x = .ok ([([0x6E], .cell (.int .i8 2) .numeric (.int .i8))], some .syntax) ∧
    Json.accepts l2x = false := by
  decide +kernel

theorem jlLine_l1 : jlLine env ti ti l1 = .ok (l1 ++ [0x0A], none) :=
  (LineInts.int_line_written Ext.empty [0x6E] (.inl rfl) (.inl rfl) .i8 1 l1 _ reads.2.1.1
    (.inl (by decide +kernel)) (by decide +kernel) (by simp)).trans (by decide +kernel)

theorem jlLine_l3 : jlLine env ti ti l3 = .ok (l3 ++ [0x0A], none) :=
  (LineInts.int_line_written Ext.empty [0x6E] (.inl rfl) (.inl rfl) .i8 3 l3 _ reads.2.1.2
    (.inl (by decide +kernel)) (by decide +kernel) (by simp)).trans (by decide +kernel)

theorem outcomes (p : Proc) : [l1, l300, [], l2x, l3].map (lo (cfgOf p)) =
    [.written (l1 ++ [0x0A]), .importError .unsupportedImport, .importError .syntax,
      .importError .syntax, .written (l3 ++ [0x0A])] := by
  simp only [List.map_cons, List.map_nil, lo_of_written (cfg := cfgOf p) jlLine_l1,
    lo_of_written (cfg := cfgOf p) jlLine_l3, lo_of_refused (cfg := cfgOf p) reads.2.2.1.1,
    lo_of_refused (cfg := cfgOf p) reads.2.2.2.1, lo_of_refused (cfg := cfgOf p) reads.2.2.2.2.1]

theorem settled (p : Proc) : ∀ l ∈ [l1, l300, [], l2x, l3], Settled (cfgOf p) l := by
  intro l hl
  simp only [List.mem_cons, List.not_mem_nil, or_false] at hl
  rcases hl with rfl | rfl | rfl | rfl | rfl
  · exact ⟨_, jlLine_l1⟩
  · exact ⟨_, Order.jlLine_of_rejected reads.2.2.1.1 ti⟩
  · exact ⟨_, Order.jlLine_of_rejected reads.2.2.2.1 ti⟩
  · exact ⟨_, Order.jlLine_of_rejected reads.2.2.2.2.1 ti⟩
  · exact ⟨_, jlLine_l3⟩

theorem acceptable_l2x (p : Proc) : acceptable (cfgOf p) l2x = false := by
  rw [← out_isSome_eq, ← writtenOf_lo, lo_of_refused (cfg := cfgOf p) reads.2.2.2.2.1]
  rfl

theorem l300_objectText_not_converting :
    Grammar.IsObjectText l300 ∧ ConvertsAll env ti l300 = false :=
  ⟨(JsonAcc.accepts_iff _).1 reads.2.2.1.2.1, reads.2.2.1.2.2⟩

theorem l2x_not_objectText : ¬ Grammar.IsObjectText l2x :=
  (JsonAcc.rejects_iff _).1 reads.2.2.2.2.2

theorem faultFree (p : Proc) (reader : List ReadEv) (hcalm : Calm 100 reader) {bs : Bytes}
    (hd : allData reader = bs) (hlen : bs.length < 10485760) : FaultFree (cfgOf p) reader [] :=
  ⟨hcalm, linesFit_of_length (by rw [hd]; exact hlen), (by show (65536 : Nat) ≤ 10485760; decide),
    (by show (10485760 : Nat) ≤ 65536 * 2 ^ 200; decide), fun _ h => by cases h⟩

theorem run (p : Proc) (reader : List ReadEv) (hcalm : Calm 100 reader) (hd : allData reader = input) :
    stream (cfgOf p) reader [] = .ok (foldOutcomes p
      [.written (l1 ++ [0x0A]), .importError .unsupportedImport, .importError .syntax,
        .importError .syntax, .written (l3 ++ [0x0A])] ⟨none, [], []⟩) := by
  rw [stream_of_settled _ reader [] (faultFree p reader hcalm hd (by decide))
    (by rw [hd, reads.1]; exact settled p), hd, reads.1, outcomes]
  rfl

/-- `run` for one concrete chunking: the input split in the middle of the second line, an empty read in between. -/
example : stream (cfgOf .tolerant) [.data (input.take 12), .empty, .data (input.drop 12)] [] =
    .ok ⟨none,
      [(true, none), (false, some .unsupportedImport), (false, some .syntax),
       (false, some .syntax), (true, none)],
      [l1 ++ [0x0A], l3 ++ [0x0A]]⟩ :=
  run .tolerant _ (by
    have h1 : input.take 12 ≠ [] := by decide
    have h2 : input.drop 12 ≠ [] := by decide
    simp [Calm, h1, h2]) (by simp [allData])

example : stream (cfgOf .default) [.data input] [] =
    .ok ⟨some .unsupportedImport, [(true, none), (false, some .unsupportedImport)], [l1 ++ [0x0A]]⟩ :=
  run .default _ (by
    have h1 : input ≠ [] := by decide
    simp [Calm, h1]) (by simp [allData])

/-- Independence on this input: dropping the two rejected middle lines and the blank one leaves
    the writes of the neighbours unchanged. -/
example (p : Proc) : writesOf (cfgOf p) input = [l1 ++ [0x0A], l3 ++ [0x0A]] ∧
    writesOf (cfgOf p) (l1 ++ [0x0A] ++ l3) = [l1 ++ [0x0A], l3 ++ [0x0A]] := by
  have h1 : out (cfgOf p) l1 = some (l1 ++ [0x0A]) := (out_eq_some_iff _ _ _).2 jlLine_l1
  have h3 : out (cfgOf p) l3 = some (l3 ++ [0x0A]) := (out_eq_some_iff _ _ _).2 jlLine_l3
  constructor
  · rw [writesOf, reads.1, ← writes_of_outcomes, outcomes]
    rfl
  · rw [writesOf, show specLines (l1 ++ [0x0A] ++ l3) = [l1, l3] by decide +kernel]
    simp only [List.filterMap_cons, List.filterMap_nil, h1, h3]

/-- A blank line is not skipped: the input `"\n"` costs one processor call carrying a syntax error and writes
    nothing; the default processor returns that error. -/
theorem blank_line_run (reader : List ReadEv) (hcalm : Calm 100 reader) (hd : allData reader = [0x0A]) :
    stream (cfgOf .tolerant) reader [] = .ok ⟨none, [(false, some .syntax)], []⟩ ∧
    stream (cfgOf .default) reader [] = .ok ⟨some .syntax, [(false, some .syntax)], []⟩ := by
  have hl : specLines [0x0A] = [[]] := by decide
  have h : ∀ p, stream (cfgOf p) reader [] =
      .ok (foldOutcomes p [.importError .syntax] ⟨none, [], []⟩) := by
    intro p
    rw [stream_of_settled _ reader [] (faultFree p reader hcalm hd (by decide))
      (by rw [hd, hl]; exact fun l hl => settled p l (by simp [List.mem_singleton.1 hl])),
      hd, hl, List.map_cons, List.map_nil, lo_of_refused (cfg := cfgOf p) reads.2.2.2.1]
    rfl
  exact ⟨h .tolerant, h .default⟩

end Demo

end Jl.StreamAccept
