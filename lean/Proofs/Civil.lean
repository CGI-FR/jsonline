/-
  Proofs.Civil — the proleptic-Gregorian day-number functions of Model.Time are mutually inverse, for
  all years and all day numbers.  Hinnant's closed form for the year of era is monotone in the day of
  era and right on the first and the last day of each of the 400 years of an era (a kernel-checked
  table), hence right everywhere.
  The constants are his: an era is 400 years = 146097 days and starts on a 1 March; its first three
  centuries have 36524 days each; 1460 = 4 · 365; 719468 days lie between 0000-03-01 and 1970-01-01.
-/
import Model.Time

namespace Jl.Time

def ValidDate (y : Int) (m d : Nat) : Prop := 1 ≤ m ∧ m ≤ 12 ∧ 1 ≤ d ∧ d ≤ daysIn m y

instance (y : Int) (m d : Nat) : Decidable (ValidDate y m d) := by
  unfold ValidDate; infer_instance

/-! ### Year of era -/

def nOf (doe : Nat) : Nat := doe - doe / 1460 + doe / 36524 - doe / 146096
def yoeOf (doe : Nat) : Nat := nOf doe / 365
/-- First day-of-era of a (March-based) year of era. -/
def dayOfYoe (yoe : Nat) : Nat := 365 * yoe + yoe / 4 - yoe / 100
/-- Length of the March-based year `yoe` of an era (its February belongs to civil year yoe+1). -/
def yearLen (yoe : Nat) : Nat := if yoe % 4 = 3 ∧ (yoe % 100 ≠ 99 ∨ yoe = 399) then 366 else 365

theorem nOf_mono {a b : Nat} (h : a ≤ b) (hb : b < 146097) : nOf a ≤ nOf b := by
  unfold nOf
  have h1 : a - a / 1460 ≤ b - b / 1460 := by omega
  have h2 : a / 36524 ≤ b / 36524 := Nat.div_le_div_right h
  -- the term subtracted is 0 except on the last day of the era
  have h3 : b / 146096 ≤ a / 146096 ∨ b = 146096 := by omega
  rcases h3 with h3 | rfl
  · omega
  · omega

theorem yoeOf_mono {a b : Nat} (h : a ≤ b) (hb : b < 146097) : yoeOf a ≤ yoeOf b :=
  Nat.div_le_div_right (nOf_mono h hb)

theorem yoeOf_table : ∀ y : Fin 400,
    yoeOf (dayOfYoe y) = y ∧ yoeOf (dayOfYoe y + yearLen y - 1) = y ∧
      dayOfYoe y + yearLen y ≤ 146097 ∧ (y.val ≤ 398 → dayOfYoe (y + 1) = dayOfYoe y + yearLen y) := by
  decide +kernel

theorem dayOfYoe_succ {n : Nat} (h : n ≤ 398) : dayOfYoe (n + 1) = dayOfYoe n + yearLen n :=
  (yoeOf_table ⟨n, by omega⟩).2.2.2 h

theorem dayOfYoe_top {y : Nat} (h : y < 400) : dayOfYoe y + yearLen y ≤ 146097 :=
  (yoeOf_table ⟨y, h⟩).2.2.1

theorem yearLen_ge (y : Nat) : 365 ≤ yearLen y := by unfold yearLen; split <;> omega

theorem yoeOf_unique {yoe doe : Nat} (hy : yoe < 400) (h1 : dayOfYoe yoe ≤ doe)
    (h2 : doe < dayOfYoe yoe + yearLen yoe) : yoeOf doe = yoe := by
  have ht := yoeOf_table ⟨yoe, hy⟩
  have htop := dayOfYoe_top hy
  have a := yoeOf_mono h1 (by omega)
  have b := yoeOf_mono (show doe ≤ dayOfYoe yoe + yearLen yoe - 1 by omega) (by omega)
  simp only at ht
  omega

theorem year_exists : ∀ n, n ≤ 399 → ∀ doe, doe < dayOfYoe n + yearLen n →
    ∃ y, y ≤ n ∧ dayOfYoe y ≤ doe ∧ doe < dayOfYoe y + yearLen y := by
  intro n
  induction n with
  | zero => exact fun _ doe h => ⟨0, Nat.le_refl _, Nat.zero_le _, h⟩
  | succ n ih =>
    intro hn doe h
    by_cases hlt : doe < dayOfYoe (n + 1)
    · rw [dayOfYoe_succ (by omega)] at hlt
      obtain ⟨y, hy, h12⟩ := ih (by omega) doe hlt
      exact ⟨y, by omega, h12⟩
    · exact ⟨n + 1, Nat.le_refl _, by omega, h⟩

theorem yoeOf_cast (doe : Nat) :
    ((doe : Int) - doe / 1460 + doe / 36524 - doe / 146096) / 365 = ((yoeOf doe : Nat) : Int) := by
  unfold yoeOf nOf; omega

/-! ### The decomposition (era, year of era, day of year, shifted month, day) -/

/-- Day of year (March-based) on which shifted month `mp` (0 = March … 11 = February) starts. -/
def monthStart (mp : Nat) : Nat := (153 * mp + 2) / 5

/-- `doy` is day `d` of shifted month `mp` of a March-based year of era `yoe` that has it. -/
def Decomp (yoe doy mp d : Nat) : Prop :=
  yoe < 400 ∧ mp ≤ 11 ∧ 1 ≤ d ∧ doy + 1 = monthStart mp + d ∧ doy < monthStart (mp + 1) ∧
    doy < yearLen yoe

/-- Hinnant's month formula inverts `monthStart`. -/
theorem month_iff {doy mp : Nat} :
    (5 * doy + 2) / 153 = mp ↔ monthStart mp ≤ doy ∧ doy < monthStart (mp + 1) := by
  unfold monthStart; omega

def monthOf (mp : Nat) : Nat := if mp < 10 then mp + 3 else mp - 9
def yearOf (era : Int) (yoe mp : Nat) : Int := era * 400 + yoe + (if mp < 10 then 0 else 1)
def dayNo (era : Int) (yoe doy : Nat) : Int := era * 146097 + ((dayOfYoe yoe + doy : Nat) : Int) - 719468

/-- `civilFromDays` read off stage by stage: each `let` of the model is a hypothesis. -/
theorem cfd_of {z era doe yoe doy mp : Int} (h1 : (z + 719468) / 146097 = era)
    (h2 : z + 719468 - era * 146097 = doe)
    (h3 : (doe - doe / 1460 + doe / 36524 - doe / 146096) / 365 = yoe)
    (h4 : doe - (365 * yoe + yoe / 4 - yoe / 100) = doy) (h5 : (5 * doy + 2) / 153 = mp) :
    civilFromDays z =
      (if (if mp < 10 then mp + 3 else mp - 9) ≤ 2 then yoe + era * 400 + 1 else yoe + era * 400,
        (if mp < 10 then mp + 3 else mp - 9).toNat, (doy - (153 * mp + 2) / 5 + 1).toNat) := by
  subst h1 h2 h3 h4 h5; rfl

theorem cfd_spec (era : Int) {yoe doy mp d : Nat} (h : Decomp yoe doy mp d) :
    civilFromDays (dayNo era yoe doy) = (yearOf era yoe mp, monthOf mp, d) := by
  obtain ⟨hy, hmp, hd, hdoy, hlt, hlen⟩ := h
  have htop := dayOfYoe_top hy
  have e3 : yoeOf (dayOfYoe yoe + doy) = yoe := yoeOf_unique hy (Nat.le_add_right _ _) (by omega)
  have e5 := month_iff.mpr ⟨show monthStart mp ≤ doy by omega, hlt⟩
  rw [cfd_of (z := dayNo era yoe doy) (era := era) (doe := ((dayOfYoe yoe + doy : Nat) : Int))
    (yoe := yoe) (doy := doy) (mp := mp) (by unfold dayNo; omega) (by unfold dayNo; omega)
    (by rw [yoeOf_cast, e3]) (by unfold dayOfYoe; omega) (by omega)]
  unfold yearOf monthOf monthStart at *
  -- the model asks `mp < 10` over Int, `yearOf` and `monthOf` over Nat: one test
  simp only [show ((mp : Int) < 10) ↔ mp < 10 by omega]
  split <;> refine Prod.ext ?_ (Prod.ext ?_ ?_) <;> simp only <;> omega

theorem monthOf_inv {mp : Nat} (h : mp ≤ 11) : (monthOf mp + 9) % 12 = mp := by
  unfold monthOf; split <;> omega

theorem yearOf_shift (era : Int) (yoe : Nat) {mp : Nat} (h : mp ≤ 11) :
    (if monthOf mp ≤ 2 then yearOf era yoe mp - 1 else yearOf era yoe mp) = era * 400 + yoe := by
  unfold monthOf yearOf
  by_cases h10 : mp < 10 <;> simp only [h10, if_true, if_false] <;> omega

theorem dfc_spec (era : Int) {yoe doy mp d : Nat} (h : Decomp yoe doy mp d) :
    daysFromCivil (yearOf era yoe mp) (monthOf mp) d = dayNo era yoe doy := by
  obtain ⟨hy, hmp, hd, hdoy, hlt, hlen⟩ := h
  unfold daysFromCivil dayNo
  simp only [yearOf_shift era yoe hmp, monthOf_inv hmp]
  have e1 : (era * 400 + (yoe : Int)) / 400 = era := by omega
  rw [e1]
  have e2 : era * 400 + (yoe : Int) - era * 400 = yoe := by omega
  rw [e2]
  unfold monthStart at hdoy
  unfold dayOfYoe
  omega

theorem yearLen_le (y : Nat) : yearLen y ≤ 366 := by unfold yearLen; split <;> omega

theorem isLeap_iff (y : Int) : isLeap y = true ↔ y % 4 = 0 ∧ (y % 100 ≠ 0 ∨ y % 400 = 0) := by
  simp [isLeap]

theorem daysIn_of_ne_two {m : Nat} (h : m ≠ 2) (y : Int) : daysIn m y = daysIn m 0 := by
  unfold daysIn
  split
  · exact absurd rfl h
  all_goals rfl

theorem monthStart_table : ∀ mp < 11,
    monthOf mp ≠ 2 ∧ monthStart mp + daysIn (monthOf mp) 0 = monthStart (mp + 1) := by decide

/-- A month ends where the next one starts; February, the last month of the March-based year,
    ends where that year ends. -/
theorem daysIn_monthOf (era : Int) {yoe mp : Nat} (hy : yoe < 400) (hmp : mp ≤ 11) :
    monthStart mp + daysIn (monthOf mp) (yearOf era yoe mp) =
      min (monthStart (mp + 1)) (yearLen yoe) := by
  by_cases h : mp = 11
  · subst h
    show 337 + (if isLeap (era * 400 + yoe + 1) then 29 else 28) = min 367 (yearLen yoe)
    simp only [isLeap_iff, yearLen]
    split <;> split <;> omega
  · obtain ⟨hne, hs⟩ := monthStart_table mp (by omega)
    have h1 : monthStart (mp + 1) ≤ 337 := by unfold monthStart; omega
    have h2 := yearLen_ge yoe
    rw [daysIn_of_ne_two hne]
    omega

theorem valid_spec (era : Int) {yoe doy mp d : Nat} (h : Decomp yoe doy mp d) :
    ValidDate (yearOf era yoe mp) (monthOf mp) d := by
  obtain ⟨hy, hmp, hd, hdoy, hlt, hlen⟩ := h
  have := daysIn_monthOf era hy hmp
  have hm : 1 ≤ monthOf mp ∧ monthOf mp ≤ 12 := by unfold monthOf; split <;> omega
  exact ⟨hm.1, hm.2, hd, by omega⟩

theorem decomp_of_day (z : Int) :
    ∃ era yoe doy mp d, Decomp yoe doy mp d ∧ z = dayNo era yoe doy := by
  obtain ⟨era, doe, hdoe, rfl⟩ :
      ∃ (era : Int) (doe : Nat), doe < 146097 ∧ z = era * 146097 + doe - 719468 :=
    ⟨(z + 719468) / 146097, ((z + 719468) % 146097).toNat, by omega, by omega⟩
  obtain ⟨yoe, hy, h1, h2⟩ := year_exists 399 (Nat.le_refl _) doe
    (by have : dayOfYoe 399 + yearLen 399 = 146097 := by decide
        omega)
  have hlen := yearLen_le yoe
  obtain ⟨doy, rfl⟩ : ∃ doy, doe = dayOfYoe yoe + doy := ⟨doe - dayOfYoe yoe, by omega⟩
  obtain ⟨hm1, hm2⟩ := (month_iff (doy := doy)).mp rfl
  exact ⟨era, yoe, doy, (5 * doy + 2) / 153, doy - monthStart ((5 * doy + 2) / 153) + 1,
    ⟨by omega, by omega, by omega, by omega, hm2, by omega⟩, rfl⟩

theorem decomp_of_date {y : Int} {m d : Nat} (h : ValidDate y m d) :
    ∃ era yoe doy mp, Decomp yoe doy mp d ∧ y = yearOf era yoe mp ∧ m = monthOf mp := by
  obtain ⟨hm1, hm12, hd1, hd⟩ := h
  have hmp : (m + 9) % 12 ≤ 11 := by omega
  have hm : m = monthOf ((m + 9) % 12) := by unfold monthOf; split <;> omega
  have hy : ∃ era yoe, yoe < 400 ∧ y = yearOf era yoe ((m + 9) % 12) := by
    unfold yearOf
    split
    · exact ⟨y / 400, (y % 400).toNat, by omega, by omega⟩
    · exact ⟨(y - 1) / 400, ((y - 1) % 400).toNat, by omega, by omega⟩
  obtain ⟨era, yoe, hyoe, hy⟩ := hy
  have := daysIn_monthOf era hyoe hmp
  rw [← hm, ← hy] at this
  exact ⟨era, yoe, monthStart ((m + 9) % 12) + d - 1, _,
    ⟨hyoe, hmp, hd1, by omega, by omega, by omega⟩, hy, hm⟩

theorem civilFromDays_daysFromCivil {y : Int} {m d : Nat} (h : ValidDate y m d) :
    civilFromDays (daysFromCivil y m d) = (y, m, d) := by
  obtain ⟨era, yoe, doy, mp, hrel, rfl, rfl⟩ := decomp_of_date h
  rw [dfc_spec era hrel, cfd_spec era hrel]

theorem daysFromCivil_civilFromDays (z : Int) :
    ValidDate (civilFromDays z).1 (civilFromDays z).2.1 (civilFromDays z).2.2 ∧
      daysFromCivil (civilFromDays z).1 (civilFromDays z).2.1 (civilFromDays z).2.2 = z := by
  obtain ⟨era, yoe, doy, mp, d, hrel, rfl⟩ := decomp_of_day z
  rw [cfd_spec era hrel]
  exact ⟨valid_spec era hrel, dfc_spec era hrel⟩

theorem civilFromDays_valid (z : Int) :
    let (y, m, d) := civilFromDays z
    ValidDate y m d ∧ daysFromCivil y m d = z := by
  have := daysFromCivil_civilFromDays z
  revert this
  rcases civilFromDays z with ⟨y, m, d⟩
  exact id

end Jl.Time
