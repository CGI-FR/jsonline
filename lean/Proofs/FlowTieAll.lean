/-
  Proofs.FlowTieAll — the regenerated flow table as a whole: nothing unknown, equal to the assumed one
  (overview: Proofs/FlowTie.lean)
-/
import Proofs.FlowTieDefs

namespace Jl.FlowTie
open Jl Jl.Flow Jl.Value Jl.Template

theorem flow_known : Gen.flowTable.known = true := by decide +kernel

/-- The regenerated table is the one Model.Template and Model.Stream assume (`FlowSpec.expectedFlow`). -/
theorem flow_as_modelled : Gen.flowTable = FlowSpec.expectedFlow := by decide +kernel

end Jl.FlowTie
