/-
  Proofs.LineKeys — C03 on the emitted BYTES: the key order of an emitted line, stated on the JSON text.
  Declares into `namespace Jl.LineLevel`, as Proofs.LineColumn and Proofs.LineLevel do: this file holds what
  depends on `Proofs.Order` (the key list of the printed row) and `Proofs.JsonPrint` (the tree the reader delivers
  for the printed text) only, so every statement here holds for EVERY cast table; the classes of the members,
  which depend on the cast tables, are in Proofs.LineLevel.
-/
import Model.LineSpec
import Model.Template
import Proofs.Order
import Proofs.JsonPrint

-- `LineTime.objText` is the name the statements about one-column lines use (C09, C12, C14); it stands here because
-- `marshalRow_col` below writes it, the lowest of the modules that need it.
namespace Jl.LineTime

/-- The text of a one-member object `{"k":txt}` as the printer writes it. -/
def objText (k txt : Bytes) : Bytes :=
  0x7B :: (RowPrint.joinComma [JsonWrite.quote k ++ 0x3A :: txt] ++ [0x7D])

end Jl.LineTime

namespace Jl.LineLevel
open Jl Jl.Value Jl.Template Jl.Cast
open Jl.LineTime (objText)
open Jl.JsonQuote (sanitize)
open Jl.JsonPrint (treeDyn treeVal treeMembers treeExported numText FloatTextOK)
open Jl.IntText

/-! ### 0. One declared column: the line's way through importer and exporter

For a template `With(k, f, ty)` whose prototype cell clones to itself (`NewValue(nil, f, ty)` is the
nil cell again) and a line whose only member is `k`. -/

theorem cloneRow_col (env : Env) (k : Bytes) {f : Format} {ty : Ty}
    (h : newValue env .nil f ty = .ok (.cell .nil f ty)) :
    cloneRow env [(k, .cell .nil f ty)] = .ok [(k, .cell .nil f ty)] :=
  Order.cloneRow_proto env _ (List.pairwise_singleton _ k) (fun _ hm => by cases List.mem_singleton.1 hm; exact ⟨f, ty, rfl⟩)
    fun _ _ _ hm => by cases List.mem_singleton.1 hm; exact h

theorem parseMembers_col (env : Env) (k : Bytes) (f : Format) (ty : Ty) (x : Dyn) :
    parseMembers env [(k, .cell .nil f ty)] [(k, x)] =
      match importCell env f ty x with
      | .ok (c, e) => .ok ([(k, c)], e)
      | .err e => .err e
      | .panic s => .panic s := by
  simp only [parseMembers, parseMember, Order.lookup_eq, OMap.lookup_cons_self, Order.importVal_cell,
    Order.upsert_eq, OMap.upsert_cons, if_pos]
  rcases importCell env f ty x with ⟨c, _ | e⟩ | e | s <;> rfl

theorem marshalRow_col (env : Env) (k : Bytes) (c : Val) (hvis : Cells.format c ≠ .hidden) :
    RowPrint.marshalRow env (Members.ofList [(k, c)]) =
      match RowPrint.marshalVal env c with
      | .ok txt => .ok (objText k txt)
      | .err e => .err e
      | .panic s => .panic s := by
  have hb : (Cells.format c == Format.hidden) = false := by simpa using hvis
  rw [marshalRow_bind, Members.ofList, Members.ofList, marshalMembers_cons_eq, hb, if_neg Bool.false_ne_true,
    JsonPrint.marshalMembers_nil]
  cases RowPrint.marshalVal env c <;> rfl

theorem unmarshal_objText {k txt : Bytes} {v : JV} (h : JsonPrint.ReadsAs txt v) :
    Json.unmarshal (objText k txt) = (.cons (sanitize k) v .nil, true) :=
  JsonPrint.unmarshal_object (.cons h .nil)

/-- The line of one visible column `k`, from what `MarshalJSON` made of its cell; an error of the printer is the
    line's (the EXT marker is handed through). -/
def lineOf (k : Bytes) (o : Outcome Bytes) : Outcome (Bytes × Option ErrClass) :=
  match o with
  | .ok txt => .ok (objText k txt ++ [0x0A], none)
  | .err .ext => .err .ext
  | .err e => .ok ([], some e)
  | .panic s => .panic s

theorem getRow_one (env : Env) (k : Bytes) {f : Format} {ty : Ty}
    (hty : newValue env .nil f ty = .ok (.cell .nil f ty)) {line : Bytes} {jv : JV} {x : Dyn}
    (hline : Json.unmarshal line = (.cons k jv .nil, true)) (hjv : ofJV env jv = .ok x) :
    getRow env [(k, .cell .nil f ty)] line =
      (importCell env f ty x).bind fun p => .ok ([(k, p.1)], p.2) := by
  rw [Order.getRow_of_clone (cloneRow_col env k hty), unmarshalInto_eq, hline]
  simp only [ofJVMembers, hjv, Outcome.bind_ok, parseMembers_col]
  rcases importCell env f ty x with ⟨c, _ | e⟩ | e | s <;> rfl

theorem exportLine_one (env : Env) (k : Bytes) {f : Format} {ty : Ty}
    (hty : newValue env .nil f ty = .ok (.cell .nil f ty)) (hvis : f ≠ .hidden) (c : Val) :
    exportLine env [(k, .cell .nil f ty)] (.val (.row (Members.ofList [(k, c)]))) =
      (newValue env (Cells.raw c) f ty).bind fun c' => lineOf k (RowPrint.marshalVal env c') := by
  rw [exportLine_eq, createRow_eq, cloneRow_col env k hty]
  simp only [Outcome.bind_ok, Members.toList_ofList, List.map_cons, List.map_nil, fillPairs, fill,
    Order.lookup_eq, OMap.lookup_cons_self, Cells.format, Cells.rawType]
  cases hn : newValue env (Cells.raw c) f ty with
  | ok c' =>
    have hv : Cells.format c' ≠ .hidden := by rwa [(Order.newValue_format _ _ _ _ _ hn).1]
    simp only [Outcome.bind_ok, printLine, Order.upsert_eq, OMap.upsert_cons, if_pos, marshalRow_col env k c' hv,
      lineOf]
    cases RowPrint.marshalVal env c' with
    | err e => cases e <;> rfl
    | _ => rfl
  | _ => rfl

theorem jlLine_one (env : Env) (k : Bytes) {fi fo : Format} {tyi tyo : Ty}
    (hi : newValue env .nil fi tyi = .ok (.cell .nil fi tyi))
    (ho : newValue env .nil fo tyo = .ok (.cell .nil fo tyo)) (hvis : fo ≠ .hidden)
    {line : Bytes} {jv : JV} {x : Dyn}
    (hline : Json.unmarshal line = (.cons k jv .nil, true)) (hjv : ofJV env jv = .ok x) :
    jlLine env (withCol [] k fi tyi) (withCol [] k fo tyo) line =
      (importCell env fi tyi x).bind fun p =>
        match p.2 with
        | some e => .ok ([], some e)
        | none => (newValue env (Cells.raw p.1) fo tyo).bind fun c' =>
            lineOf k (RowPrint.marshalVal env c') := by
  simp only [withCol, upsert, OMap.upsert, jlLine_eq, getRow_one env k hi hline hjv]
  rcases importCell env fi tyi x with ⟨c, _ | e⟩ | e | s
  · exact exportLine_one env k ho hvis c
  all_goals rfl

theorem jlLine_col (env : Env) (k : Bytes) {fi fo : Format} {tyi tyo : Ty}
    (hi : newValue env .nil fi tyi = .ok (.cell .nil fi tyi))
    (ho : newValue env .nil fo tyo = .ok (.cell .nil fo tyo))
    (line : Bytes) (jv : JV) (x : Dyn) (c c' : Val) (txt : Bytes)
    (hline : Json.unmarshal line = (.cons k jv .nil, true)) (hjv : ofJV env jv = .ok x)
    (himp : importCell env fi tyi x = .ok (c, none))
    (hnew : newValue env (Cells.raw c) fo tyo = .ok c') (hvis : Cells.format c' ≠ .hidden)
    (hm : RowPrint.marshalVal env c' = .ok txt) :
    jlLine env (withCol [] k fi tyi) (withCol [] k fo tyo) line =
      .ok (objText k txt ++ [0x0A], none) := by
  rw [jlLine_one env k hi ho (by rwa [← (Order.newValue_format _ _ _ _ _ hnew).1]) hline hjv, himp]
  simp only [Outcome.bind_ok, hnew, hm, lineOf]

theorem jlLine_col_rejected (env : Env) (k : Bytes) {fi : Format} {tyi : Ty}
    (hi : newValue env .nil fi tyi = .ok (.cell .nil fi tyi)) (to : Tmpl) (line : Bytes) (jv : JV)
    (x : Dyn) (c : Val) (e : ErrClass) (hline : Json.unmarshal line = (.cons k jv .nil, true))
    (hjv : ofJV env jv = .ok x) (himp : importCell env fi tyi x = .ok (c, some e)) :
    jlLine env (withCol [] k fi tyi) to line = .ok ([], some e) :=
  Order.jlLine_of_rejected ((getRow_one env k hi hline hjv).trans (by rw [himp]; rfl)) to

theorem marshalVal_of_export {env : Env} {raw : Dyn} {f : Format} {typ : Ty} {e : Dyn} {b : Bytes}
    (he : exportVal env (.cell raw f typ) = .ok e)
    (hm : RowPrint.marshalExported env e raw = .ok b) :
    RowPrint.marshalVal env (.cell raw f typ) = .ok b :=
  (marshalVal_cell_ok he).trans hm

theorem floatOK_empty : FloatTextOK Ext.empty := fun _ _ _ h => by cases h

/-- From a conclusion about the written line `out ++ [0x0A]`, as the theorems about `jlLine` give it, to the
    statement about `out` the demos make. -/
theorem of_body {out : Bytes} {P : Bytes → JVMembers → Prop}
    (h : ∃ body t, out ++ [0x0A] = body ++ [0x0A] ∧ P body t) : ∃ t, P out t := by
  obtain ⟨body, t, hb, hp⟩ := h
  cases List.append_cancel_right hb
  exact ⟨t, hp⟩

/-! ### 1. The member names of the printed tree -/

theorem visibleKeys_cons (k : Bytes) (c : Val) (row : List (Bytes × Val)) :
    RowPrint.visibleKeys ((k, c) :: row) =
      if Cells.format c = .hidden then RowPrint.visibleKeys row
      else k :: RowPrint.visibleKeys row := by
  unfold RowPrint.visibleKeys
  rw [List.filter_cons]
  by_cases hh : Cells.format c = .hidden <;> simp [hh]

theorem tree_keys (env : Env) : ∀ ms : Members,
    (treeMembers env ms).toList.map Prod.fst =
      (RowPrint.visibleKeys ms.toList).map sanitize
  | .nil => rfl
  | .cons k v ms => by
    rw [Members.toList, visibleKeys_cons, treeMembers]
    by_cases hh : Cells.format v = .hidden
    · rw [if_pos hh, if_pos (by rw [hh]; rfl)]
      exact tree_keys env ms
    · rw [if_neg hh, if_neg (by simpa using hh), JVMembers.toList, List.map_cons, List.map_cons,
        tree_keys env ms]

theorem keysOf_tree (env : Env) (row : List (Bytes × Val)) :
    LineSpec.keysOf (treeMembers env (Members.ofList row)) =
      (RowPrint.visibleKeys row).map sanitize := by
  rw [LineSpec.keysOf, tree_keys, Members.toList_ofList]

/-! ### 2. C03 at byte level -/

theorem emitted_text (env : Env) (ti to : Tmpl) (line b : Bytes)
    (h : jlLine env ti to line = .ok (b, none)) (hx : FloatTextOK env.ext) :
    ∃ r row' body, getRow env ti line = .ok (r, none) ∧
      createRow env to (.val (.row (Members.ofList r))) = .ok (row', none) ∧
      RowPrint.marshalRow env (Members.ofList row') = .ok body ∧ b = body ++ [0x0A] ∧
      Json.unmarshal body = (treeMembers env (Members.ofList row'), true) := by
  obtain ⟨r, row', body, hget, hcr, hm, hb⟩ := Order.jlLine_ok env ti to line b h
  exact ⟨r, row', body, hget, hcr, hm, hb, JsonPrint.unmarshal_marshalRow env hx _ body hm⟩

/-- C03 on the emitted bytes (`C03.emitted_bytes_keys`); `sanitize` is the identity on well-formed UTF-8. -/
theorem emitted_text_keys (env : Env) (ti to : Tmpl) (line b : Bytes)
    (h : jlLine env ti to line = .ok (b, none)) (hx : FloatTextOK env.ext)
    (hti : (OMap.keys ti).Nodup) (hto : (OMap.keys to).Nodup) :
    ∃ body t, b = body ++ [0x0A] ∧ Json.unmarshal body = (t, true) ∧
      LineSpec.keysOf t =
        (((OMap.keys to).filter fun k => Order.formatAt to k != some .hidden) ++
          (Order.appendNew (OMap.keys ti) (Order.inputKeys line)).filter
            (fun k => decide (k ∉ OMap.keys to))).map sanitize := by
  obtain ⟨r, row', body, hget, hcr, _, hb, hu⟩ := emitted_text env ti to line b h hx
  refine ⟨body, _, hb, hu, ?_⟩
  rw [keysOf_tree, Order.emitted_keys env ti to line r row' hti hto hget hcr]

/-! #### C03 in the words of the oracle (`LineSpec.expectedKeys`) -/

/-- The column list of a template as the oracle takes it, every column a leaf (for a template
    whose columns are all cells — no declared sub-row — this is the declaration itself). -/
def leafCols (to : Tmpl) : List LineSpec.Col :=
  to.map fun kv => .leaf kv.1 (Cells.format kv.2) (Cells.rawType kv.2)

theorem leafCols_names (to : Tmpl) : (leafCols to).map LineSpec.Col.name = OMap.keys to := by
  simp [leafCols, OMap.keys, List.map_map, Function.comp_def, LineSpec.Col.name]

theorem leafCols_visible (to : Tmpl) :
    ((leafCols to).filter fun c => !c.hidden).map LineSpec.Col.name = RowPrint.visibleKeys to := by
  rw [leafCols, List.filter_map, List.map_map]
  rfl

/-- `LineSpec.dedup` is `Order.appendNew []`, with `contains` where that has `∈`. -/
theorem specDedup_eq (ks : List Bytes) : LineSpec.dedup ks = ks.eraseDups := by
  rw [← Order.appendNew_nil_left]
  unfold LineSpec.dedup Order.appendNew
  congr 1
  funext acc k
  simp only [List.contains_eq_mem, decide_eq_true_eq]

theorem expectedKeys_leafCols (to : Tmpl) (hto : (OMap.keys to).Nodup) (inputKeys : List Bytes) :
    LineSpec.expectedKeys (leafCols to) inputKeys =
      ((OMap.keys to).filter fun k => Order.formatAt to k != some .hidden) ++
        (inputKeys.filter (fun k => decide (k ∉ OMap.keys to))).eraseDups := by
  unfold LineSpec.expectedKeys
  simp only [leafCols_visible, leafCols_names, specDedup_eq]
  rw [Order.visibleKeys_eq to hto, ← Order.eraseDups_filter]
  congr 1
  apply List.filter_congr
  intro k _
  simp [List.contains_eq_mem]

/-- `C03.emitted_bytes_keys_expected`: C03 as the oracle checks it (first clause of `LineSpec.orderViolation`), on
    the bytes. -/
theorem emitted_text_keys_expected (env : Env) (ti to : Tmpl) (line b : Bytes)
    (h : jlLine env ti to line = .ok (b, none)) (hx : FloatTextOK env.ext)
    (hto : (OMap.keys to).Nodup) (hperm : (OMap.keys ti).Perm (OMap.keys to)) :
    ∃ body t, b = body ++ [0x0A] ∧ Json.unmarshal body = (t, true) ∧
      LineSpec.keysOf t =
        (LineSpec.expectedKeys (leafCols to) (LineSpec.keysOf (Json.unmarshal line).1)).map
          sanitize := by
  obtain ⟨r, row', body, hget, hcr, _, hb, hu⟩ := emitted_text env ti to line b h hx
  refine ⟨body, _, hb, hu, ?_⟩
  rw [keysOf_tree, Order.emitted_keys_perm env ti to line r row' hto hperm hget hcr,
    expectedKeys_leafCols to hto]
  rfl

/-- …with every key fixed by the escaper (well-formed UTF-8): exactly the expected key list. -/
theorem emitted_text_keys_expected_fixed (env : Env) (ti to : Tmpl) (line b : Bytes)
    (h : jlLine env ti to line = .ok (b, none)) (hx : FloatTextOK env.ext)
    (hto : (OMap.keys to).Nodup) (hperm : (OMap.keys ti).Perm (OMap.keys to))
    (hfix : ∀ k ∈ OMap.keys to ++ Order.inputKeys line, sanitize k = k) :
    ∃ body t, b = body ++ [0x0A] ∧ Json.unmarshal body = (t, true) ∧
      LineSpec.keysOf t =
        LineSpec.expectedKeys (leafCols to) (LineSpec.keysOf (Json.unmarshal line).1) := by
  obtain ⟨body, t, hb, hu, hk⟩ := emitted_text_keys_expected env ti to line b h hx hto hperm
  refine ⟨body, t, hb, hu, ?_⟩
  rw [hk]
  conv => rhs; rw [← List.map_id (LineSpec.expectedKeys _ _)]
  apply List.map_congr_left
  intro k hk'
  rw [expectedKeys_leafCols to hto] at hk'
  simp only [id]
  apply hfix
  rcases List.mem_append.1 hk' with hk' | hk'
  · exact List.mem_append_left _ (List.mem_filter.1 hk').1
  · exact List.mem_append_right _ (List.mem_filter.1 (List.mem_eraseDups.1 hk')).1

/-! ### 3. What the reader finds in the printed tree, and where the keys of the created row come from -/

theorem nil_exports_nil (env : Env) (f : Format) (typ : Ty) :
    exportVal env (.cell .nil f typ) = .ok .nil :=
  exportVal_nil env f typ

theorem lookupJV_cons (k0 : Bytes) (v0 : JV) (ms : JVMembers) (k : Bytes) :
    LineSpec.lookupJV (.cons k0 v0 ms) k = if k0 = k then some v0 else LineSpec.lookupJV ms k := by
  unfold LineSpec.lookupJV
  rw [JVMembers.toList, List.find?_cons]
  by_cases h : k0 = k
  · rw [if_pos h, beq_iff_eq.mpr h]; rfl
  · rw [if_neg h, beq_eq_false_iff_ne.mpr h]

theorem lookupJV_tree_eq (env : Env) (k : Bytes) : ∀ (row : List (Bytes × Val)),
    (∀ k' ∈ RowPrint.visibleKeys row, sanitize k' = sanitize k → k' = k) →
    LineSpec.lookupJV (treeMembers env (Members.ofList row)) (sanitize k) =
      (OMap.lookup (row.filter fun kv => Cells.format kv.2 != .hidden) k).map (treeVal env)
  | [], _ => rfl
  | (k0, c0) :: rest, hsep => by
    rw [visibleKeys_cons] at hsep
    by_cases hh : Cells.format c0 = .hidden
    · rw [if_pos hh] at hsep
      rw [List.filter_cons_of_neg (by simp [hh])]
      simp only [Members.ofList, treeMembers, hh, beq_self_eq_true, if_true]
      exact lookupJV_tree_eq env k rest hsep
    · rw [if_neg hh] at hsep
      rw [List.filter_cons_of_pos (by simpa using hh), OMap.lookup_cons]
      simp only [Members.ofList, treeMembers, beq_iff_eq, hh, if_false]
      rw [lookupJV_cons]
      by_cases hk : k0 = k
      · rw [if_pos (congrArg sanitize hk), if_pos hk]
        rfl
      · rw [if_neg fun e => hk (hsep k0 List.mem_cons_self e), if_neg hk]
        exact lookupJV_tree_eq env k rest fun k' hk' => hsep k' (List.mem_cons_of_mem _ hk')

theorem lookup_filter {p : Bytes × Val → Bool} {k : Bytes} {c : Val} :
    ∀ {row : List (Bytes × Val)}, OMap.lookup row k = some c → p (k, c) = true →
      OMap.lookup (row.filter p) k = some c
  | (k0, c0) :: rest, h, hp => by
    rw [OMap.lookup_cons] at h
    by_cases hk : k0 = k
    · subst hk
      rw [if_pos rfl] at h
      cases h
      rw [List.filter_cons_of_pos hp, OMap.lookup_cons_self]
    · rw [if_neg hk] at h
      rw [List.filter_cons]
      split
      · rw [OMap.lookup_cons_ne _ _ hk]
        exact lookup_filter h hp
      · exact lookup_filter h hp

theorem visibleKeys_subset (row : List (Bytes × Val)) :
    ∀ k ∈ RowPrint.visibleKeys row, k ∈ OMap.keys row := by
  intro k hk
  unfold RowPrint.visibleKeys at hk
  obtain ⟨kv, hkv, rfl⟩ := List.mem_map.1 hk
  exact List.mem_map_of_mem (f := Prod.fst) (List.mem_filter.1 hkv).1

theorem created_keys_origin (env : Env) (ti to : Tmpl) (line : Bytes) (r row' : List (Bytes × Val))
    (hget : getRow env ti line = .ok (r, none))
    (hcr : createRow env to (.val (.row (Members.ofList r))) = .ok (row', none)) :
    ∀ k ∈ OMap.keys row', k ∈ OMap.keys to ++ OMap.keys ti ++ Order.inputKeys line := by
  intro k hk
  rw [Order.createRow_row_keys env to r row' hcr, Order.mem_appendNew, Order.mem_appendNew,
    Order.getRow_keys env ti line r hget, Order.mem_appendNew, Order.mem_appendNew] at hk
  simp only [List.not_mem_nil, false_or] at hk
  simp only [List.mem_append]
  exact or_assoc.mpr hk

theorem foldl_none {α β : Type} (f : Option α → β → Option α) (l : List β)
    (h : ∀ c ∈ l, f none c = none) : l.foldl f none = none := by
  induction l with
  | nil => rfl
  | cons c l ih =>
    rw [List.foldl_cons, h c (List.mem_cons_self ..)]
    exact ih fun c' hc' => h c' (List.mem_cons_of_mem _ hc')

/-! ### 4. Any environment -/

theorem digit_ascii {c : UInt8} (h : LineSpec.isDigit c = true) : c < 0x80 := by
  simp only [LineSpec.isDigit, Bool.and_eq_true, decide_eq_true_eq] at h
  exact UInt8.lt_of_le_of_lt h.2 (by decide)

theorem dropWhile_digit_ascii (r : Bytes) (h : ∀ b ∈ r.dropWhile LineSpec.isDigit, b < 0x80) :
    ∀ b ∈ r, b < 0x80 := by
  induction r with
  | nil => intro b hb; cases hb
  | cons c r ih =>
    intro b hb
    by_cases hc : LineSpec.isDigit c = true
    · rw [List.dropWhile_cons_of_pos hc] at h
      rcases List.mem_cons.1 hb with rfl | hb
      · exact digit_ascii hc
      · exact ih h b hb
    · rw [List.dropWhile_cons_of_neg hc] at h
      exact h b hb

theorem marshalMembers_mem (env : Env) : ∀ (row : List (Bytes × Val)) (parts : List Bytes),
    RowPrint.marshalMembers env (Members.ofList row) = .ok parts →
    ∀ k c, (k, c) ∈ row → Cells.format c ≠ .hidden → ∃ b, RowPrint.marshalVal env c = .ok b := by
  intro row
  induction row with
  | nil => intro parts _ k c hm; cases hm
  | cons kc rest ih =>
    obtain ⟨k0, c0⟩ := kc
    intro parts h k c hm hh
    simp only [Members.ofList, marshalMembers_cons_eq] at h
    split at h
    · rename_i hhid
      rcases List.mem_cons.1 hm with e | hm
      · cases e
        exact absurd (by simpa using hhid) hh
      · exact ih parts h k c hm hh
    · simp only [Outcome.bind_eq_ok] at h
      obtain ⟨b, hb, restp, hr, _⟩ := h
      rcases List.mem_cons.1 hm with e | hm
      · cases e
        exact ⟨b, hb⟩
      · exact ih restp hr k c hm hh

theorem marshalVal_cell_inv {env : Env} {raw : Dyn} {f : Format} {typ : Ty} {b : Bytes}
    (h : RowPrint.marshalVal env (.cell raw f typ) = .ok b) :
    ∃ e, exportVal env (.cell raw f typ) = .ok e ∧ RowPrint.marshalExported env e raw = .ok b := by
  rwa [marshalVal_cell_eq, Outcome.bind_eq_ok] at h

/-- The values the decoder hands to `parseobject`: never a `time.Time`, never a cell. -/
def JsonShape : Dyn → Prop
  | .time _ => False
  | .val (.cell _ _ _) => False
  | _ => True

theorem JsonShape.not_cell {x : Dyn} (h : JsonShape x) : ∀ r f t, x ≠ .val (.cell r f t) := by
  intro r f t e; subst e; exact h.elim

theorem ofJV_shape (env : Env) (v : JV) (d : Dyn) (h : ofJV env v = .ok d) : JsonShape d := by
  cases v with
  | null => cases h; trivial
  | bool b => cases h; trivial
  | num l => cases h; trivial
  | str s => cases h; trivial
  | arr xs =>
    obtain ⟨_, _, rfl⟩ := Order.ofJV_arr_inv h
    trivial
  | obj ms =>
    obtain ⟨_, _, _, _, _, rfl⟩ := Order.ofJV_obj_inv h
    trivial

theorem ofJVMembers_shape (env : Env) (ms : JVMembers) (l : List (Bytes × Dyn))
    (h : ofJVMembers env ms = .ok l) : ∀ kx ∈ l, JsonShape kx.2 := by
  intro kx hkx
  have := List.mem_map_of_mem (f := fun kd : Bytes × Dyn => (kd.1, Outcome.ok kd.2)) hkx
  rw [← Order.ofJVMembers_map env ms l h] at this
  obtain ⟨kv, _, he⟩ := List.mem_map.1 this
  exact ofJV_shape env kv.2 kx.2 (congrArg Prod.snd he)

/-- Keys fixed by the escaper (well-formed UTF-8, e.g. ASCII) are not written alike: the separation hypotheses
    hold. -/
theorem separated_of_fixed {ti to : Tmpl} {line : Bytes}
    (hfix : ∀ k ∈ OMap.keys to ++ OMap.keys ti ++ Order.inputKeys line, sanitize k = k)
    (k : Bytes) (hk : k ∈ OMap.keys to) :
    ∀ k' ∈ OMap.keys to ++ OMap.keys ti ++ Order.inputKeys line,
      sanitize k' = sanitize k → k' = k := by
  intro k' hk' hs
  rw [hfix k' hk', hfix k (List.mem_append_left _ (List.mem_append_left _ hk))] at hs
  exact hs

-- The rest of `DemoDT` is in Proofs.LineLevel; this fact about its column name `t` is here because Proofs.LineTime
-- uses it too and does not import that module.
namespace DemoDT

theorem sanitize_t : sanitize [0x74] = [0x74] := by decide +kernel

end DemoDT

end Jl.LineLevel
