/-
  Proofs.AliasFamily — property C15 for template FAMILIES (Model.AliasFamily): a template
  attached to another one with `WithRow`, and extended afterwards, never changes the other;
  "a template changes only through its own builder calls".

  A step has one of four shapes (`Upd`): a builder call stores freshly allocated cells in its
  template, a creation appends a freshly allocated row, a row operation is a step of Model.Alias.
  None writes an allocated cell outside the live rows, none changes a template but its target; so
  `Inv` is kept and the `product` of every other template stays.
-/
import Model.AliasFamily
import Proofs.Alias

namespace Jl.AliasFamily
open Jl Jl.Alias
variable {C : Type}

/-! ## 0. `taddrs`, `setSlot`, `view` -/

theorem mem_taddrs {p : Proto} {a : Addr} : a ∈ taddrs p ↔ ∃ e ∈ p, a ∈ e.2.addrs := by
  simp only [taddrs, List.mem_flatMap]

@[simp] theorem taddrs_nil : taddrs [] = [] := rfl

theorem mem_setSlot {p : Proto} {k : Bytes} {s : Slot} {e : Bytes × Slot}
    (h : e ∈ setSlot p k s) : e ∈ p ∨ e = (k, s) := by
  unfold setSlot at h
  split at h
  · rw [List.mem_map] at h
    obtain ⟨e', he', rfl⟩ := h
    split
    · exact .inr rfl
    · exact .inl he'
  · rw [List.mem_append, List.mem_singleton] at h
    exact h

theorem mem_taddrs_setSlot {p : Proto} {k : Bytes} {s : Slot} {a : Addr}
    (h : a ∈ taddrs (setSlot p k s)) : a ∈ taddrs p ∨ a ∈ s.addrs := by
  obtain ⟨e, he, ha⟩ := mem_taddrs.mp h
  rcases mem_setSlot he with he | rfl
  · exact .inl (mem_taddrs.mpr ⟨e, he, ha⟩)
  · exact .inr ha

theorem noRef_setSlot {p : Proto} {k : Bytes} {s : Slot} (hp : ∀ e ∈ p, ∀ j, e.2 ≠ .ref j)
    (hs : ∀ j, s ≠ .ref j) : ∀ e ∈ setSlot p k s, ∀ j, e.2 ≠ .ref j := by
  intro e he
  rcases mem_setSlot he with he | rfl
  · exact hp e he
  · exact hs

theorem slotView_congr {h h' : Heap C} {ts ts' : List Proto} {s : Slot} (hs : ∀ j, s ≠ .ref j)
    (hc : ∀ a ∈ s.addrs, h'.cells a = h.cells a) : slotView h' ts' s = slotView h ts s := by
  cases s with
  | cell a => simp only [slotView]; rw [hc a (by simp [Slot.addrs])]
  | sub r => simp only [slotView]; rw [content_congr (r := r) hc]
  | ref j => exact absurd rfl (hs j)

theorem view_congr {h h' : Heap C} {ts ts' : List Proto} {p : Proto}
    (hn : ∀ e ∈ p, ∀ j, e.2 ≠ .ref j) (hc : ∀ a ∈ taddrs p, h'.cells a = h.cells a) :
    view h' ts' p = view h ts p := by
  unfold view
  apply List.map_congr_left
  intro e he
  rw [slotView_congr (hn e he) (fun a ha => hc a (mem_taddrs.mpr ⟨e, he, ha⟩))]

theorem view_setSlot (h : Heap C) (ts : List Proto) (p : Proto) (k : Bytes) (s : Slot) :
    view h ts (setSlot p k s) = setView (view h ts p) k (slotView h ts s) := by
  have hany : (view h ts p).any (fun e => e.1 == k) = p.any (fun e => e.1 == k) := by
    unfold view; rw [List.any_map]; rfl
  unfold setSlot setView
  rw [hany]
  split
  · unfold view
    rw [List.map_map, List.map_map]
    apply List.map_congr_left
    intro e _
    simp only [Function.comp]
    split <;> rfl
  · unfold view
    rw [List.map_append]; rfl

/-! ## 1. `cloneProto` -/

-- `(pack)` without type is `pack : List (Bytes × Option C) → C`: what a snapshot stores for a
-- nested row (`snapView`, Model.AliasFamily).

theorem cloneProto_addrs_nodup (clone : C → C) (pack) (h : Heap C) (ts : List Proto) (p : Proto) :
    (addrs (cloneProto clone pack h ts p).2).Nodup :=
  build_addrs_nodup h _

theorem snaps_length_le (clone : C → C) (pack) (v : View C) :
    (snaps clone pack v).length ≤ v.length := List.length_filterMap_le _ _

/-- A row object seen as a prototype of plain cells. -/
def ofRow (r : RowObj) : Proto := r.map fun e => (e.1, Slot.cell e.2)

theorem snaps_ofRow (clone : C → C) (pack) (h : Heap C) (ts : List Proto) (r : RowObj) :
    ((snaps clone pack (view h ts (ofRow r))).map fun e => (e.1, some e.2))
      = cloned clone (content h r) := by
  simp only [snaps, view, ofRow, cloned, content, List.map_map, List.filterMap_map,
    List.map_filterMap]
  congr 1
  funext e
  simp only [Function.comp, slotView, snapView]
  cases h.cells e.2 <;> rfl

theorem cloneProto_eq_cloneRow (clone : C → C) (pack) (h : Heap C) (ts : List Proto) (r : RowObj)
    (hr : ∀ a ∈ addrs r, a < h.next) :
    cloneProto clone pack h ts (ofRow r) = cloneRow clone h r := by
  obtain ⟨l, hl, _, hc⟩ := cloneRow_eq_build clone h r
  have inj : ∀ x y : Bytes × C, (x.1, some x.2) = (y.1, some y.2) → x = y := by
    rintro ⟨_, _⟩ ⟨_, _⟩ e
    cases e
    rfl
  rw [hl, (List.map_inj_right inj).mp ((hc hr).trans (snaps_ofRow clone pack h ts r).symm)]
  rfl

/-! ## 2. The shape of a step -/

theorem run_nil (w : World C) : run w [] = w := rfl
theorem run_cons (w : World C) (op : Op C) (ops : List (Op C)) :
    run w (op :: ops) = run (step w op) ops := rfl

theorem run_append (w : World C) (ops ops' : List (Op C)) :
    run w (ops ++ ops') = run (run w ops) ops' := by
  induction ops generalizing w with
  | nil => rfl
  | cons op ops ih => exact ih (step w op)

/-- The shapes a step can take.  The index is the template changed; `rowOp` says that the step
    may be an operation of Model.Alias on the live rows. -/
inductive Upd (w : World C) (rowOp : Prop) : Option Nat → World C → Prop
  | same (t : Option Nat) : Upd w rowOp t w
  /-- cells are allocated and the entry that owns them is stored in template `i` -/
  | tmpl (i : Nat) (p : Proto) (name : Bytes) (s : Slot) (l : List (Bytes × C)) :
      w.tmpls[i]? = some p → s.addrs = addrs (initWorld.build w.heap l).2 → (∀ j, s ≠ .ref j) →
      Upd w rowOp (some i) { w with heap := (initWorld.build w.heap l).1,
                                    tmpls := w.tmpls.set i (setSlot p name s) }
  | push (t : Option Nat) (l : List (Bytes × C)) :
      Upd w rowOp t { w with heap := (initWorld.build w.heap l).1,
                             rows := w.rows ++ [(initWorld.build w.heap l).2] }
  | rows (t : Option Nat) (op : Alias.Op C) : rowOp →
      Upd w rowOp t { w with heap := (Alias.step ⟨w.heap, [], w.rows⟩ op).heap,
                             rows := (Alias.step ⟨w.heap, [], w.rows⟩ op).rows }

theorem step_upd (w : World C) (op : Op C) :
    Upd w (∃ rop, op = .row rop) op.tmplTarget (step w op) := by
  cases op with
  | with_ i name c =>
    simp only [step]
    split
    · exact .tmpl i _ name (.cell w.heap.next) [(name, c)] ‹_› rfl fun _ => Slot.noConfusion
    · exact .same _
  | withRow i name j clone pack =>
    simp only [step]
    split
    · exact .tmpl i _ name (.sub _) _ ‹_› rfl fun _ => Slot.noConfusion
    · exact .same _
  | createFrom i clone pack =>
    simp only [step]
    split
    · exact .push _ _
    · exact .same _
  | row rop => exact .rows _ rop ⟨rop, rfl⟩

/-- Builder calls and creations write fresh cells only, row operations cells of live rows only. -/
theorem Upd.cells_eq {w w' : World C} {rowOp : Prop} {t : Option Nat} (u : Upd w rowOp t w')
    {b : Addr} (hb : b < w.heap.next) (hr : rowOp → ∀ r ∈ w.rows, b ∉ addrs r) :
    w'.heap.cells b = w.heap.cells b := by
  cases u with
  | same => rfl
  | tmpl i p name s l => exact build_cells_below w.heap l b hb
  | push _ l => exact build_cells_below w.heap l b hb
  | rows _ op h =>
    exact (Alias.step_upd ⟨w.heap, [], w.rows⟩ op).cells_eq hb fun i r _ hi =>
      hr h r (List.mem_of_getElem? hi)

theorem Upd.tmpls_get {w w' : World C} {rowOp : Prop} {t : Option Nat} (u : Upd w rowOp t w')
    {k : Nat} (hk : t ≠ some k) : w'.tmpls[k]? = w.tmpls[k]? := by
  cases u with
  | tmpl i p name s l => exact List.getElem?_set_ne fun (e : i = k) => hk (e ▸ rfl)
  | _ => rfl

theorem step_with_some {w : World C} {i : Nat} {p : Proto} (name : Bytes) (c : C)
    (hi : w.tmpls[i]? = some p) :
    step w (.with_ i name c) =
      { w with heap := (w.heap.alloc c).1,
               tmpls := w.tmpls.set i (setSlot p name (.cell w.heap.next)) } := by
  simp only [step, hi]; rfl

theorem step_withRow_some {w : World C} {i j : Nat} {p q : Proto} (name : Bytes) (clone : C → C)
    (pack) (hi : w.tmpls[i]? = some p) (hj : w.tmpls[j]? = some q) :
    step w (.withRow i name j clone pack) =
      { w with heap := (cloneProto clone pack w.heap w.tmpls q).1,
               tmpls := w.tmpls.set i
                 (setSlot p name (.sub (cloneProto clone pack w.heap w.tmpls q).2)) } := by
  simp only [step, hi, hj]

theorem step_createFrom_some {w : World C} {i : Nat} {p : Proto} (clone : C → C) (pack)
    (hi : w.tmpls[i]? = some p) :
    step w (.createFrom i clone pack) =
      { w with heap := (cloneProto clone pack w.heap w.tmpls p).1,
               rows := w.rows ++ [(cloneProto clone pack w.heap w.tmpls p).2] } := by
  simp only [step, hi]

/-! ## 3. The invariant is preserved -/

theorem Inv.disj {w : World C} (inv : Inv w) : Disj (⟨w.heap, [], w.rows⟩ : Alias.World C) :=
  ⟨nofun, inv.rows_lt, fun _ _ _ => nofun, inv.rows_rows⟩

theorem Inv.bystander {w : World C} (inv : Inv w) (op : Alias.Op C) {p : Proto} (hp : p ∈ w.tmpls) :
    let aw := Alias.step ⟨w.heap, [], w.rows⟩ op
    (∀ a ∈ taddrs p, a < aw.heap.next) ∧ (∀ r ∈ aw.rows, ∀ a ∈ taddrs p, a ∉ addrs r) ∧
      (∀ a ∈ taddrs p, aw.heap.cells a = w.heap.cells a) :=
  (Alias.step_upd ⟨w.heap, [], w.rows⟩ op).bystander (inv.tmpl_lt p hp) fun r hr =>
    inv.tmpl_rows p hp r hr

theorem Inv.upd {w w' : World C} {rowOp : Prop} {t : Option Nat} (u : Upd w rowOp t w')
    (inv : Inv w) : Inv w' := by
  cases u with
  | same => exact inv
  | tmpl i p name s l hi hs hnr =>
    -- template `i` gets a prototype made of its old cells and fresh ones
    have hpm := List.mem_of_getElem? hi
    have hle := build_next_le w.heap l
    have hsub : ∀ a ∈ taddrs (setSlot p name s), a ∈ taddrs p ∨ w.heap.next ≤ a ∧
        a < (initWorld.build w.heap l).1.next := fun a ha =>
      (mem_taddrs_setSlot ha).imp_right fun h => build_fresh w.heap l a (hs ▸ h)
    refine ⟨fun r hr a ha => Nat.lt_of_lt_of_le (inv.rows_lt r hr a ha) hle, inv.rows_rows,
      ?_, ?_, ?_, ?_⟩
    · intro q hq a ha
      rcases List.mem_or_eq_of_mem_set hq with hq | rfl
      · exact Nat.lt_of_lt_of_le (inv.tmpl_lt q hq a ha) hle
      · exact (hsub a ha).elim (fun h => Nat.lt_of_lt_of_le (inv.tmpl_lt p hpm a h) hle) (·.2)
    · intro q hq r hr a ha hm
      rcases List.mem_or_eq_of_mem_set hq with hq | rfl
      · exact inv.tmpl_rows q hq r hr a ha hm
      · exact (hsub a ha).elim (fun h => inv.tmpl_rows p hpm r hr a h hm)
          fun h => Nat.not_le_of_lt (inv.rows_lt r hr a hm) h.1
    · exact Apart.set (f := taddrs) inv.tmpl_tmpl inv.tmpl_lt hi fun a ha =>
        (hsub a ha).imp_right (·.1)
    · intro q hq
      rcases List.mem_or_eq_of_mem_set hq with hq | rfl
      · exact inv.noRef q hq
      · exact noRef_setSlot (inv.noRef p hpm) hnr
  | push _ l =>
    have hle := build_next_le w.heap l
    have hfresh := build_fresh w.heap l
    refine ⟨?_, Apart.append_fresh (f := addrs) inv.rows_rows inv.rows_lt fun a ha => (hfresh a ha).1,
      fun p hp a ha => Nat.lt_of_lt_of_le (inv.tmpl_lt p hp a ha) hle, ?_, inv.tmpl_tmpl, inv.noRef⟩
    · intro r' hr' a ha
      rcases List.mem_append.mp hr' with hr' | hr'
      · exact Nat.lt_of_lt_of_le (inv.rows_lt r' hr' a ha) hle
      · rw [List.mem_singleton] at hr'
        exact (hfresh a (hr' ▸ ha)).2
    · intro p hp r' hr' a ha hm
      rcases List.mem_append.mp hr' with hr' | hr'
      · exact inv.tmpl_rows p hp r' hr' a ha hm
      · rw [List.mem_singleton] at hr'
        exact Nat.not_le_of_lt (inv.tmpl_lt p hp a ha) (hfresh a (hr' ▸ hm)).1
  | rows _ op =>
    have d := inv.disj.upd (Alias.step_upd _ op)
    exact ⟨d.rows_lt, d.rows_rows, fun p hp => (inv.bystander op hp).1,
      fun p hp => (inv.bystander op hp).2.1, inv.tmpl_tmpl, inv.noRef⟩

theorem inv_step {w : World C} (inv : Inv w) (op : Op C) : Inv (step w op) :=
  inv.upd (step_upd w op)

theorem inv_run {w : World C} (inv : Inv w) (ops : List (Op C)) : Inv (run w ops) := by
  induction ops generalizing w with
  | nil => exact inv
  | cons op ops ih => exact ih (inv_step inv op)

theorem inv_init (n : Nat) : Inv (initWorld C n) := by
  have hp : ∀ p ∈ (initWorld C n).tmpls, p = [] := fun p hp => (List.mem_replicate.mp hp).2
  refine ⟨nofun, ?_, ?_, fun _ _ => nofun, ?_, ?_⟩
  · intro i j ri rj hi; simp [initWorld] at hi
  · intro p hp' a ha; rw [hp p hp'] at ha; cases ha
  · intro i j pi pj hi _ _ a ha
    rw [hp pi (List.mem_of_getElem? hi)] at ha; cases ha
  · intro p hp' e he; rw [hp p hp'] at he; cases he

/-! ## 4. Frame -/

theorem product_congr {w w' : World C} (inv : Inv w) (k : Nat) (ht : w'.tmpls[k]? = w.tmpls[k]?)
    (hc : ∀ p, w.tmpls[k]? = some p → ∀ a ∈ taddrs p, w'.heap.cells a = w.heap.cells a) :
    product w' k = product w k := by
  unfold product
  rw [ht]
  cases hk : w.tmpls[k]? with
  | none => rfl
  | some p =>
    simp only [Option.map_some]
    rw [view_congr (inv.noRef p (List.mem_of_getElem? hk)) (hc p hk)]

theorem Upd.product_eq {w w' : World C} {rowOp : Prop} {t : Option Nat} (u : Upd w rowOp t w')
    (inv : Inv w) (k : Nat) (hk : t ≠ some k) : product w' k = product w k :=
  product_congr inv k (u.tmpls_get hk) fun p hp a ha =>
    have hm := List.mem_of_getElem? hp
    u.cells_eq (inv.tmpl_lt p hm a ha) fun _ r hr => inv.tmpl_rows p hm r hr a ha

/-- The frame property; row operations and creations have no target. -/
theorem frame_product {w : World C} (inv : Inv w) (op : Op C) (k : Nat)
    (hk : op.tmplTarget ≠ some k) : product (step w op) k = product w k :=
  (step_upd w op).product_eq inv k hk

theorem frame_run {w : World C} (inv : Inv w) (ops : List (Op C)) (k : Nat)
    (hops : ∀ op ∈ ops, op.tmplTarget ≠ some k) : product (run w ops) k = product w k := by
  induction ops generalizing w with
  | nil => rfl
  | cons op ops ih =>
    rw [run_cons, ih (inv_step inv op) (fun op' h' => hops op' (by simp [h'])),
      frame_product inv op k (hops op (by simp))]

/-- A builder call is `SetValue(name, the new entry)` on what is observed of its own template. -/
theorem builder_product {w : World C} (inv : Inv w) {i : Nat} {p : Proto}
    (hi : w.tmpls[i]? = some p) (name : Bytes) (s : Slot) (l : List (Bytes × C)) :
    product { w with heap := (initWorld.build w.heap l).1,
                     tmpls := w.tmpls.set i (setSlot p name s) } i =
      some (setView (view w.heap w.tmpls p) name
        (slotView (initWorld.build w.heap l).1 (w.tmpls.set i (setSlot p name s)) s)) := by
  have hpm := List.mem_of_getElem? hi
  simp only [product, List.getElem?_set_self (List.getElem?_eq_some_iff.mp hi).1, Option.map_some,
    view_setSlot]
  rw [view_congr (inv.noRef p hpm) fun a ha => build_cells_below w.heap l a (inv.tmpl_lt p hpm a ha)]

theorem with_product {w : World C} (inv : Inv w) {i : Nat} {p : Proto}
    (hi : w.tmpls[i]? = some p) (name : Bytes) (c : C) :
    product (step w (.with_ i name c)) i =
      some (setView (view w.heap w.tmpls p) name (.cellv (some c))) := by
  rw [step_with_some name c hi]
  exact (builder_product inv hi name (.cell w.heap.next) [(name, c)]).trans
    (by simp [slotView, build_cons, build_nil])

/-- `WithRow`: under `name`, `CloneValue` of what template `j` showed AT THE CALL — a snapshot. -/
theorem withRow_product {w : World C} (inv : Inv w) {i j : Nat} {p q : Proto}
    (hi : w.tmpls[i]? = some p) (hj : w.tmpls[j]? = some q) (name : Bytes) (clone : C → C) (pack) :
    product (step w (.withRow i name j clone pack)) i =
      some (setView (view w.heap w.tmpls p) name
        (.subv ((snaps clone pack (view w.heap w.tmpls q)).map fun e => (e.1, some e.2)))) := by
  rw [step_withRow_some name clone pack hi hj]
  exact (builder_product inv hi name _ _).trans (by simp only [slotView, cloneProto, build_content])

theorem createFrom_content {w : World C} {i : Nat} {p : Proto} (hi : w.tmpls[i]? = some p)
    (clone : C → C) (pack) :
    ∃ r, (step w (.createFrom i clone pack)).rows = w.rows ++ [r] ∧
      content (step w (.createFrom i clone pack)).heap r =
        (snaps clone pack (view w.heap w.tmpls p)).map fun e => (e.1, some e.2) := by
  refine ⟨(cloneProto clone pack w.heap w.tmpls p).2, ?_, ?_⟩
  · rw [step_createFrom_some clone pack hi]
  · rw [step_createFrom_some clone pack hi]; exact build_content ..

/-- What a template produces is a function of its product. -/
theorem createFrom_same_of_product_eq {w w' : World C} {i : Nat} (h : product w' i = product w i)
    {p : Proto} (hi : w.tmpls[i]? = some p) (clone : C → C) (pack) :
    ∃ r r', (step w (.createFrom i clone pack)).rows = w.rows ++ [r] ∧
      (step w' (.createFrom i clone pack)).rows = w'.rows ++ [r'] ∧
      content (step w' (.createFrom i clone pack)).heap r' =
        content (step w (.createFrom i clone pack)).heap r := by
  cases hi' : w'.tmpls[i]? with
  | none => simp [product, hi, hi'] at h
  | some p' =>
    obtain ⟨r, hr, hc⟩ := createFrom_content hi clone pack
    obtain ⟨r', hr', hc'⟩ := createFrom_content hi' clone pack
    refine ⟨r, r', hr, hr', ?_⟩
    simp only [product, hi, hi', Option.map_some, Option.some.injEq] at h
    rw [hc, hc', h]

theorem Upd.rows_stay {w w' : World C} {rowOp : Prop} {t : Option Nat} (u : Upd w rowOp t w')
    (hop : ¬ rowOp) (inv : Inv w) {j : Nat} {rj : RowObj} (hj : w.rows[j]? = some rj) :
    w'.rows[j]? = some rj ∧ content w'.heap rj = content w.heap rj := by
  refine ⟨?_, content_congr fun a ha =>
    u.cells_eq (inv.rows_lt rj (List.mem_of_getElem? hj) a ha) fun h => absurd h hop⟩
  cases u with
  | push _ l => exact (List.getElem?_append_left (List.getElem?_eq_some_iff.mp hj).1).trans hj
  | rows _ rop h => exact absurd h hop
  | _ => exact hj

/-- The other direction: builder calls and creations change no live row. -/
theorem frame_rows_of_not_row {w : World C} (inv : Inv w) (op : Op C) (hop : ∀ rop, op ≠ .row rop)
    {j : Nat} {rj : RowObj} (hj : w.rows[j]? = some rj) :
    (step w op).rows[j]? = some rj ∧ content (step w op).heap rj = content w.heap rj :=
  (step_upd w op).rows_stay (fun ⟨rop, e⟩ => hop rop e) inv hj

theorem frame_rows_of_row {w : World C} (inv : Inv w) (rop : Alias.Op C) {j : Nat} {rj : RowObj}
    (hj : w.rows[j]? = some rj) (hop : ¬ rop.touches j) :
    (step w (.row rop)).rows[j]? = some rj ∧
      content (step w (.row rop)).heap rj = content w.heap rj :=
  frame_row inv.disj rop (w := ⟨w.heap, [], w.rows⟩) hj hop

/-! ## 5. The named consequences -/

theorem builder_changes_only_own {w : World C} (inv : Inv w) (op : Op C) {i : Nat}
    (hop : op.tmplTarget = some i) (k : Nat) (hk : k ≠ i) : product (step w op) k = product w k :=
  frame_product inv op k (fun e => hk (Option.some.inj (e.symm.trans hop)))

/-- Attaching `j` to `i` and THEN extending `j` does not change `product i`. -/
theorem attached_child_extended_later {w : World C} (inv : Inv w) {i j : Nat} (hij : i ≠ j)
    (name : Bytes) (clone : C → C) (pack) (late : Bytes) (c : C) :
    product (run w [.withRow i name j clone pack, .with_ j late c]) i =
      product (step w (.withRow i name j clone pack)) i :=
  builder_changes_only_own (inv_step inv _) (.with_ j late c) rfl i hij

/-- … nor does ANY later history without a builder call on `i` itself. -/
theorem attached_child_any_later_history {w : World C} (inv : Inv w) (i j : Nat) (name : Bytes)
    (clone : C → C) (pack) (ops : List (Op C)) (hops : ∀ op ∈ ops, op.tmplTarget ≠ some i) :
    product (run w (.withRow i name j clone pack :: ops)) i =
      product (step w (.withRow i name j clone pack)) i :=
  frame_run (inv_step inv _) ops i hops

/-- … and the product it keeps is the snapshot made at the call. -/
theorem attached_child_snapshot {w : World C} (inv : Inv w) {i j : Nat} {p q : Proto}
    (hi : w.tmpls[i]? = some p) (hj : w.tmpls[j]? = some q) (name : Bytes) (clone : C → C) (pack)
    (ops : List (Op C)) (hops : ∀ op ∈ ops, op.tmplTarget ≠ some i) :
    product (run w (.withRow i name j clone pack :: ops)) i =
      some (setView (view w.heap w.tmpls p) name
        (.subv ((snaps clone pack (view w.heap w.tmpls q)).map fun e => (e.1, some e.2)))) := by
  rw [attached_child_any_later_history inv i j name clone pack ops hops,
    withRow_product inv hi hj]

theorem parent_extended_later {w : World C} (inv : Inv w) {i j : Nat} (hij : i ≠ j)
    (name : Bytes) (clone : C → C) (pack) (ops : List (Op C))
    (hops : ∀ op ∈ ops, op.tmplTarget = some i) :
    product (run w (.withRow i name j clone pack :: ops)) j = product w j := by
  rw [run_cons, frame_run (inv_step inv _) ops j
    (fun op h e => hij (Option.some.inj ((hops op h).symm.trans e))),
    builder_changes_only_own inv (.withRow i name j clone pack) rfl j (fun e => hij e.symm)]

theorem row_mutation_changes_no_template {w : World C} (inv : Inv w) (ops : List (Op C))
    (hops : ∀ op ∈ ops, (∃ rop, op = .row rop) ∨ (∃ i clone pack, op = .createFrom i clone pack))
    (k : Nat) : product (run w ops) k = product w k := by
  apply frame_run inv ops k
  intro op hop
  rcases hops op hop with ⟨rop, rfl⟩ | ⟨i, clone, pack, rfl⟩ <;> simp [Op.tmplTarget]

/-- A row created after a history of row mutations and creations is the row created before it. -/
theorem row_mutation_same_rows_created {w : World C} (inv : Inv w) (ops : List (Op C))
    (hops : ∀ op ∈ ops, (∃ rop, op = .row rop) ∨ (∃ i clone pack, op = .createFrom i clone pack))
    {i : Nat} {p : Proto} (hi : w.tmpls[i]? = some p) (clone : C → C) (pack) :
    ∃ r r', (step w (.createFrom i clone pack)).rows = w.rows ++ [r] ∧
      (step (run w ops) (.createFrom i clone pack)).rows = (run w ops).rows ++ [r'] ∧
      content (step (run w ops) (.createFrom i clone pack)).heap r' =
        content (step w (.createFrom i clone pack)).heap r :=
  createFrom_same_of_product_eq (row_mutation_changes_no_template inv ops hops i) hi clone pack

/-- A template attached to ITSELF is harmless in this model: the clone is made of what the
    prototype holds at the call, so it is finite (at most one new cell per key) and does not
    contain itself. -/
theorem withRow_self {w : World C} (inv : Inv w) {i : Nat} {p : Proto}
    (hi : w.tmpls[i]? = some p) (name : Bytes) (clone : C → C) (pack) :
    Inv (step w (.withRow i name i clone pack)) ∧
      (∀ k, k ≠ i → product (step w (.withRow i name i clone pack)) k = product w k) ∧
      product (step w (.withRow i name i clone pack)) i =
        some (setView (view w.heap w.tmpls p) name
          (.subv ((snaps clone pack (view w.heap w.tmpls p)).map fun e => (e.1, some e.2)))) ∧
      (step w (.withRow i name i clone pack)).heap.next ≤ w.heap.next + p.length := by
  refine ⟨inv_step inv _, builder_changes_only_own inv _ rfl,
    withRow_product inv hi hi name clone pack, ?_⟩
  rw [step_withRow_some name clone pack hi hi]
  have hl : (view w.heap w.tmpls p).length = p.length := by simp [view]
  exact Nat.le_trans (Nat.le_of_eq (build_next w.heap _))
    (Nat.add_le_add_left (hl ▸ snaps_length_le clone pack (view w.heap w.tmpls p)) _)

/-! ## 6. The broken `WithRow`, and witnesses on concrete worlds (`C := Nat`) -/

namespace Witness

def kA : Bytes := [97]
def kB : Bytes := [98]
def kP : Bytes := [112]
def kQ : Bytes := [113]
def kLate : Bytes := [108]
/-- what `CloneValue` makes of a nested row: here, a number that shows how many keys it read -/
def pk : List (Bytes × Option Nat) → Nat := fun l => 1000 + l.length

def w0 : World Nat := run (initWorld Nat 2) [.with_ 0 kA 1, .with_ 1 kB 2]

example : product w0 0 = some [(kA, .cellv (some 1))] := by decide +kernel
example : product w0 1 = some [(kB, .cellv (some 2))] := by decide +kernel

/-- The real `WithRow`: the parent gets a snapshot … -/
example : product (step w0 (.withRow 0 kP 1 id pk)) 0 =
    some [(kA, .cellv (some 1)), (kP, .subv [(kB, some 2)])] := by decide +kernel
/-- … which extending the child afterwards does not change (instance of
    `attached_child_extended_later`), while the child itself has the late column. -/
example :
    let w := run w0 [.withRow 0 kP 1 id pk, .with_ 1 kLate 7]
    product w 0 = some [(kA, .cellv (some 1)), (kP, .subv [(kB, some 2)])] ∧
      product w 1 = some [(kB, .cellv (some 2)), (kLate, .cellv (some 7))] := by decide +kernel

/-- The broken variant `withRowShared`: when `WithRow` keeps the child's own row object, extending
    the child afterwards CHANGES what the parent produces. -/
theorem shared_child_extended_later_changes_parent :
    let w1 := withRowShared w0 0 kP 1
    let w2 := step w1 (.with_ 1 kLate 7)
    product w1 0 = some [(kA, .cellv (some 1)), (kP, .subv [(kB, some 2)])] ∧
      product w2 0 = some [(kA, .cellv (some 1)), (kP, .subv [(kB, some 2), (kLate, some 7)])] ∧
      product w2 0 ≠ product w1 0 := by
  decide +kernel

/-- … and so do the rows it creates (`pk` shows the number of keys read: 1, then 2). -/
example :
    let w1 := withRowShared w0 0 kP 1
    let w2 := step w1 (.with_ 1 kLate 7)
    (step w1 (.createFrom 0 id pk)).rows.map (content (step w1 (.createFrom 0 id pk)).heap) =
        [[(kA, some 1), (kP, some 1001)]] ∧
      (step w2 (.createFrom 0 id pk)).rows.map (content (step w2 (.createFrom 0 id pk)).heap) =
        [[(kA, some 1), (kP, some 1002)]] := by decide +kernel

theorem shared_not_inv : ¬ Inv (withRowShared w0 0 kP 1) := by
  intro h
  exact h.noRef [(kA, .cell 0), (kP, .ref 1)] (by decide +kernel) (kP, .ref 1) (by decide +kernel) 1 rfl

/-- A template attached to itself with `withRowShared` is a CYCLE: its prototype holds itself
    (in the code: `Raw()` of such a row does not terminate).  The real `WithRow` makes a finite
    clone (`withRow_self`). -/
example : (withRowShared w0 0 kP 0).tmpls[0]? = some [(kA, .cell 0), (kP, .ref 0)] := by decide +kernel
example :
    let w := run w0 [.withRow 0 kP 0 id pk, .withRow 0 kQ 0 id pk]
    product w 0 = some [(kA, .cellv (some 1)), (kP, .subv [(kA, some 1)]),
                        (kQ, .subv [(kA, some 1), (kP, some 1001)])] ∧
      w.heap.next = 5 := by decide +kernel

/-- The mechanism is the shared ROW OBJECT, not shared cells: a variant that stores a new row
    object holding the child's own cells breaks the invariant … -/
theorem sharedCells_not_inv : ¬ Inv (withRowSharedCells w0 0 kP 1) := by
  intro h
  exact h.tmpl_tmpl 0 1 [(kA, .cell 0), (kP, .sub [(kB, 1)])] [(kB, .cell 1)] (by decide +kernel)
    (by decide +kernel) (by decide +kernel) 1 (by decide +kernel) (by decide +kernel)

/-- … yet no builder call can show it, because builder calls never write a cell in place
    (`With` on an existing key stores a NEW cell): -/
example :
    let w1 := withRowSharedCells w0 0 kP 1
    product (run w1 [.with_ 1 kLate 7, .with_ 1 kB 9]) 0 = product w1 0 := by decide +kernel

/-- A history over two templates and their rows. -/
def hist : List (Op Nat) :=
  [.withRow 0 kP 1 (· + 10) pk,
   .createFrom 0 (· + 100) pk,                     -- row 0
   .row (.importKey 0 kA (fun _ => 77)),
   .row (.importKey 0 kP (fun _ => 78)),
   .with_ 1 kLate 7,
   .createFrom 1 id pk,                            -- row 1
   .row (.setKey 1 kB (fun _ => 79)),
   .with_ 0 kQ 5,
   .withRow 1 kP 0 id pk,
   .withRow 7 kP 0 id pk,                          -- no such template: nothing happens
   .row (.cloneLive 0 id),                         -- row 2
   .createFrom 0 id pk]                            -- row 3

example : (run w0 hist).tmpls.map (view (run w0 hist).heap (run w0 hist).tmpls) =
    [ [(kA, .cellv (some 1)), (kP, .subv [(kB, some 12)]), (kQ, .cellv (some 5))],
      [(kB, .cellv (some 2)), (kLate, .cellv (some 7)),
       (kP, .subv [(kA, some 1), (kP, some 1001), (kQ, some 5)])] ] := by decide +kernel
example : (run w0 hist).rows.map (content (run w0 hist).heap) =
    [ [(kA, some 77), (kP, some 78)],
      [(kB, some 79), (kLate, some 7)],
      [(kA, some 77), (kP, some 78)],
      [(kA, some 1), (kP, some 1001), (kQ, some 5)] ] := by decide +kernel
-- the hypotheses of the theorems are not vacuous
example : Inv w0 := inv_run (inv_init 2) _
example : Inv (run w0 hist) := inv_run (inv_run (inv_init 2) _) hist
example : ((run w0 hist).tmpls.map taddrs, (run w0 hist).rows.map addrs, (run w0 hist).heap.next) =
    ([[0, 2, 9], [1, 5, 10, 11, 12]], [[3, 4], [8, 7], [13, 14], [15, 16, 17]], 18) := by decide +kernel
example : cloneProto (· + 1) pk w0.heap w0.tmpls (ofRow [(kA, 0), (kB, 1)]) =
    cloneRow (· + 1) w0.heap [(kA, 0), (kB, 1)] :=
  cloneProto_eq_cloneRow _ _ _ _ _ (by decide +kernel)

end Witness

end Jl.AliasFamily
