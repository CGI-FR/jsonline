/-
  Proofs.CellTable — where the tables of DESIGN.md §8 meet the cell facts, for C05 and C13 at once: the families
  `Covered` of (format, raw type, raw value) and one case analysis over them, `covered_both`.  `covered_of_table`
  reads the family off the descriptor, `Tables.inDomain` and the standard-library answers (`ExtHyp`); the table
  theorems of both properties are projections: `covered_cellFixed` (C05), `RowRoundTrip.gen_pairing_covered` and
  `gen_pairing_coveredExt` (C13).
  Which notion gives which: `SelfReadable.FixedPoint` (dynamic values) gives `CellFixed` (bytes) by
  `cellFixed_of_fixedPoint`, a theorem of Proofs/Pairings by `cellFixed_of_pair`; `FreeFixed` is `CellFixed`
  without a descriptor, for the names the template does not declare (Proofs.LineFixedPoint).
  Namespace `Jl.LineFixedPoint`: `CellFixed`, `Covered`, `coveredB`, `ExtHyp` are the vocabulary of the statements
  of Proofs.LineFixedPoint and Props/C05, defined here because Proofs.RowRoundTrip needs them too; at the end
  `Jl.RowRoundTrip`, for the two table theorems Props/C13 cites under that name.
-/
import Model.Tables
import Proofs.CastTyped
import Proofs.Pairings
import Proofs.SelfReadable
import Proofs.JsonPrint
import Proofs.Order
import Proofs.LineCast
import Proofs.RoundTrip
import Proofs.RowCells

namespace Jl.LineFixedPoint
open Jl Jl.Value Jl.Template Jl.RowPrint Jl.JsonPrint Jl.JsonQuote Cast

theorem format_cell (raw : Dyn) (f : Format) (ty : Ty) : Cells.format (.cell raw f ty) = f := rfl
theorem rawType_cell (raw : Dyn) (f : Format) (ty : Ty) : Cells.rawType (.cell raw f ty) = ty := rfl
theorem raw_cell (raw : Dyn) (f : Format) (ty : Ty) : Cells.raw (.cell raw f ty) = raw := by
  rw [Cells.raw]

/-- A printed cell `c` of a column declared `(f, ty)` in the output template is a fixed point:
    what the reader hands to `Import` for its text (`d`), imported under `(f, ty)` (`c1`) and
    cloned by `CreateRow` (`NewValue(c1.Raw(), f, ty)`, `c2`), is marshalled to the same bytes. -/
def CellFixed (env : Env) (f : Format) (ty : Ty) (c : Val) : Prop :=
  ∃ d c1 c2, ofJV env (treeVal env c) = .ok d ∧ importCell env f ty d = .ok (c1, none) ∧
    newValue env (Cells.raw c1) f ty = .ok c2 ∧ marshalVal env c2 = marshalVal env c

/-- The same under a name the output template does not declare: the reader's value goes into a fresh Auto cell. -/
def FreeFixed (env : Env) (c : Val) : Prop :=
  ∃ d, ofJV env (treeVal env c) = .ok d ∧ marshalVal env (Cells.autoCell d) = marshalVal env c

theorem treeVal_dynOf (env : Env) (v : JV) (hv : RoundTrip.AllV RoundTrip.StrOK RoundTrip.NumOK v) :
    treeVal env (.cell (RoundTrip.dynOf v) .auto .none) = v := by
  rw [RoundTrip.treeVal_auto, RoundTrip.treeDyn_dynOf, RoundTrip.canonV_id v hv]
  cases v <;> simp [RoundTrip.dynOf, treeExported]
  · simp only [RoundTrip.AllV, RoundTrip.NumOK] at hv
    exact RowRoundTrip.numText_valid hv
  · simp only [RoundTrip.AllV, RoundTrip.StrOK] at hv
    exact hv


/-! ### The regenerated tables: every imported value is re-cloned as itself -/

theorem gen_newValue_cast_result (ext : Ext) (x r : Dyn) (f : Format) (ty : Ty)
    (h : castTo genTables ext ty x = .ok r) :
    newValue ⟨genTables, ext⟩ r f ty = .ok (.cell r f ty) := by
  by_cases hn : ty = .none
  · subst hn; exact RowRoundTrip.gen_newValue_none ext r f
  · by_cases ho : ty = .other
    · subst ho; rw [RowRoundTrip.gen_castTo_other] at h; cases h
    · obtain ⟨h1, h2⟩ := CastTyped.gen_castTo_typed ext ty hn x r h
      by_cases hx : x = .nil
      · rw [h1.mpr hx]; exact LineCast.gen_newValue_nil ext f ty
      · exact LineCast.newValue_keeps ext f (.inr (.inr (h2 hx)))

theorem gen_import_reclone (ext : Ext) (f : Format) (ty : Ty) {e d : Dyn} (c1 : Val)
    (hw : RowRoundTrip.Wire e d) (h : importCell ⟨genTables, ext⟩ f ty d = .ok (c1, none)) :
    ∃ r1, c1 = .cell r1 f ty ∧ newValue ⟨genTables, ext⟩ r1 f ty = .ok (.cell r1 f ty) := by
  obtain ⟨r, rfl, hr⟩ :=
    LineLevel.importCell_rawTyped ext (x := d) (by cases hw <;> exact fun _ _ _ => nofun) h
  exact ⟨r, rfl, LineCast.newValue_keeps ext f (or_left_comm.mp hr)⟩

/-- The clone holds the cast value, or the value whose cast failed — and fails again. -/
theorem gen_reclone (ext : Ext) (v c0 : Val) (h : cloneValue ⟨genTables, ext⟩ v = .ok c0) :
    cloneValue ⟨genTables, ext⟩ c0 = .ok c0 := by
  rcases Order.newValue_inv h with ⟨r, hr, rfl⟩ | rfl
  · exact gen_newValue_cast_result ext _ r _ _ hr
  · exact h

/-! ### From the cell-level fixed points to `CellFixed` -/

theorem cellFixed_of_fixedPoint {ext : Ext} {raw : Dyn} {f : Format} {ty : Ty} {e e' : Dyn}
    (hexp : exportVal ⟨genTables, ext⟩ (.cell raw f ty) = .ok e) (hw : RowRoundTrip.Wire e e')
    (hfp : SelfReadable.FixedPoint ⟨genTables, ext⟩ f ty e e') :
    CellFixed ⟨genTables, ext⟩ f ty (.cell raw f ty) := by
  obtain ⟨c1, hi, he1⟩ := hfp
  obtain ⟨r1, rfl, hn⟩ := gen_import_reclone ext f ty c1 hw hi
  obtain ⟨b, hb, _, hj⟩ := hw.text ⟨genTables, ext⟩ (treeDyn ⟨genTables, ext⟩ raw)
  refine ⟨e', _, _, ?_, hi, by rw [raw_cell]; exact hn, ?_⟩
  · simp only [treeVal, hexp]
    exact hj
  · rw [marshalVal_cell_ok he1, marshalVal_cell_ok hexp, hb, hb]

theorem cellFixed_of_pair {ext : Ext} {raw raw' : Dyn} {f : Format} {ty : Ty} {e e' : Dyn}
    (hw : RowRoundTrip.Wire e e')
    (hp : CasterFacts.Trip ⟨genTables, ext⟩ f ty raw e e' raw')
    (h3 : exportVal ⟨genTables, ext⟩ (.cell raw' f ty) = .ok e) :
    CellFixed ⟨genTables, ext⟩ f ty (.cell raw f ty) :=
  cellFixed_of_fixedPoint hp.out hw ⟨_, hp.back, h3⟩

section Canonical
open Jl.RoundTrip

/-- The value of a reader tree without repeated names. -/
def Canon (d : Dyn) : Prop := ∃ v, d = dynOf v ∧ uniqueV v = true ∧ AllV StrOK NumOK v

theorem gen_import_auto (ext : Ext) (x d : Dyn) (hd : Canon d) :
    importVal ⟨genTables, ext⟩ (.cell x .auto .none) d = .ok (Cells.autoCell d, none) := by
  obtain ⟨v, rfl, _, _⟩ := hd
  exact Order.importCell_plain (.inl rfl) (CastTyped.gen_castTo_none ext _) (dynOf_not_cell v)


theorem cellFixed_canon (ext : Ext) (d : Dyn) (hd : Canon d) :
    CellFixed ⟨genTables, ext⟩ .auto .none (.cell d .auto .none) := by
  have hi := gen_import_auto ext .nil d hd
  rw [Order.importVal_cell] at hi
  obtain ⟨v, rfl, huv, hav⟩ := hd
  refine ⟨dynOf v, _, _, ?_, hi, RowRoundTrip.gen_newValue_none ext _ _, ?_⟩
  · rw [treeVal_dynOf _ v hav]
    exact RoundTrip.ofJV_ok _ v huv
  · rw [show Cells.raw (Cells.autoCell (dynOf v)) = dynOf v from raw_cell _ _ _]

end Canonical

/-! ### The covered (format, raw type, raw value) families -/

/-- The raw values of a visible output column `(f, ty)` for which the emitted member is proved a fixed point of
    the line.  Every constructor is one of the families of Proofs/Pairings, Proofs/RowCells, Proofs/SelfReadable,
    with the hypotheses those theorems carry; `auto_none` is the reader's own round trip (`Canon`). -/
inductive Covered (ext : Ext) : Format → Ty → Dyn → Prop
  | nil (f : Format) (ty : Ty) : Covered ext f ty .nil
  | string_int (t : IntTy) (v : Int) : t.inRange v → Covered ext .string (.int t) (.int t v)
  | numeric_int (t : IntTy) (v : Int) : t.inRange v → Covered ext .numeric (.int t) (.int t v)
  | binary_int (t : IntTy) (v : Int) : t.inRange v → Covered ext .binary (.int t) (.int t v)
  | timestamp_int (t : IntTy) (v : Int) : t.inRange v → v ≤ 9223372036854775807 →
      Covered ext .timestamp (.int t) (.int t v)
  | timestamp_none (v : Int) : IntTy.i64.inRange v → Covered ext .timestamp .none (.int .i64 v)
  | auto_int (t : IntTy) (v : Int) : t.inRange v → Covered ext .auto (.int t) (.int t v)
  | string_str (s : Bytes) : Utf8.valid s = true → Covered ext .string .str (.str s)
  | string_none (s : Bytes) : Utf8.valid s = true → Covered ext .string .none (.str s)
  | auto_str (s : Bytes) : Utf8.valid s = true → Covered ext .auto .str (.str s)
  | numeric_num (l : Bytes) : JsonWrite.isValidNumber l = true → Covered ext .numeric .num (.num l)
  | numeric_none (l : Bytes) : JsonWrite.isValidNumber l = true → Covered ext .numeric .none (.num l)
  | auto_num (l : Bytes) : JsonWrite.isValidNumber l = true → Covered ext .auto .num (.num l)
  | string_num (l : Bytes) : sanitize l = l → Covered ext .string .num (.num l)
  | numeric_str (s : Bytes) : JsonWrite.isValidNumber s = true → Covered ext .numeric .str (.str s)
  | numeric_bytes (s : Bytes) : JsonWrite.isValidNumber s = true → Covered ext .numeric .bytes (.bytes s)
  | timestamp_num (l : Bytes) : Covered ext .timestamp .num (.num l)
  | binary_bytes (b : Bytes) : Covered ext .binary .bytes (.bytes b)
  | binary_none (b : Bytes) : Covered ext .binary .none (.bytes b)
  | binary_str (s : Bytes) : Covered ext .binary .str (.str s)
  | binary_num (l : Bytes) : Covered ext .binary .num (.num l)
  | binary_bool (b : Bool) : Covered ext .binary .bool (.bool b)
  | binary_f64 (b : Nat) : b < 2 ^ 64 → Covered ext .binary .f64 (.f64 b)
  | binary_f32 (b : Nat) : b < 2 ^ 32 → Covered ext .binary .f32 (.f32 b)
  | boolean (ty : Ty) (raw : Dyn) : SelfReadable.WellTyped .boolean ty raw →
      SelfReadable.BooleanHyp ext ty → Covered ext .boolean ty raw
  | auto_bool (b : Bool) : Covered ext .auto .bool (.bool b)
  | auto_none (d : Dyn) : Canon d → Covered ext .auto .none d
  | string_bool (b : Bool) : Covered ext .string .bool (.bool b)
  | date (ty : Ty) (raw : Dyn) : (ty = .none ∨ ty = .str ∨ ty = .bytes ∨ ty = .num) →
      Covered ext .date ty raw
  | datetime_time (t : GoTime) : 0 ≤ Time.year t → Time.year t ≤ 9999 → t.off % 60 = 0 →
      -86400 < t.off → t.off < 86400 → Covered ext .datetime .time (.time t)
  | datetime_none (t : GoTime) : 0 ≤ Time.year t → Time.year t ≤ 9999 → t.off % 60 = 0 →
      -86400 < t.off → t.off < 86400 → Covered ext .datetime .none (.time t)
  | string_time (t : GoTime) : 0 ≤ Time.year t → Time.year t ≤ 9999 → t.off % 60 = 0 →
      -86400 < t.off → t.off < 86400 → Covered ext .string .time (.time t)
  /-- the zone's offsets are written readably, and the raw text does not carry the offset ±24:60
      (`C05.offset_24_60_counterexample`) -/
  | datetime_text (ty : Ty) (raw : Dyn) (s : Bytes) :
      ((ty = .str ∧ raw = .str s) ∨ (ty = .bytes ∧ raw = .bytes s)) →
      (∀ v off, ext.zoneOffset v = some off → SelfReadable.OffsetOK off) →
      (∀ t, Time.parseRFC3339 s = some t → t.off.natAbs ≠ 90000) → Covered ext .datetime ty raw
  | numeric_time (t : GoTime) (off : Int) : ext.zoneOffset t.sec = some off →
      -(2 ^ 62 : Int) < t.sec ∧ t.sec < 2 ^ 62 → Covered ext .numeric .time (.time t)
  | timestamp_time (t : GoTime) (off : Int) : ext.zoneOffset t.sec = some off →
      -(2 ^ 62 : Int) < t.sec ∧ t.sec < 2 ^ 62 → Covered ext .timestamp .time (.time t)
  | numeric_bool (b : Bool) : Pairings.DigitLaw ext → Covered ext .numeric .bool (.bool b)
  | timestamp_bool (b : Bool) : Pairings.DigitLaw ext → Covered ext .timestamp .bool (.bool b)

/-! ### One case analysis over the families, for C05 and C13 at once -/

/-- What C05 (first conjunct) and C13 (second) ask of a raw value at cell level. -/
def Both (ext : Ext) (f : Format) (ty : Ty) (raw : Dyn) : Prop :=
  (∀ e, exportVal ⟨genTables, ext⟩ (.cell raw f ty) = .ok e →
    CellFixed ⟨genTables, ext⟩ f ty (.cell raw f ty)) ∧
  (Tables.lossless f ty = true → raw = .nil ∨ typeOf raw = RowRoundTrip.valueTy f ty →
    ∃ v', RowRoundTrip.Pairing ⟨genTables, ext⟩ f ty raw v' ∧ Tables.sameValue raw v' = true)

theorem both_of_pair {ext : Ext} {raw raw' : Dyn} {f : Format} {ty : Ty} {e e' : Dyn}
    (hw : RowRoundTrip.Wire e e')
    (hp : CasterFacts.Trip ⟨genTables, ext⟩ f ty raw e e' raw')
    (h3 : exportVal ⟨genTables, ext⟩ (.cell raw' f ty) = .ok e)
    (hs : Tables.sameValue raw raw' = true) : Both ext f ty raw :=
  ⟨fun _ _ => cellFixed_of_pair hw hp h3, fun _ _ => ⟨raw', .of hw hp, hs⟩⟩

theorem both_of_same {ext : Ext} {raw : Dyn} {f : Format} {ty : Ty} {e e' : Dyn}
    (hw : RowRoundTrip.Wire e e')
    (hp : CasterFacts.Trip ⟨genTables, ext⟩ f ty raw e e' raw)
    (hs : Tables.sameValue raw raw = true) : Both ext f ty raw :=
  both_of_pair hw hp hp.out hs

theorem both_of_fixedPoint {ext : Ext} {raw : Dyn} {f : Format} {ty : Ty}
    (hnl : Tables.lossless f ty = false)
    (h : ∀ e, exportVal ⟨genTables, ext⟩ (.cell raw f ty) = .ok e →
      CellFixed ⟨genTables, ext⟩ f ty (.cell raw f ty)) : Both ext f ty raw :=
  ⟨h, fun hl => by rw [hnl] at hl; cases hl⟩

open RowRoundTrip in
theorem covered_both (ext : Ext) (f : Format) (ty : Ty) (raw : Dyn) (hc : Covered ext f ty raw) :
    Both ext f ty raw := by
  cases hc with
  | nil => exact both_of_same Wire.nil ⟨exportVal_nil _ f ty, rfl⟩ rfl
  | string_int t v hv => exact both_of_same (wire_formatInt v) ⟨(string_int ext t v hv).1, (string_int ext t v hv).2⟩ (sameValue_refl nofun)
  | numeric_int t v hv =>
    exact both_of_same (wire_formatInt_num v) ⟨(numeric_int ext t v hv).1, (numeric_int ext t v hv).2⟩
      (sameValue_refl nofun)
  | binary_int t v hv => exact both_of_same (wire_base64 _) (Pairings.binary_fixed ext (v := .int t v) rfl rfl hv) (sameValue_refl nofun)
  | timestamp_int t v hv hmax =>
    exact both_of_same (Wire.int .i64 v) ⟨(Pairings.timestamp_int ext t v hv hmax).1, (Pairings.timestamp_int ext t v hv hmax).2⟩
      (sameValue_refl nofun)
  | timestamp_none v hv =>
    exact both_of_same (Wire.int .i64 v) (Pairings.timestamp_none ext v hv) (sameValue_refl nofun)
  | auto_int t v hv => exact both_of_same (Wire.int t v) (Pairings.auto_int ext t v hv) (sameValue_refl nofun)
  | string_str s hs => exact both_of_same (Wire.str s) (Pairings.string_str ext s hs).1 (sameValue_refl nofun)
  | string_none s hs =>
    exact both_of_same (Wire.str s) (Pairings.string_str ext s hs).2.1 (sameValue_refl nofun)
  | auto_str s hs => exact both_of_same (Wire.str s) (Pairings.string_str ext s hs).2.2 (sameValue_refl nofun)
  | numeric_num l hl =>
    exact both_of_same (Wire.num l hl) (Pairings.numeric_num ext l hl).2.1 (sameValue_refl nofun)
  | numeric_none l hl =>
    exact both_of_same (Wire.num l hl) (Pairings.numeric_num ext l hl).2.2.1 (sameValue_refl nofun)
  | auto_num l hl =>
    exact both_of_same (Wire.num l hl) (Pairings.numeric_num ext l hl).2.2.2 (sameValue_refl nofun)
  | string_num l hl => exact both_of_same (Wire.str_fixed hl) (Pairings.string_num ext l) (sameValue_refl nofun)
  | numeric_str s hs =>
    exact both_of_same (Wire.num s hs) (SelfReadable.numeric_text ext s).2.1 (sameValue_refl nofun)
  | numeric_bytes s hs =>
    exact both_of_same (Wire.num s hs) (SelfReadable.numeric_text ext s).2.2 (sameValue_refl nofun)
  | timestamp_num l =>
    refine both_of_fixedPoint rfl fun e he => ?_
    obtain ⟨n, rfl, hfp⟩ := SelfReadable.timestamp_num_fixed_point ext l e he
    exact cellFixed_of_fixedPoint he (Wire.int .i64 n) hfp
  | binary_bytes b => exact both_of_same (wire_base64 b) (Pairings.binary_bytes ext b).1 (sameValue_refl nofun)
  | binary_none b => exact both_of_same (wire_base64 b) (Pairings.binary_bytes ext b).2 (sameValue_refl nofun)
  | binary_str s => exact both_of_same (wire_base64 s) (Pairings.binary_str ext s) (sameValue_refl nofun)
  | binary_num l => exact both_of_same (wire_base64 l) (Pairings.binary_num ext l) (sameValue_refl nofun)
  | binary_bool b => exact both_of_same (wire_base64 _) (Pairings.binary_bool ext b) (sameValue_refl nofun)
  | binary_f64 b hb =>
    exact both_of_same (wire_base64 _) (Pairings.binary_fixed ext (v := .f64 b) rfl rfl hb) (sameValue_refl nofun)
  | binary_f32 b hb =>
    exact both_of_same (wire_base64 _) (Pairings.binary_fixed ext (v := .f32 b) rfl rfl hb) (sameValue_refl nofun)
  | boolean _ _ hwt hh =>
    refine ⟨fun e he => ?_, fun hl hty => ?_⟩
    · obtain ⟨hcl, hfp⟩ := SelfReadable.boolean_fixed_point ext raw ty e hwt hh he
      rcases hcl with rfl | ⟨b, rfl⟩
      · exact cellFixed_of_fixedPoint he Wire.nil hfp
      · exact cellFixed_of_fixedPoint he (Wire.bool b) hfp
    · -- lossless under boolean: no raw type, or bool
      rcases hty with rfl | hty
      · exact ⟨.nil, .nil _ _ _, rfl⟩
      · have : ty = .none ∨ ty = .bool := by simpa [Tables.lossless] using hl
        rcases this with rfl | rfl <;> obtain ⟨b, rfl⟩ := CastTyped.typeOf_inv hty
        · exact ⟨_, .of (Wire.bool b) (Pairings.auto_bool ext b).2, sameValue_refl nofun⟩
        · exact ⟨_, .of (Wire.bool b) (Pairings.boolean_bool ext b), sameValue_refl nofun⟩
  | auto_bool b => exact both_of_same (Wire.bool b) (Pairings.auto_bool ext b).1 (sameValue_refl nofun)
  | auto_none _ hd =>
    refine ⟨fun _ _ => cellFixed_canon ext _ hd, fun _ hty => ?_⟩
    -- a well-typed value of auto without raw type is nil (arrays and objects are not `sameValue`-comparable)
    obtain rfl : raw = .nil := hty.elim id CastTyped.typeOf_eq_none.mp
    exact ⟨.nil, .nil _ _ _, rfl⟩
  | string_bool b => exact both_of_same (wire_formatBool b) (string_bool ext b) (sameValue_refl nofun)
  | date _ _ hty =>
    refine both_of_fixedPoint rfl fun e he => ?_
    rcases SelfReadable.date_fixed_point ext raw ty e hty he with ⟨rfl, hfp⟩ | ⟨d, rfl, _, _, hfp⟩
    · exact cellFixed_of_fixedPoint he Wire.nil hfp
    · exact cellFixed_of_fixedPoint he (Wire.str d) hfp
  -- what is read back is the time without its nanoseconds: the same text (`Pairings.export_time_text`)
  | datetime_time t hy0 hy1 h60 hlo hhi =>
    exact both_of_pair (wire_rfc3339 t) (Pairings.datetime_time ext t hy0 hy1 h60 hlo hhi).1
      ((Pairings.export_time_text ext t 0 hy0 hy1).1 _) (Pairings.sameValue_time rfl)
  | datetime_none t hy0 hy1 h60 hlo hhi =>
    exact both_of_pair (wire_rfc3339 t) (Pairings.datetime_time ext t hy0 hy1 h60 hlo hhi).2
      ((Pairings.export_time_text ext t 0 hy0 hy1).1 _) (Pairings.sameValue_time rfl)
  | string_time t hy0 hy1 h60 hlo hhi =>
    exact both_of_pair (wire_rfc3339 t) (Pairings.string_time ext t hy0 hy1 h60 hlo hhi)
      (Pairings.export_time_text ext t 0 hy0 hy1).2 (Pairings.sameValue_time rfl)
  | datetime_text _ _ s hwt hzone hs =>
    refine both_of_fixedPoint (by rcases hwt with ⟨rfl, _⟩ | ⟨rfl, _⟩ <;> rfl) fun e he => ?_
    obtain ⟨t, rfl, _, _, hfp⟩ := SelfReadable.datetime_fixed_point ext raw s ty e hwt hzone hs he
    exact cellFixed_of_fixedPoint he (Wire.str _) hfp
  | numeric_time t off hz hsec =>
    obtain ⟨a, _⟩ := Pairings.numeric_time ext t off hz hsec
    obtain ⟨⟨a3, _⟩, _⟩ := Pairings.numeric_time ext ⟨t.sec, 0, off⟩ off hz hsec
    exact both_of_pair (wire_formatInt_num _) a a3 (Pairings.sameValue_time rfl)
  | timestamp_time t off hz hsec =>
    obtain ⟨_, a⟩ := Pairings.numeric_time ext t off hz hsec
    obtain ⟨_, ⟨a3, _⟩⟩ := Pairings.numeric_time ext ⟨t.sec, 0, off⟩ off hz hsec
    exact both_of_pair (Wire.int .i64 _) a a3 (Pairings.sameValue_time rfl)
  | numeric_bool b law =>
    exact both_of_same (Wire.num _ (by cases b <;> decide))
      (Pairings.numeric_bool ext law b).1 (sameValue_refl nofun)
  | timestamp_bool b law =>
    exact both_of_same (Wire.int .i64 _) (Pairings.numeric_bool ext law b).2 (sameValue_refl nofun)
theorem covered_cellFixed (ext : Ext) (f : Format) (ty : Ty) (raw : Dyn) (hc : Covered ext f ty raw)
    (e : Dyn) (he : exportVal ⟨genTables, ext⟩ (.cell raw f ty) = .ok e) :
    CellFixed ⟨genTables, ext⟩ f ty (.cell raw f ty) :=
  (covered_both ext f ty raw hc).1 e he

/-! ### The summary over the table of pairings -/

/-- The pairings `covered_of_table` reaches, each with every well-typed value of `Tables.inDomain` (C05's table;
    `RowRoundTrip.coveredB` of Proofs.RowCells is C13's, a part of it: `coveredB_of_lossless_covered`).
    Of `Covered`, numeric(string | []byte) is left out, since `inDomain` does not ask those texts to be valid
    numbers; binary(time.Time) has no family (`RowRoundTrip.gen_pairing_coveredExt` treats it by hand). -/
def coveredB (f : Format) (ty : Ty) : Bool :=
  match f, ty with
  | .string, .int _ | .string, .str | .string, .none | .string, .num | .string, .bool
  | .string, .time => true
  | .numeric, .int _ | .numeric, .num | .numeric, .none | .numeric, .time | .numeric, .bool => true
  | .binary, .int _ | .binary, .bytes | .binary, .none | .binary, .str | .binary, .num
  | .binary, .bool | .binary, .f64 | .binary, .f32 => true
  | .timestamp, .int _ | .timestamp, .none | .timestamp, .num | .timestamp, .time
  | .timestamp, .bool => true
  | .boolean, _ => true
  | .date, .none | .date, .str | .date, .bytes | .date, .num => true
  | .datetime, .time | .datetime, .none | .datetime, .str | .datetime, .bytes => true
  | .auto, .int _ | .auto, .str | .auto, .num | .auto, .bool | .auto, .none => true
  | _, _ => false

theorem coveredB_selfReadable (f : Format) (ty : Ty) (h : coveredB f ty = true) :
    Tables.selfReadable f ty = true ∧ f ≠ .hidden := by
  revert ty
  cases f <;> exact CastTyped.forall_ty (by decide +kernel)

/-- What some pairings need besides: answers of the standard-library parameter (the process
    zone, ParseFloat on "1" and "0"), for datetime(string | []byte) a raw text without the
    offset ±24:60, and for binary(float64 | float32) a bit pattern of the width. -/
def ExtHyp (ext : Ext) (f : Format) (ty : Ty) (raw : Dyn) : Prop :=
  match f, ty with
  | .boolean, ty => SelfReadable.BooleanHyp ext ty
  | .datetime, .str | .datetime, .bytes =>
    (∀ v off, ext.zoneOffset v = some off → SelfReadable.OffsetOK off) ∧
    ∀ s, (raw = .str s ∨ raw = .bytes s) → ∀ t, Time.parseRFC3339 s = some t → t.off.natAbs ≠ 90000
  | .numeric, .time | .timestamp, .time => ∀ t, raw = .time t → ∃ off, ext.zoneOffset t.sec = some off
  | .numeric, .bool | .timestamp, .bool => Pairings.DigitLaw ext
  | .binary, .f64 => ∀ b, raw = .f64 b → b < 2 ^ 64      -- the model's floats are bit patterns
  | .binary, .f32 => ∀ b, raw = .f32 b → b < 2 ^ 32
  | _, _ => True

/-- `SelfReadable.WellTyped` (C05's word) and "nil or of the column's Go type" (C13's, `RowRoundTrip.valueTy`) say the same. -/
theorem wellTyped_iff {f : Format} {ty : Ty} {raw : Dyn} :
    SelfReadable.WellTyped f ty raw ↔ raw = .nil ∨ typeOf raw = RowRoundTrip.valueTy f ty := by
  unfold SelfReadable.WellTyped RowRoundTrip.valueTy
  by_cases h : ty = .none <;> simp [h]

open RowRoundTrip in
theorem covered_of_table (ext : Ext) (f : Format) (ty : Ty) (hc : coveredB f ty = true) (raw : Dyn)
    (hwt : SelfReadable.WellTyped f ty raw) (hd : Tables.inDomain f ty raw = true)
    (hx : ExtHyp ext f ty raw) :
    Tables.selfReadable f ty = true ∧ Covered ext f ty raw := by
  refine ⟨(coveredB_selfReadable f ty hc).1, ?_⟩
  by_cases hb : f = .boolean
  · subst hb; exact .boolean ty raw hwt hx
  by_cases hdt : f = .date
  · subst hdt
    exact .date ty raw (CastTyped.forall_ty (p := fun ty => coveredB .date ty = true →
      ty = .none ∨ ty = .str ∨ ty = .bytes ∨ ty = .num) (by decide +kernel) ty hc)
  rcases wellTyped_iff.mp hwt with rfl | hty
  · exact .nil f ty
  cases f <;> try contradiction
  -- `hc` says which raw types pair with the format
  all_goals cases ty <;> try exact Bool.noConfusion hc
  case auto.none =>
    -- (`WellTyped` knows only nil here; arrays, objects and scalars: `Covered.auto_none`)
    rw [CastTyped.typeOf_eq_none.mp hty]
    exact .nil _ _
  all_goals obtain ⟨x, rfl⟩ := CastTyped.typeOf_inv hty
  case string.int t => exact .string_int t x (inDomain_int hd).1
  case string.str => exact .string_str x (inDomain_str hd nofun)
  case string.none => exact .string_none x (inDomain_str hd nofun)
  case string.num => exact .string_num x (sanitize_num_of_inDomain hd)
  case string.bool => exact .string_bool x
  case string.time =>
    obtain ⟨hy0, hy1, h60, hlo, hhi⟩ := Pairings.time_inDomain _ _ x hd
    exact .string_time x hy0 hy1 h60 hlo hhi
  case numeric.int t => exact .numeric_int t x (inDomain_int hd).1
  case numeric.num => exact .numeric_num x (inDomain_num hd nofun nofun)
  case numeric.none => exact .numeric_none x (inDomain_num hd nofun nofun)
  case numeric.time =>
    obtain ⟨hy0, hy1, _, hlo, hhi⟩ := Pairings.time_inDomain _ _ x hd
    obtain ⟨off, hz⟩ := hx x rfl
    exact .numeric_time x off hz (Time.sec_bounds_of_year x hy0 hy1 hlo hhi)
  case numeric.bool => exact .numeric_bool x hx
  case binary.int t => exact .binary_int t x (inDomain_int hd).1
  case binary.bytes => exact .binary_bytes x
  case binary.none => exact .binary_none x
  case binary.str => exact .binary_str x
  case binary.num => exact .binary_num x
  case binary.bool => exact .binary_bool x
  case binary.f64 => exact .binary_f64 x (hx x rfl)
  case binary.f32 => exact .binary_f32 x (hx x rfl)
  case timestamp.int t => exact .timestamp_int t x (inDomain_int hd).1 ((inDomain_int hd).2 rfl)
  case timestamp.none => exact .timestamp_none x (inDomain_int hd).1
  case timestamp.num => exact .timestamp_num x
  case timestamp.time =>
    obtain ⟨hy0, hy1, _, hlo, hhi⟩ := Pairings.time_inDomain _ _ x hd
    obtain ⟨off, hz⟩ := hx x rfl
    exact .timestamp_time x off hz (Time.sec_bounds_of_year x hy0 hy1 hlo hhi)
  case timestamp.bool => exact .timestamp_bool x hx
  case datetime.time =>
    obtain ⟨hy0, hy1, h60, hlo, hhi⟩ := Pairings.time_inDomain _ _ x hd
    exact .datetime_time x hy0 hy1 h60 hlo hhi
  case datetime.none =>
    obtain ⟨hy0, hy1, h60, hlo, hhi⟩ := Pairings.time_inDomain _ _ x hd
    exact .datetime_none x hy0 hy1 h60 hlo hhi
  case datetime.str => exact .datetime_text .str _ x (.inl ⟨rfl, rfl⟩) hx.1 (hx.2 x (.inl rfl))
  case datetime.bytes => exact .datetime_text .bytes _ x (.inr ⟨rfl, rfl⟩) hx.1 (hx.2 x (.inr rfl))
  case auto.int t => exact .auto_int t x (inDomain_int hd).1
  case auto.str => exact .auto_str x (inDomain_str hd nofun)
  case auto.num => exact .auto_num x (inDomain_num hd nofun nofun)
  case auto.bool => exact .auto_bool x

/-! ### C13 at cell level, from the same families -/

theorem pairing_of_table (ext : Ext) (f : Format) (ty : Ty) (hc : coveredB f ty = true)
    (hl : Tables.lossless f ty = true) (v : Dyn)
    (hty : v = .nil ∨ typeOf v = RowRoundTrip.valueTy f ty) (hd : Tables.inDomain f ty v = true)
    (hx : ExtHyp ext f ty v) :
    ∃ v', RowRoundTrip.Pairing ⟨genTables, ext⟩ f ty v v' ∧ Tables.sameValue v v' = true :=
  (covered_both ext f ty v (covered_of_table ext f ty hc v (wellTyped_iff.mpr hty) hd hx).2).2 hl hty

/-- In `Jl.RowRoundTrip` below, the bare `coveredB` is C13's. -/
theorem coveredB_of_lossless_covered {f : Format} {ty : Ty} (h : RowRoundTrip.coveredB f ty = true)
    (ext : Ext) (raw : Dyn) :
    coveredB f ty = true ∧ Tables.lossless f ty = true ∧ ExtHyp ext f ty raw := by
  cases f <;> cases ty <;> first | contradiction | exact ⟨rfl, rfl, trivial⟩

end Jl.LineFixedPoint

namespace Jl.RowRoundTrip
open Jl Jl.Value Cast Jl.LineFixedPoint

theorem coveredB_lossless {f : Format} {ty : Ty} (h : coveredB f ty = true) :
    Tables.lossless f ty = true ∧ f ≠ .hidden :=
  have h' := coveredB_of_lossless_covered h Ext.empty .nil
  ⟨h'.2.1, (coveredB_selfReadable f ty h'.1).2⟩

theorem gen_pairing_covered (ext : Ext) (f : Format) (ty : Ty) (hcb : coveredB f ty = true) (v : Dyn)
    (hty : v = .nil ∨ typeOf v = valueTy f ty) (hd : Tables.inDomain f ty v = true) :
    ∃ v', Pairing ⟨genTables, ext⟩ f ty v v' ∧ Tables.sameValue v v' = true :=
  have h := coveredB_of_lossless_covered hcb ext v
  pairing_of_table ext f ty h.1 h.2.1 v hty hd h.2.2

theorem gen_pairing_coveredExt (ext : Ext) (hzone : ∀ s, ∃ off, ext.zoneOffset s = some off)
    (law : Pairings.DigitLaw ext) (f : Format) (ty : Ty) (hc : (f, ty) ∈ coveredExt) (v : Dyn)
    (hty : v = .nil ∨ typeOf v = valueTy f ty) (hd : Tables.inDomain f ty v = true) :
    ∃ v', Pairing ⟨genTables, ext⟩ f ty v v' ∧ Tables.sameValue v v' = true := by
  simp only [coveredExt, List.mem_cons, Prod.mk.injEq, List.not_mem_nil, or_false] at hc
  rcases hc with ⟨rfl, rfl⟩ | ⟨rfl, rfl⟩ | ⟨rfl, rfl⟩ | ⟨rfl, rfl⟩ | ⟨rfl, rfl⟩
  · exact pairing_of_table ext _ _ rfl rfl v hty hd fun t _ => hzone t.sec
  · exact pairing_of_table ext _ _ rfl rfl v hty hd fun t _ => hzone t.sec
  · -- binary(time.Time) is lossless, but not among the families of `Covered`
    rcases hty with rfl | hty
    · exact ⟨.nil, .nil _ _ _, rfl⟩
    obtain ⟨x, rfl⟩ := CastTyped.typeOf_inv (show typeOf v = .time from hty)
    obtain ⟨off, hz⟩ := hzone x.sec
    obtain ⟨hy0, hy1, _, hlo, hhi⟩ := Pairings.time_inDomain _ _ x hd
    have hr := Time.sec_range_of_year x hy0 hy1 hlo hhi
    exact ⟨_, .of (wire_base64 _) (Pairings.binary_time ext x off hz (by omega)),
      Pairings.sameValue_time rfl⟩
  · exact pairing_of_table ext _ _ rfl rfl v hty hd law
  · exact pairing_of_table ext _ _ rfl rfl v hty hd law

end Jl.RowRoundTrip
