/-
  Proofs.LineLevel — from cells to emitted LINES: the lexical classes (C04) of the members of an emitted line,
  stated on the emitted JSON text.  `Proofs.Order` gives the key list of the row that is printed,
  `Proofs.JsonPrint` the syntax tree the reader delivers for the printed text, `Proofs.CastTyped` +
  `Proofs.TimeShape` the class of what a cell exports; here they are put together.  `Demo`, `DemoDT` are concrete
  lines over the regenerated tables; `Clash`, `Zone` show that the separation hypothesis (the reader finds a member
  by its WRITTEN name, `sanitize k`) and the zone bound of `emitted_line_classes*` cannot be dropped.
-/
import Proofs.LineKeys
import Proofs.Pairings
import Model.LineSpec
import Model.Template
import Model.CastGen
import Proofs.Order
import Proofs.JsonPrint
import Proofs.TimeShape
import Proofs.CastTyped
import Proofs.Base64
import Proofs.DecEq

namespace Jl.LineLevel
open Jl Jl.Value Jl.Template Jl.Cast Jl.CastTyped
open Jl.JsonQuote (sanitize)
open Jl.JsonPrint (treeDyn treeVal treeMembers treeExported numText FloatTextOK)
open Jl.TimeShape (OffsetOK ZoneOK TimeSrcOK)
open Jl.IntText

/-! ### The class of one printed cell -/

/-- `strconv.FormatInt` writes `-?(0|[1-9][0-9]*)`: its text is read back by `CastSpec.canonicalDecimal`
    (`IntText.canonicalDecimal_formatInt`), which accepts no more than `LineSpec.isIntegerLiteral` does. -/
theorem isIntegerLiteral_formatInt (v : Int) : LineSpec.isIntegerLiteral (formatInt v) = true := by
  have key : ∀ neg body, canonBody neg body = some v → (match body with
      | [] => false
      | [0x30] => true
      | c :: rest => 0x31 ≤ c && c ≤ 0x39 && rest.all LineSpec.isDigit) = true := by
    intro neg body h
    unfold canonBody at h
    split at h
    · cases h
    · rfl
    · split at h
      · rename_i hc
        split
        all_goals first | rfl | (rename_i heq; cases heq; try exact hc)
      · cases h
  have hb : ∀ s : Bytes, (signSplit s).2 = (match s with | 0x2D :: r => r | _ => s) := fun s => by
    unfold signSplit; split <;> simp_all
  have := key _ _ ((canonicalDecimal_eq _).symm.trans (canonicalDecimal_formatInt v))
  rwa [hb] at this

/-- The optional fraction of `isDateTimeText`. -/
def fracSkip (rest : Bytes) : Bytes :=
  match rest with
  | 0x2E :: d :: r => if LineSpec.isDigit d then r.dropWhile LineSpec.isDigit else 0x2E :: d :: r
  | _ => rest

theorem isZoneText_ascii {rest : Bytes} (h : TimeShape.isZoneText rest = true) :
    ∀ b ∈ rest, b < 0x80 := by
  unfold TimeShape.isZoneText at h
  split at h
  · simp only [List.forall_mem_cons, List.not_mem_nil, false_imp_iff, implies_true, and_true]
    decide
  · simp only [List.all_cons, List.all_nil, Bool.and_true, Bool.and_eq_true, Bool.or_eq_true,
      beq_iff_eq] at h
    obtain ⟨⟨hs, h1, h2, h3, h4⟩, rfl⟩ := h
    simp only [List.forall_mem_cons, List.not_mem_nil, false_imp_iff, implies_true, and_true]
    exact ⟨by rcases hs with rfl | rfl <;> decide, digit_ascii h1, digit_ascii h2, by decide,
      digit_ascii h3, digit_ascii h4⟩
  · cases h

theorem isDateTimeText_ascii {s : Bytes} (h : LineSpec.isDateTimeText s = true) :
    ∀ b ∈ s, b < 0x80 := by
  unfold LineSpec.isDateTimeText at h
  obtain ⟨hd, h2⟩ := Bool.and_eq_true_iff.mp h
  rw [← List.take_append_drop 10 s, List.forall_mem_append]
  refine ⟨Pairings.ascii_dateText hd, ?_⟩
  generalize s.drop 10 = d at h2
  split at h2
  · rename_i t h1 h2' c1 m1 m2 c2 s1 s2 rest
    obtain ⟨h2, hz⟩ := Bool.and_eq_true_iff.mp h2
    obtain ⟨h2, hc2⟩ := Bool.and_eq_true_iff.mp h2
    obtain ⟨h2, hc1⟩ := Bool.and_eq_true_iff.mp h2
    obtain ⟨ht, hall⟩ := Bool.and_eq_true_iff.mp h2
    simp only [List.all_cons, List.all_nil, Bool.and_true, Bool.and_eq_true] at hall
    obtain ⟨d1, d2, d3, d4, d5, d6⟩ := hall
    have hz' : TimeShape.isZoneText (fracSkip rest) = true := hz
    have hrest : ∀ b ∈ rest, b < 0x80 := by
      unfold fracSkip at hz'
      split at hz'
      · rename_i d r
        by_cases hdg : LineSpec.isDigit d = true
        · rw [if_pos hdg] at hz'
          simp only [List.forall_mem_cons]
          exact ⟨by decide, digit_ascii hdg, dropWhile_digit_ascii r (isZoneText_ascii hz')⟩
        · rw [if_neg hdg] at hz'
          exact isZoneText_ascii hz'
      · exact isZoneText_ascii hz'
    simp only [List.forall_mem_cons]
    exact ⟨by rw [eq_of_beq ht]; decide, digit_ascii d1, digit_ascii d2,
      by rw [eq_of_beq hc1]; decide, digit_ascii d3, digit_ascii d4,
      by rw [eq_of_beq hc2]; decide, digit_ascii d5, digit_ascii d6, hrest⟩
  · cases h2


theorem export_scalar_formats (env : Env) (raw : Dyn) (typ : Ty) (hraw : raw ≠ .nil) :
    exportVal env (.cell raw .string typ) = exportFail (castNamed env.T env.ext "ToString" raw) ∧
    exportVal env (.cell raw .numeric typ) = exportFail (castNamed env.T env.ext "ToNumber" raw) ∧
    exportVal env (.cell raw .boolean typ) = exportFail (castNamed env.T env.ext "ToBool" raw) ∧
    exportVal env (.cell raw .timestamp typ) =
      exportFail (castNamed env.T env.ext "ToTimestamp" raw) := by
  exact ⟨CasterFacts.exportVal_single rfl hraw, CasterFacts.exportVal_single rfl hraw,
    CasterFacts.exportVal_single rfl hraw, CasterFacts.exportVal_single rfl hraw⟩

theorem scalar_formats_typed (ext : Ext) (raw e : Dyn) (typ : Ty) (hraw : raw ≠ .nil) :
    (exportVal ⟨genTables, ext⟩ (.cell raw .string typ) = .ok e → typeOf e = .str) ∧
    (exportVal ⟨genTables, ext⟩ (.cell raw .numeric typ) = .ok e → typeOf e = .num) ∧
    (exportVal ⟨genTables, ext⟩ (.cell raw .boolean typ) = .ok e → typeOf e = .bool) ∧
    (exportVal ⟨genTables, ext⟩ (.cell raw .timestamp typ) = .ok e → typeOf e = .int .i64) := by
  have key := fun f => (CasterFacts.exportCell_typed ext hraw f typ).of_ok (r := e)
  exact ⟨key .string, key .numeric, key .boolean, key .timestamp⟩

theorem binary_export (env : Env) (raw : Dyn) (typ : Ty) (e : Dyn)
    (h : exportVal env (.cell raw .binary typ) = .ok e) :
    e = .nil ∨ ∃ b, e = .str (Base64.encode b) := by
  by_cases hraw : raw = .nil
  · subst hraw
    rw [exportVal_nil] at h
    cases h; exact .inl rfl
  · rw [exportVal] at h
    · split at h
      · cases h; exact .inr ⟨_, rfl⟩
      · cases h
      · rename_i hne; exact absurd h (hne e)
    · exact hraw

theorem inClass_auto (v : JV) : LineSpec.inClass .auto v = true := by
  cases v <;> rfl

theorem inClass_hidden (v : JV) : LineSpec.inClass .hidden v = true := by
  cases v <;> rfl

/-- The member printed for a cell of declared format `f` whose export succeeded is in
    the lexical class of `f`.  The only side conditions are those of the date-time verb. -/
theorem member_in_class (ext : Ext) (raw : Dyn) (f : Format) (typ : Ty) (e : Dyn)
    (he : exportVal ⟨genTables, ext⟩ (.cell raw f typ) = .ok e)
    (hdt : f = .datetime → ZoneOK ext ∧ TimeSrcOK raw) :
    LineSpec.inClass f (treeVal ⟨genTables, ext⟩ (.cell raw f typ)) = true := by
  by_cases hraw : raw = .nil
  · -- a nil raw value prints `null`, which is in every class
    subst hraw
    rw [JsonPrint.treeVal_cell (nil_exports_nil _ f typ)]
    rfl
  -- string, numeric, boolean, timestamp: the Go type of what was exported is the class
  have hty := scalar_formats_typed ext raw e typ hraw
  cases f with
  | string => obtain ⟨s, rfl⟩ := typeOf_inv (hty.1 he); rw [JsonPrint.treeVal_cell he]; rfl
  | numeric => obtain ⟨s, rfl⟩ := typeOf_inv (hty.2.1 he); rw [JsonPrint.treeVal_cell he]; rfl
  | boolean => obtain ⟨s, rfl⟩ := typeOf_inv (hty.2.2.1 he); rw [JsonPrint.treeVal_cell he]; rfl
  | timestamp =>
    obtain ⟨n, rfl⟩ := typeOf_inv (hty.2.2.2 he)
    rw [JsonPrint.treeVal_cell he]
    exact isIntegerLiteral_formatInt n
  | binary =>
    rw [JsonPrint.treeVal_cell he]
    rcases binary_export _ raw typ e he with rfl | ⟨b, rfl⟩
    · rfl
    · simp [treeExported, LineSpec.inClass, JsonPrint.sanitize_base64, LineSpec.isCanonicalBase64,
        Base64.decode_encode]
  | date =>
    rw [JsonPrint.treeVal_cell he]
    rcases TimeShape.date_column_class ext raw typ e he with rfl | ⟨s, rfl, hs⟩
    · rfl
    · simp [treeExported, LineSpec.inClass, JsonPrint.sanitize_of_ascii s (Pairings.ascii_dateText hs), hs]
  | datetime =>
    -- RFC 3339, provided the zone offsets that reach the `Z07:00` verb from outside the text stay
    -- below 100 h (the hypotheses of `TimeShape.datetime_column_class`)
    rw [JsonPrint.treeVal_cell he]
    rcases TimeShape.datetime_column_class ext raw typ e (hdt rfl).1 (hdt rfl).2 he with
      rfl | ⟨s, rfl, hs⟩
    · rfl
    · simp [treeExported, LineSpec.inClass, JsonPrint.sanitize_of_ascii s (isDateTimeText_ascii hs), hs]
  | auto => exact inClass_auto _
  | hidden => exact inClass_hidden _
  | bad => rw [exportVal_bad _ hraw] at he; cases he


/-! ### C04 at byte level: the classes of the declared members of an emitted line -/

/-- `json.Number` is validated at marshal time. -/
theorem numeric_member_valid (ext : Ext) (raw : Dyn) (typ : Ty) (b : Bytes) (hraw : raw ≠ .nil)
    (h : RowPrint.marshalVal ⟨genTables, ext⟩ (.cell raw .numeric typ) = .ok b) :
    ∃ l, treeVal ⟨genTables, ext⟩ (.cell raw .numeric typ) = .num l ∧ b = l ∧
      JsonWrite.isValidNumber l = true := by
  obtain ⟨e, he, hm⟩ := marshalVal_cell_inv h
  obtain ⟨s, rfl⟩ := typeOf_inv ((scalar_formats_typed ext raw e typ hraw).2.1 he)
  rw [JsonPrint.treeVal_cell he]
  rw [marshalExported_num] at hm
  refine ⟨numText s, rfl, ?_⟩
  unfold numText
  split at hm
  · rename_i hem
    cases hm
    simp [hem]
    decide
  · rename_i hem
    split at hm
    · rename_i hv
      cases hm
      simp [hem, hv]
    · cases hm


/-! #### Where a `time.Time` raw value can come from

The date-time verb needs the offset of a raw `time.Time` to be printable
(`TimeShape.datetime_raw_offset_bound_needed`).  No such value is made up by the line's way
through importer and exporter: a time is read from RFC 3339 text (offset bounded by the parser),
built by `time.Unix` (process zone), or was in a template's prototype cell. -/

/-- The raw value of a cell, when it is a `time.Time`, has a printable offset. -/
def CellOK (c : Val) : Prop := TimeSrcOK (Cells.raw c)

def RowOK (row : List (Bytes × Val)) : Prop := ∀ kv ∈ row, CellOK kv.2

theorem timeSrcOK_nil : TimeSrcOK .nil := fun _ h => by cases h

theorem rowOK_upsert {row : List (Bytes × Val)} {k : Bytes} {c : Val} (hr : RowOK row)
    (hc : CellOK c) : RowOK (upsert row k c) :=
  fun kv hkv => (OMap.mem_upsert hkv).elim (hr kv) fun e => e ▸ hc

theorem toTime_timeSrcOK (ext : Ext) (hz : ZoneOK ext) (x r : Dyn) (hx : TimeSrcOK x)
    (h : castNamed genTables ext "ToTime" x = .ok r) : TimeSrcOK r := by
  rcases TimeShape.toTime_class ext hz x r hx h with rfl | ⟨t, rfl, ht⟩
  · exact timeSrcOK_nil
  · intro t' e; cases e; exact ht

theorem timeSrcOK_of_typed {x r : Dyn} {t : Option Ty} (h1 : r = .nil ↔ x = .nil)
    (h2 : x ≠ .nil → some (typeOf r) = t) (ht : t ≠ some .time) : TimeSrcOK r := by
  intro tm e
  subst e
  exact absurd (h2 fun hx => nomatch h1.mpr hx).symm ht

theorem castTo_timeOK (ext : Ext) (hz : ZoneOK ext) (typ : Ty) (x r : Dyn) (hx : TimeSrcOK x)
    (h : castTo genTables ext typ x = .ok r) : TimeSrcOK r := by
  by_cases hn : typ = .none
  · subst hn
    rw [gen_castTo_none] at h
    cases h; exact hx
  · by_cases ht : typ = .time
    · subst ht
      rw [CasterFacts.castTo_cast ext (ty := .time) rfl] at h
      exact toTime_timeSrcOK ext hz x r hx h
    · obtain ⟨h1, h2⟩ := gen_castTo_typed ext typ hn x _ h
      exact timeSrcOK_of_typed h1 (fun hx => congrArg some (h2 hx)) fun e => ht (Option.some.inj e)

theorem newValue_ok (ext : Ext) (hz : ZoneOK ext) (x : Dyn) (f : Format) (typ : Ty) (c : Val)
    (hx : TimeSrcOK x) (h : newValue ⟨genTables, ext⟩ x f typ = .ok c) : CellOK c := by
  rcases Order.newValue_inv h with ⟨r, hr, rfl⟩ | rfl
  · exact castTo_timeOK ext hz typ x r hx hr
  · exact hx

theorem walk_rowOK {X : Type} {step : WalkStep Val X ErrClass} {l : List (Bytes × X)}
    {o o' : List (Bytes × Val)} {e : Option ErrClass}
    (hs : ∀ kx ∈ l, ∀ p c e, step p kx.2 = .ok (c, e) → CellOK c) (ho : RowOK o)
    (h : walk step o l = .ok (o', e)) : RowOK o' :=
  walk.rel (R := fun a b => RowOK a → RowOK b) (fun _ => id) (fun h1 h2 => h2 ∘ h1)
    (fun kx hkx _ _ _ h1 ha => by
      obtain ⟨c, hc, rfl⟩ := store_inv h1
      exact rowOK_upsert ha (hs kx hkx _ c _ hc)) h ho

theorem cloneRow_ok (ext : Ext) (hz : ZoneOK ext) (r r' : List (Bytes × Val)) (hr : RowOK r)
    (h : cloneRow ⟨genTables, ext⟩ r = .ok r') : RowOK r' :=
  walk_rowOK (fun kv hkv _ c _ hc => newValue_ok ext hz _ _ _ c (hr kv hkv) (cloneStep_ok.1 hc).1)
    (fun _ h => by cases h) (cloneInto_walk.1 h)

/-- `ToTime` reads its offset from the text or the process zone, no other caster `Import` calls
    returns a `time.Time`, and `cast.To` never makes one up. -/
theorem rawImported_timeOK (ext : Ext) (hz : ZoneOK ext) {typ : Ty} {x r : Dyn} (hx : TimeSrcOK x)
    (h : Order.RawImported ⟨genTables, ext⟩ typ x r) : TimeSrcOK r := by
  cases h with
  | nil => exact timeSrcOK_nil
  | kept => exact hx
  | decoded => exact fun _ e => nomatch e
  | cast v r hv hc =>
    refine castTo_timeOK ext hz typ v r ?_ hc
    rcases hv with rfl | ⟨b, rfl⟩
    · exact hx
    · exact fun _ e => nomatch e
  | named name r hn _ hc =>
    have hn' : name ∈ casterNames ∧ (name = "ToTime" ∨ resultTyOfCaster? name ≠ some .time) :=
      (by decide : ∀ n ∈ Order.importCasters,
        n ∈ casterNames ∧ (n = "ToTime" ∨ resultTyOfCaster? n ≠ some .time)) name hn
    rcases hn'.2 with rfl | hres
    · exact toTime_timeSrcOK ext hz x r hx hc
    · obtain ⟨h1, h2⟩ := gen_cast_typed ext name hn'.1 x r hc
      exact timeSrcOK_of_typed h1 h2 hres

theorem JsonShape.timeSrcOK {x : Dyn} (h : JsonShape x) : TimeSrcOK x := by
  intro t e; subst e; exact h.elim

theorem memberStep_ok (ext : Ext) (hz : ZoneOK ext) {p : Option Val} {x : Dyn} {c : Val}
    {e : Option ErrClass} (hx : JsonShape x) (h : memberStep ⟨genTables, ext⟩ p x = .ok (c, e)) :
    CellOK c := by
  cases p with
  | none => cases h; exact hx.timeSrcOK
  | some c0 =>
    rcases Order.importInto_inv h with ⟨raw, f, typ, rfl, hc⟩ | ⟨ms, ms', rfl, rfl⟩
    · obtain ⟨r, rfl, hr⟩ := Order.importCell_raw hx.not_cell hc
      exact rawImported_timeOK ext hz hx.timeSrcOK hr
    · intro t e
      simp [Cells.raw] at e

theorem getRow_rowOK (ext : Ext) (hz : ZoneOK ext) (ti : Tmpl) (line : Bytes)
    (r : List (Bytes × Val)) (hti : RowOK ti)
    (h : getRow ⟨genTables, ext⟩ ti line = .ok (r, none)) : RowOK r := by
  obtain ⟨row0, l, h0, _, hl, hp⟩ := Order.getRow_accepted_iff.1 h
  exact walk_rowOK (fun kx hkx _ _ _ hc => memberStep_ok ext hz (ofJVMembers_shape _ _ l hl kx hkx) hc)
    (cloneRow_ok ext hz ti row0 hti h0) hp

theorem fillStep_ok (ext : Ext) (hz : ZoneOK ext) {p : Option Val} {x : Dyn} {c : Val}
    {e : Option ErrClass} (hx : TimeSrcOK x) (h : fillStep ⟨genTables, ext⟩ p x = .ok (c, e)) :
    CellOK c := by
  cases p with
  | none => rw [(fillStep_none.1 h).1]; exact hx
  | some c0 => exact newValue_ok ext hz x _ _ c hx (fillStep_some.1 h).1

theorem createRow_rowOK (ext : Ext) (hz : ZoneOK ext) (to : Tmpl) (r row' : List (Bytes × Val))
    (hto : RowOK to) (hr : RowOK r)
    (h : createRow ⟨genTables, ext⟩ to (.val (.row (Members.ofList r))) = .ok (row', none)) :
    RowOK row' := by
  obtain ⟨_, row0, h0, h1⟩ := Order.createRow_row_iff.1 h
  refine walk_rowOK (fun kx hkx _ _ _ hc => ?_) (cloneRow_ok ext hz to row0 hto h0) h1
  obtain ⟨⟨k, c⟩, hm, rfl⟩ := List.mem_map.1 hkx
  exact fillStep_ok ext hz (hr (k, c) hm) hc


/-! #### The side conditions, and C04 for an emitted line -/

/-- The side conditions of the date-time verb for one line through `jlLine`: the process zone's
    offsets are printable (below 100 h) and no prototype cell of either template holds a
    `time.Time` with an unprintable offset (prototype cells made by `With` hold nil). -/
def DateTimeSide (ext : Ext) (ti to : Tmpl) : Prop := ZoneOK ext ∧ RowOK ti ∧ RowOK to

theorem rowOK_nil : RowOK [] := fun _ h => by cases h

theorem zoneOK_empty : ZoneOK Ext.empty := fun _ _ h => by cases h

theorem rowOK_withCol {t : Tmpl} (h : RowOK t) (name : Bytes) (f : Format) (typ : Ty) :
    RowOK (withCol t name f typ) :=
  rowOK_upsert h timeSrcOK_nil

/-- ANY printed row with distinct keys that holds, at the columns of `to`, cells of the declared formats: a cell
    that was printed was exported; `member_in_class` does the rest. -/
theorem printed_row_classes (ext : Ext) (to : Tmpl) (row : List (Bytes × Val)) (body : Bytes)
    (hm : RowPrint.marshalRow ⟨genTables, ext⟩ (Members.ofList row) = .ok body)
    (hnd : (OMap.keys row).Nodup)
    (hfmt : ∀ k, k ∈ OMap.keys to → Order.formatAt row k = Order.formatAt to k)
    (hdt : (∃ kv ∈ to, Cells.format kv.2 = .datetime) → ZoneOK ext ∧ RowOK row)
    (k : Bytes) (c0 : Val) (hk : OMap.lookup to k = some c0)
    (hsep : ∀ k' ∈ OMap.keys row, sanitize k' = sanitize k → k' = k) (v : JV)
    (hv : LineSpec.lookupJV (treeMembers ⟨genTables, ext⟩ (Members.ofList row)) (sanitize k) =
      some v) :
    LineSpec.inClass (Cells.format c0) v = true := by
  -- the member found is the print of the row's cell at `k`
  rw [lookupJV_tree_eq _ k row fun k' hk' => hsep k' (visibleKeys_subset row k' hk')] at hv
  obtain ⟨c, hl, rfl⟩ := Option.map_eq_some_iff.1 hv
  obtain ⟨hmem, hvis⟩ := List.mem_filter.1 (OMap.mem_of_lookup hl)
  replace hvis : Cells.format c ≠ .hidden := by simpa using hvis
  have hfmt' : Cells.format c = Cells.format c0 := by
    have := hfmt k (OMap.mem_keys_of_lookup hk)
    rw [Order.formatAt_of_lookup (OMap.lookup_of_mem hnd hmem), Order.formatAt_of_lookup hk] at this
    exact Option.some.inj this
  -- and was marshalled, hence exported
  obtain ⟨parts, hparts, _⟩ := JsonPrint.marshalRow_shape hm
  obtain ⟨bs, hbs⟩ := marshalMembers_mem _ row parts hparts k c hmem hvis
  rw [← hfmt']
  cases c with
  | row ms => exact inClass_auto _
  | cell raw f typ =>
    obtain ⟨e, he, _⟩ := marshalVal_cell_inv hbs
    refine member_in_class ext raw f typ e he fun hf => ?_
    have hside := hdt ⟨(k, c0), OMap.mem_of_lookup hk, by rw [← hfmt']; exact hf⟩
    exact ⟨hside.1, hside.2 (k, .cell raw f typ) hmem⟩

theorem classViolation_none (to : Tmpl) (t : JVMembers) (fuel : Nat)
    (hall : ∀ k raw0 f typ, (k, Val.cell raw0 f typ) ∈ to → ∀ v, LineSpec.lookupJV t k = some v →
      LineSpec.inClass f v = true) :
    LineSpec.classViolation fuel (leafCols to) t = none := by
  cases fuel with
  | zero => rfl
  | succ fuel =>
    rw [LineSpec.classViolation]
    apply foldl_none
    intro c hc
    obtain ⟨⟨k, c0⟩, hmem, rfl⟩ := List.mem_map.1 hc
    simp only [LineSpec.Col.name]
    cases hl : LineSpec.lookupJV t k with
    | none => rfl
    | some v =>
      have : LineSpec.inClass (Cells.format c0) v = true := by
        cases c0 with
        | row ms => exact inClass_auto v
        | cell raw0 f typ => exact hall k raw0 f typ hmem v hl
      simp only [this, if_true]

/-- C04 on the emitted bytes, column by column: in the object the reader delivers, the member found under the
    name of a column declared `With(name, f, typ)` (as the escaper writes it) is in the lexical class of `f` — for
    every column whose written name no other key of the line shares.  `hdt` is only asked when the output template
    has a date-time column. -/
theorem emitted_line_classes_cell (ext : Ext) (ti to : Tmpl) (line b : Bytes)
    (h : jlLine ⟨genTables, ext⟩ ti to line = .ok (b, none)) (hx : FloatTextOK ext)
    (hto : (OMap.keys to).Nodup)
    (hdt : (∃ kv ∈ to, Cells.format kv.2 = .datetime) → DateTimeSide ext ti to) :
    ∃ body t, b = body ++ [0x0A] ∧ Json.unmarshal body = (t, true) ∧
      ∀ k raw0 f typ, (k, Val.cell raw0 f typ) ∈ to →
        (∀ k' ∈ OMap.keys to ++ OMap.keys ti ++ Order.inputKeys line,
          sanitize k' = sanitize k → k' = k) →
        ∀ v, LineSpec.lookupJV t (sanitize k) = some v → LineSpec.inClass f v = true := by
  obtain ⟨r, row', body, hget, hcr, hm, hb, hu⟩ :=
    emitted_text ⟨genTables, ext⟩ ti to line b h hx
  refine ⟨body, _, hb, hu, fun k raw0 f typ hmem hsep => ?_⟩
  have horigin := created_keys_origin _ ti to line r row' hget hcr
  have hw := Order.createRow_row_walked hto hcr
  exact printed_row_classes ext to row' body hm hw.nodup (fun _ => hw.declared)
    (fun hd => ⟨(hdt hd).1, createRow_rowOK ext (hdt hd).1 to r row' (hdt hd).2.2
      (getRow_rowOK ext (hdt hd).1 ti line r (hdt hd).2.1 hget) hcr⟩)
    k _ (OMap.lookup_of_mem hto hmem) fun k' hk' => hsep k' (horigin k' hk')

/-- C04 on the emitted bytes in the words of the oracle (`LineSpec.classViolation`): no class
    violation on the emitted object, for an output template whose column names are well-formed
    UTF-8 (fixed by the escaper) and are not the escaper's image of another key of the line. -/
theorem emitted_line_classes (ext : Ext) (ti to : Tmpl) (line b : Bytes) (fuel : Nat)
    (h : jlLine ⟨genTables, ext⟩ ti to line = .ok (b, none)) (hx : FloatTextOK ext)
    (hto : (OMap.keys to).Nodup)
    (hutf : ∀ k ∈ OMap.keys to, sanitize k = k)
    (hsep : ∀ k ∈ OMap.keys to, ∀ k' ∈ OMap.keys ti ++ Order.inputKeys line,
      sanitize k' = k → k' = k)
    (hdt : (∃ kv ∈ to, Cells.format kv.2 = .datetime) → DateTimeSide ext ti to) :
    ∃ body t, b = body ++ [0x0A] ∧ Json.unmarshal body = (t, true) ∧
      LineSpec.classViolation fuel (leafCols to) t = none := by
  obtain ⟨body, t, hb, hu, hall⟩ := emitted_line_classes_cell ext ti to line b h hx hto hdt
  refine ⟨body, t, hb, hu, classViolation_none to t fuel fun k raw0 f typ hmem v hl => ?_⟩
  have hkm : k ∈ OMap.keys to := List.mem_map_of_mem (f := Prod.fst) hmem
  refine hall k raw0 f typ hmem (fun k' hk' hs => ?_) v (by rw [hutf k hkm]; exact hl)
  rw [hutf k hkm] at hs
  rw [List.append_assoc] at hk'
  rcases List.mem_append.1 hk' with hk' | hk'
  · rw [hutf k' hk'] at hs; exact hs
  · exact hsep k hkm k' hk' hs


/-! ### Non-vacuity: a concrete line through concrete templates over the regenerated tables

  Template `n` (numeric), `d` (date) on both sides, empty stdlib oracle; input line
  `{"d":"2020-01-02","n":1}`.  Every hypothesis of the theorems above holds and the line comes
  out as `{"n":1,"d":"2020-01-02"}`. -/
namespace Demo
open RowPrint JsonWrite

def env : Env := ⟨genTables, Ext.empty⟩

/-- `n` numeric, `d` date -/
def tmpl : Tmpl := withCol (withCol [] [0x6E] .numeric .none) [0x64] .date .none

/-- `2020-01-02` -/
def dateS : Bytes := [0x32, 0x30, 0x32, 0x30, 0x2D, 0x30, 0x31, 0x2D, 0x30, 0x32]

/-- `{"d":"2020-01-02","n":1}` -/
def line : Bytes :=
  [0x7B, 0x22, 0x64, 0x22, 0x3A, 0x22] ++ dateS ++ [0x22, 0x2C, 0x22, 0x6E, 0x22, 0x3A, 0x31, 0x7D]

/-- `{"n":1,"d":"2020-01-02"}` -/
def out : Bytes :=
  [0x7B, 0x22, 0x6E, 0x22, 0x3A, 0x31, 0x2C, 0x22, 0x64, 0x22, 0x3A, 0x22] ++ dateS ++ [0x22, 0x7D]

theorem tmpl_nodup : (OMap.keys tmpl).Nodup := by decide

def imported : List (Bytes × Val) :=
  [([0x6E], .cell (.num [0x31]) .numeric .none), ([0x64], .cell (.str dateS) .date .none)]

theorem getRow_line : getRow env tmpl line = .ok (imported, none) := by decide +kernel

theorem createRow_imported :
    createRow env tmpl (.val (.row (Members.ofList imported))) = .ok (imported, none) := by
  decide +kernel

theorem export_n : exportVal env (.cell (.num [0x31]) .numeric .none) = .ok (.num [0x31]) := by
  decide +kernel

theorem export_d : exportVal env (.cell (.str dateS) .date .none) = .ok (.str dateS) := by
  decide +kernel

theorem marshal_n : marshalVal env (.cell (.num [0x31]) .numeric .none) = .ok [0x31] :=
  RowRoundTrip.marshalVal_num export_n (by decide)

theorem marshal_imported : marshalRow env (Members.ofList imported) = .ok out := by
  refine (JsonPrint.marshalRow_eq env _ (JsonPrint.marshalMembers_cons env _ _ _ (by decide) marshal_n
    (JsonPrint.marshalMembers_cons env _ _ _ (by decide)
      (marshalVal_of_export export_d (by rw [marshalExported_str]))
      (JsonPrint.marshalMembers_nil env)))).trans ?_
  decide +kernel

theorem jlLine_line : jlLine env tmpl tmpl line = .ok (out ++ [0x0A], none) :=
  Order.jlLine_of_steps getRow_line createRow_imported marshal_imported

theorem floatOK : FloatTextOK env.ext := floatOK_empty

example : (treeMembers env (Members.ofList imported)).toList.map Prod.fst = [[0x6E], [0x64]] := by
  rw [tree_keys, Members.toList_ofList]
  decide +kernel

/-- `emitted_text_keys` applies: the member names are `n`, `d` — the template's order, not the input's. -/
example : ∃ t, Json.unmarshal out = (t, true) ∧ LineSpec.keysOf t = [[0x6E], [0x64]] := by
  obtain ⟨t, hu, hk⟩ :=
    of_body (emitted_text_keys env tmpl tmpl line _ jlLine_line floatOK tmpl_nodup tmpl_nodup)
  exact ⟨t, hu, hk.trans (by decide +kernel)⟩

example : ∃ t, Json.unmarshal out = (t, true) ∧ LineSpec.keysOf t = [[0x6E], [0x64]] := by
  obtain ⟨t, hu, hk⟩ := of_body
    (emitted_text_keys_expected env tmpl tmpl line _ jlLine_line floatOK tmpl_nodup (List.Perm.refl _))
  exact ⟨t, hu, hk.trans (by decide +kernel)⟩

example : LineSpec.inClass .numeric (treeVal env (.cell (.num [0x31]) .numeric .none)) = true :=
  member_in_class Ext.empty _ _ _ _ export_n (fun h => by cases h)

example : LineSpec.inClass .date (treeVal env (.cell (.str dateS) .date .none)) = true :=
  member_in_class Ext.empty _ _ _ _ export_d (fun h => by cases h)

theorem no_datetime : ¬ ∃ kv ∈ tmpl, Cells.format kv.2 = .datetime := by decide

theorem keys_fixed :
    ∀ k ∈ OMap.keys tmpl ++ OMap.keys tmpl ++ Order.inputKeys line, sanitize k = k := by
  decide +kernel

example : ∃ t, Json.unmarshal out = (t, true) ∧
    LineSpec.classViolation 8 (leafCols tmpl) t = none :=
  of_body (emitted_line_classes Ext.empty tmpl tmpl line _ 8 jlLine_line floatOK tmpl_nodup
    (fun k hk => keys_fixed k (List.mem_append_left _ (List.mem_append_left _ hk)))
    (fun k _ k' hk' hs => by
      rwa [keys_fixed k' (by rw [List.append_assoc]; exact List.mem_append_right _ hk')] at hs)
    (fun h => absurd h no_datetime))

example : ∃ t, Json.unmarshal out = (t, true) ∧
    ∀ v, LineSpec.lookupJV t [0x64] = some v → LineSpec.inClass .date v = true := by
  obtain ⟨t, hu, hc⟩ := of_body
    (emitted_line_classes_cell Ext.empty tmpl tmpl line _ jlLine_line floatOK tmpl_nodup
      (fun h => absurd h no_datetime))
  have hd : sanitize [0x64] = [0x64] := by decide +kernel
  exact ⟨t, hu, hd ▸ hc [0x64] .nil .date .none (by decide)
    (separated_of_fixed keys_fixed _ (by decide))⟩

/-- On this tree the oracle can be evaluated directly (next `example`): it agrees with `emitted_line_classes`. -/
theorem unmarshal_out : Json.unmarshal out =
    (.cons [0x6E] (.num [0x31]) (.cons [0x64] (.str dateS) .nil), true) := by decide +kernel

example : LineSpec.classViolation 8 (leafCols tmpl)
    (.cons [0x6E] (.num [0x31]) (.cons [0x64] (.str dateS) .nil)) = none := by decide

/-- The oracle is not vacuous: a string under the numeric column, or a malformed date under the
    date column, is reported. -/
example : LineSpec.classViolation 8 (leafCols tmpl)
    (.cons [0x6E] (.str [0x31]) (.cons [0x64] (.str dateS) .nil)) =
      some ("wrong-class-numeric", false) := by decide

example : LineSpec.classViolation 8 (leafCols tmpl)
    (.cons [0x6E] (.num [0x31]) (.cons [0x64] (.str [0x32, 0x30, 0x32, 0x30]) .nil)) =
      some ("wrong-class-date", false) := by decide

/-- The oracle's expected key list, computed from the template and the INPUT text's member names (`d`, `n`). -/
example : ∃ t, Json.unmarshal out = (t, true) ∧
    LineSpec.keysOf t = LineSpec.expectedKeys (leafCols tmpl) [[0x64], [0x6E]] ∧
    LineSpec.expectedKeys (leafCols tmpl) [[0x64], [0x6E]] = [[0x6E], [0x64]] := by
  obtain ⟨t, hu, hk⟩ := of_body
    (emitted_text_keys_expected_fixed env tmpl tmpl line _ jlLine_line floatOK tmpl_nodup
      (List.Perm.refl _) (fun k hk => keys_fixed k (by
        rcases List.mem_append.1 hk with hk | hk
        · exact List.mem_append_left _ (List.mem_append_left _ hk)
        · exact List.mem_append_right _ hk)))
  exact ⟨t, hu, hk.trans (by decide +kernel), by decide⟩

end Demo



/-! ### Non-vacuity with a date-time column: the side conditions are satisfiable and used

  Template `t` (datetime) on both sides, empty stdlib oracle (no process zone is consulted: the
  time is read from the text); input line `{"t":"1970-01-01T00:00:00Z"}`. -/
namespace DemoDT
open RowPrint JsonWrite

def env : Env := ⟨genTables, Ext.empty⟩

def tmpl : Tmpl := withCol [] [0x74] .datetime .none

/-- `1970-01-01T00:00:00Z` -/
def epochS : Bytes :=
  [0x31, 0x39, 0x37, 0x30, 0x2D, 0x30, 0x31, 0x2D, 0x30, 0x31, 0x54,
   0x30, 0x30, 0x3A, 0x30, 0x30, 0x3A, 0x30, 0x30, 0x5A]

/-- `{"t":"1970-01-01T00:00:00Z"}` -/
def line : Bytes := [0x7B, 0x22, 0x74, 0x22, 0x3A, 0x22] ++ epochS ++ [0x22, 0x7D]

theorem tmpl_eq : tmpl = [([0x74], .cell .nil .datetime .none)] := by rfl

theorem inputKeys_line : Order.inputKeys line = [[0x74]] := by decide +kernel

def imported : List (Bytes × Val) := [([0x74], .cell (.time ⟨0, 0, 0⟩) .datetime .none)]

theorem getRow_line : getRow env tmpl line = .ok (imported, none) := by decide +kernel

theorem createRow_imported :
    createRow env tmpl (.val (.row (Members.ofList imported))) = .ok (imported, none) := by
  decide +kernel

theorem export_t :
    exportVal env (.cell (.time ⟨0, 0, 0⟩) .datetime .none) = .ok (.str epochS) := by
  decide +kernel

theorem jlLine_line : ∃ body, jlLine env tmpl tmpl line = .ok (body ++ [0x0A], none) :=
  ⟨LineTime.objText [0x74] (quote epochS), Order.jlLine_of_steps getRow_line createRow_imported
    ((marshalRow_col env _ _ (by decide)).trans
      (by rw [marshalVal_of_export export_t (by rw [marshalExported_str])]))⟩

theorem floatOK : FloatTextOK env.ext := floatOK_empty

theorem side : DateTimeSide Ext.empty tmpl tmpl :=
  ⟨zoneOK_empty, rowOK_withCol rowOK_nil _ _ _, rowOK_withCol rowOK_nil _ _ _⟩

example : ∃ body t, jlLine env tmpl tmpl line = .ok (body ++ [0x0A], none) ∧
    Json.unmarshal body = (t, true) ∧
    ∀ v, LineSpec.lookupJV t [0x74] = some v → LineSpec.inClass .datetime v = true := by
  obtain ⟨body, hj⟩ := jlLine_line
  obtain ⟨t, hu, hc⟩ := of_body
    (emitted_line_classes_cell Ext.empty tmpl tmpl line _ hj floatOK (by decide) fun _ => side)
  exact ⟨body, t, hj, hu, sanitize_t ▸ hc [0x74] .nil .datetime .none (by decide)
    (by decide +kernel)⟩

example : RowOK imported :=
  createRow_rowOK Ext.empty side.1 tmpl imported imported side.2.2
    (getRow_rowOK Ext.empty side.1 tmpl line imported side.2.1 getRow_line) createRow_imported

end DemoDT

/-! ### The separation hypothesis is needed

  Output template `U+FFFD` (numeric), `0xFF` (string: a name that is not well-formed UTF-8); no
  importer column; input line `{"<U+FFFD>":1}` (the key as raw UTF-8, bytes EF BF BD).  The escaper
  writes the ill-formed name as the escape `\ufffd`, which the reader takes for the first name
  again: the line comes out as `{"<U+FFFD>":1,"\ufffd":null}` and the member found under the
  written name of the string column is the number `1`. -/
namespace Clash
open RowPrint JsonWrite

def env : Env := ⟨genTables, Ext.empty⟩

def fffd : Bytes := [0xEF, 0xBF, 0xBD]

def to : Tmpl := withCol (withCol [] fffd .numeric .none) [0xFF] .string .none

/-- `{"<U+FFFD>":1}` -/
def line : Bytes := [0x7B, 0x22, 0xEF, 0xBF, 0xBD, 0x22, 0x3A, 0x31, 0x7D]

def imported : List (Bytes × Val) := [(fffd, .cell (.num [0x31]) .auto .none)]

def created : List (Bytes × Val) :=
  [(fffd, .cell (.num [0x31]) .numeric .none), ([0xFF], .cell .nil .string .none)]

theorem getRow_line : getRow env [] line = .ok (imported, none) := by decide +kernel

theorem createRow_imported :
    createRow env to (.val (.row (Members.ofList imported))) = .ok (created, none) := by
  decide +kernel

/-- Every other hypothesis of `emitted_line_classes_cell` holds here, `0xFF` is a declared string column, and the
    member the reader finds under its written name is a number. -/
theorem separation_needed :
    ∃ body t, jlLine env [] to line = .ok (body ++ [0x0A], none) ∧ FloatTextOK env.ext ∧
      (OMap.keys to).Nodup ∧ (¬ ∃ kv ∈ to, Cells.format kv.2 = .datetime) ∧
      Json.unmarshal body = (t, true) ∧
      ([0xFF], Val.cell .nil .string .none) ∈ to ∧
      LineSpec.lookupJV t (sanitize [0xFF]) = some (.num [0x31]) ∧
      LineSpec.inClass .string (.num [0x31]) = false :=
  ⟨_, .cons fffd (.num [0x31]) (.cons fffd .null .nil),
    Order.jlLine_of_steps getRow_line createRow_imported
      (JsonPrint.marshalRow_eq env _ (JsonPrint.marshalMembers_cons env _ _ _ (by decide) Demo.marshal_n
        (JsonPrint.marshalMembers_cons env _ _ _ (by decide)
          (marshalVal_of_export (nil_exports_nil _ _ _) (by rw [marshalExported_nil]))
          (JsonPrint.marshalMembers_nil env)))),
    floatOK_empty, by decide, by decide, by decide +kernel, by decide, by decide +kernel, rfl⟩

/-- …and so is the oracle form when a column name is not fixed by the escaper: with the names
    as written (`sanitize`d) the oracle reports the string column. -/
example : LineSpec.classViolation 8
    [.leaf fffd .numeric .none, .leaf (sanitize [0xFF]) .string .none]
    (.cons fffd (.num [0x31]) (.cons fffd .null .nil)) = some ("wrong-class-string", false) := by
  decide +kernel

end Clash


/-! ### The zone hypothesis is needed at line level

  Output template `t` (datetime), process zone 100 h east of UTC (`TimeShape.extPlus100`), input
  line `{"t":0}`: the line is accepted and `1970-01-05T04:00:00+100:00` is written, which is not
  an RFC 3339 date-time (`TimeShape.datetime_zone_offset_bound_needed` at cell level). -/
namespace Zone
open RowPrint JsonWrite

def env : Env := ⟨genTables, TimeShape.extPlus100⟩

def to : Tmpl := withCol [] [0x74] .datetime .none

/-- `{"t":0}` -/
def line : Bytes := [0x7B, 0x22, 0x74, 0x22, 0x3A, 0x30, 0x7D]

def created : List (Bytes × Val) := [([0x74], .cell (.num [0x30]) .datetime .none)]

theorem getRow_line : getRow env [] line = .ok ([([0x74], .cell (.num [0x30]) .auto .none)], none) := by
  decide +kernel

theorem createRow_imported :
    createRow env to (.val (.row (Members.ofList [([0x74], .cell (.num [0x30]) .auto .none)]))) =
      .ok (created, none) := by decide +kernel

theorem toTime_zero :
    castNamed genTables TimeShape.extPlus100 "ToTime" (.num [0x30]) = .ok (.time ⟨0, 0, 360000⟩) := by
  decide +kernel

theorem export_t :
    exportVal env (.cell (.num [0x30]) .datetime .none) = .ok (.str TimeShape.text100h) := by
  decide +kernel

/-- Every hypothesis of `emitted_line_classes_cell` but the zone bound holds, the line is
    written, and the member under the date-time column is not in its class. -/
theorem zone_bound_needed :
    ∃ body t, jlLine env [] to line = .ok (body ++ [0x0A], none) ∧ FloatTextOK env.ext ∧
      (OMap.keys to).Nodup ∧ RowOK [] ∧ RowOK to ∧
      Json.unmarshal body = (t, true) ∧
      ([0x74], Val.cell .nil .datetime .none) ∈ to ∧
      LineSpec.lookupJV t (sanitize [0x74]) = some (.str TimeShape.text100h) ∧
      LineSpec.inClass .datetime (.str TimeShape.text100h) = false :=
  ⟨LineTime.objText [0x74] (quote TimeShape.text100h), .cons [0x74] (.str TimeShape.text100h) .nil,
    Order.jlLine_of_steps getRow_line createRow_imported
      ((marshalRow_col env _ _ (by decide)).trans
        (by rw [marshalVal_of_export export_t (by rw [marshalExported_str])])),
    floatOK_empty, by decide, rowOK_nil, rowOK_withCol rowOK_nil _ _ _, by decide +kernel,
    by decide, by decide +kernel, TimeShape.text100h_not_datetime⟩

end Zone

end Jl.LineLevel
