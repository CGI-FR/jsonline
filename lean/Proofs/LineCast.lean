/-
  Proofs.LineCast — what `NewValue` and the casters compute on the values the line-level files meet (nil, a value kept
  as it is, a `time.Time`, text an integer caster's parser refuses, a json.Number in a numeric cell), beside
  Proofs.CasterFacts; and, in namespace `LineLevel`, that what `Import` stores under a raw type is nil or of that type.
-/
import Proofs.CastEval
import Proofs.CasterFacts
import Proofs.CastTyped
import Proofs.CastInt
import Model.Value
import Proofs.Order

namespace Jl.LineCast
open Jl Jl.Value Jl.Cast Jl.CastTyped
open Jl.IntText

open Jl.CasterFacts (castTo_keeps)

/-- A cast that fails keeps the value, so nil stays nil under every raw type: templates clone. -/
theorem newValue_nil {T : CastTables} (hT : tablesOK T = true) (ext : Ext) (f : Format) (ty : Ty) :
    newValue ⟨T, ext⟩ .nil f ty = .ok (.cell .nil f ty) := by
  unfold newValue
  rcases castTo_nil hT ext ty with h | h <;> simp only [h]

theorem gen_newValue_nil (ext : Ext) (f : Format) (ty : Ty) :
    newValue ⟨genTables, ext⟩ .nil f ty = .ok (.cell .nil f ty) :=
  newValue_nil genTables_ok ext f ty

/-- For a `T` without a case the cast fails, and `NewValue` keeps the value then. -/
theorem newValue_keeps (ext : Ext) (f : Format) {ty : Ty} {x : Dyn}
    (h : x = .nil ∨ ty = .none ∨ typeOf x = ty) :
    newValue ⟨genTables, ext⟩ x f ty = .ok (.cell x f ty) := by
  unfold newValue
  by_cases ho : ty = .other
  · subst ho
    rfl
  · have hc : castTo genTables ext ty x = .ok x := by
      rcases h with h | rfl | h
      · exact castTo_keeps ext (.inl h) ho
      · exact gen_castTo_none ext x
      · exact castTo_keeps ext (.inr h) ho
    simp only [hc]

/-- No integer or float caster has a `time.Time` case: the default clause, which fails, is taken. -/
theorem numeric_time_clauses : allTys.all (fun ty => !isNumeric ty ||
    match dispatchOf genTables ty with
    | .tail c .val => (clauseOf genTables c .time).any (failsCast genTables)
    | _ => false) = true := by decide +kernel

theorem castTo_time_numeric (ext : Ext) {ty : Ty} (h : isNumeric ty = true) (t : GoTime) :
    castTo genTables ext ty (.time t) = .err .cast := by
  have hc := List.all_eq_true.mp numeric_time_clauses ty (mem_allTys ty)
  simp only [h, Bool.not_true, Bool.false_or] at hc
  split at hc
  · rename_i c hd
    obtain ⟨br, hcl, hf⟩ := (Option.any_eq_true _ _).mp hc
    rw [castTo_clause hd (v := .time t) hcl]
    exact evalBranch_failsCast hf ext _ _ _
  · cases hc

theorem newValue_time (ext : Ext) (f : Format) {ty : Ty}
    (h : ty = .none ∨ ty = .time ∨ isNumeric ty = true) (t : GoTime) :
    newValue ⟨genTables, ext⟩ (.time t) f ty = .ok (.cell (.time t) f ty) := by
  rcases h with rfl | rfl | h
  · exact newValue_keeps ext f (.inr (.inl rfl))
  · exact newValue_keeps ext f (.inr (.inr rfl))
  · simp only [newValue, castTo_time_numeric ext h]

/-! ### The integer casters -/

/-- `strconv.ParseInt(s, 0, bits of T)` / `ParseUint` as the caster of `T` calls it. -/
abbrev parseFor (t : IntTy) (s : Bytes) : Option Int := textVal t s

theorem cast_text_unparsed (ext : Ext) (tgt : IntTy) (s : Bytes) (h : parseFor tgt s = none) :
    castNamed genTables ext (casterOfInt tgt) (.str s) = .err .cast := by
  rw [cast_text ext tgt s, show textVal tgt s = none from h]

theorem marshal_number (ext : Ext) (ty : Ty) {l : Bytes} (hl : JsonWrite.isValidNumber l = true) :
    RowPrint.marshalVal ⟨genTables, ext⟩ (.cell (.num l) .numeric ty) = .ok l :=
  RowRoundTrip.marshalVal_num (CasterFacts.export_single rfl (CasterFacts.toNumber_num ext l) nofun) hl

end Jl.LineCast

/-! ### What `Import` stores under a raw type is of that type -/

-- Under the names their users cite (`LineLevel.…`); they stand here because Proofs.TypedHistory, Proofs.CellTable and
-- Props.C10 use them without importing Proofs.LineLevel.
namespace Jl.LineLevel
open Jl Jl.Value Jl.Template Jl.Cast Jl.CastTyped

theorem castTo_rawTyped (ext : Ext) {typ : Ty} (ht : typ ≠ .none) {v r : Dyn}
    (h : castTo genTables ext typ v = .ok r) : r = .nil ∨ typeOf r = typ := by
  have := gen_castTo_typed ext typ ht v r h
  by_cases hv : v = .nil
  · exact .inl (this.1.mpr hv)
  · exact .inr (this.2 hv)

theorem rawImported_typed (ext : Ext) {typ : Ty} {x r : Dyn} (ht : typ ≠ .none)
    (h : Order.RawImported ⟨genTables, ext⟩ typ x r) : r = .nil ∨ typeOf r = typ := by
  cases h with
  | nil => exact .inl rfl
  | cast v r _ hc => exact castTo_rawTyped ext ht hc
  | kept _ _ h | decoded _ h | named _ _ _ h => exact absurd h ht

theorem importCell_rawTyped (ext : Ext) {f : Format} {typ : Ty} {x : Dyn} {c : Val} {e : Option ErrClass}
    (hx : ∀ r f' t', x ≠ .val (.cell r f' t')) (h : importCell ⟨genTables, ext⟩ f typ x = .ok (c, e)) :
    ∃ r, c = .cell r f typ ∧ (typ = .none ∨ r = .nil ∨ typeOf r = typ) := by
  obtain ⟨r, rfl, hr⟩ := Order.importCell_raw hx h
  exact ⟨r, rfl, if ht : typ = .none then .inl ht else .inr (rawImported_typed ext ht hr)⟩

end Jl.LineLevel
