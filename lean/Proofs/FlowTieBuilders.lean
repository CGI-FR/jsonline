/-
  Proofs.FlowTieBuilders — the builders of template.go that go through `NewValue(nil, f, T)`: with the regenerated
  cast tables (`cast.To(T, nil)` is nil or fails) they declare the column `withCol` declares.
  (One of the files Proofs.FlowTie*; it is the only one that rests on the cast tables, so that a caster the
  translator cannot read re-opens the properties about casters only — the overview is in Proofs/FlowTie.lean.)
-/
import Proofs.FlowTieDefs
import Proofs.LineCast

namespace Jl.FlowTie
open Jl Jl.Flow Jl.Value Jl.Template

theorem newValue_column_is_withCol (ext : Ext) (how : RowSrc) (fa : FormatArg) (ta : RawTypeArg)
    (t : Tmpl) (name : Bytes) (fp f : Format) (tp typ : Ty) (sub : Tmpl)
    (hf : fa.eval fp = some f) (ht : ta.eval tp = some typ) :
    builderG ⟨genTables, ext⟩ how (.column .newValue fa ta) t name fp tp sub
      = some (.ok (withCol t name f typ)) := by
  simp only [builderG, hf, ht, LineCast.gen_newValue_nil]
  rfl

/-- `WithMapped<Format>(name, rawtype)`, for each of the eight formats that have one, is
    `withCol t name f rawtype`. -/
theorem mapped_builder_is_withCol (ext : Ext) (f : Format) (hf : f ≠ .bad) (hh : f ≠ .hidden) (t : Tmpl)
    (name : Bytes) (fp : Format) (typ : Ty) (sub : Tmpl) :
    runBuilder ⟨genTables, ext⟩ ("WithMapped" ++ f.goName) t name fp typ sub = some (.ok (withCol t name f typ)) := by
  have all : ∀ f ∈ Format.declared, f ≠ .hidden →
      Gen.flowTable.builders.lookup ("WithMapped" ++ f.goName) = some (FlowSpec.mapped f) := by
    decide +kernel
  have hm : f ∈ Format.declared := by cases f <;> first | exact absurd rfl hf | decide +kernel
  simp only [runBuilder, all f hm hh]
  exact newValue_column_is_withCol ext _ _ _ t name fp f typ typ sub rfl rfl

theorem with_is_withCol (ext : Ext) (t : Tmpl) (name : Bytes) (f : Format) (typ : Ty) (sub : Tmpl) :
    runBuilder ⟨genTables, ext⟩ "With" t name f typ sub = some (.ok (withCol t name f typ)) := by
  have hl : Gen.flowTable.builders.lookup "With" = some (.column .newValue .param .param) := by
    decide +kernel
  simp only [runBuilder, hl]
  exact newValue_column_is_withCol ext _ _ _ t name f f typ typ sub rfl rfl

end Jl.FlowTie
