/-
  Proofs.Digits — decimal digit strings: the value of one (`decVal`, the fold every decimal reader of
  the model runs), and what `natDigits` and `Time.pad` write.
-/
import Model.IntText
import Model.Time
import Model.JsonRead
import Model.JsonWrite

namespace Jl.IntText

/-! ### Digit characters -/

def IsDig (c : UInt8) : Prop := 48 ≤ c.toNat ∧ c.toNat ≤ 57

instance (c : UInt8) : Decidable (IsDig c) := by unfold IsDig; infer_instance

theorem digitChar_toNat {d : Nat} (h : d < 10) : (digitChar d).toNat = 48 + d := by
  unfold digitChar
  rw [UInt8.toNat_ofNat']
  omega

theorem isDig_digitChar {d : Nat} (h : d < 10) : IsDig (digitChar d) := by
  unfold IsDig; rw [digitChar_toNat h]; omega

theorem isDig_iff (c : UInt8) : IsDig c ↔ (0x30 ≤ c ∧ c ≤ 0x39) := by
  unfold IsDig
  rw [UInt8.le_iff_toNat_le, UInt8.le_iff_toNat_le]
  simp

theorem digitVal_of_isDig {c : UInt8} (h : IsDig c) : digitVal c = some (c.toNat - 48) := by
  have h' := (isDig_iff c).1 h
  simp [digitVal, h'.1, h'.2]

theorem isDig_ne_underscore {c : UInt8} (h : IsDig c) : (c == 0x5F) = false := by
  unfold IsDig at h
  simp [← UInt8.toNat_inj]
  omega

/-! ### `natDigits`: shape, and read-back by the digit loop -/

theorem natDigits_lt {n : Nat} (h : n < 10) : natDigits n = [digitChar n] := by
  rw [natDigits]; simp [h]

theorem natDigits_ge {n : Nat} (h : ¬ n < 10) :
    natDigits n = natDigits (n / 10) ++ [digitChar (n % 10)] := by
  rw [natDigits]; simp [h]

theorem natDigits_zero : natDigits 0 = [0x30] := by
  rw [natDigits_lt (by omega)]; rfl

theorem natDigits_all_isDig (n : Nat) : ∀ c ∈ natDigits n, IsDig c := by
  fun_induction natDigits n with
  | case1 n h => exact fun c hc => List.mem_singleton.1 hc ▸ isDig_digitChar h
  | case2 n h ih =>
    intro c hc
    rcases List.mem_append.1 hc with hc | hc
    · exact ih c hc
    · exact List.mem_singleton.1 hc ▸ isDig_digitChar (Nat.mod_lt _ (by omega))

theorem natDigits_ne_nil (n : Nat) : natDigits n ≠ [] := by
  rw [natDigits]; split <;> simp

theorem natDigits_pos_shape (n : Nat) (hn : 0 < n) :
    ∃ c tl, natDigits n = c :: tl ∧ 49 ≤ c.toNat ∧ c.toNat ≤ 57 ∧ ∀ d ∈ tl, IsDig d := by
  -- only that the first digit is no `0` needs the induction
  suffices ∃ c tl, natDigits n = c :: tl ∧ 49 ≤ c.toNat by
    obtain ⟨c, tl, e, h⟩ := this
    have hall := natDigits_all_isDig n
    rw [e] at hall
    exact ⟨c, tl, e, h, (hall c (by simp)).2, fun d hd => hall d (by simp [hd])⟩
  fun_induction natDigits n with
  | case1 n h => exact ⟨_, [], rfl, by rw [digitChar_toNat h]; omega⟩
  | case2 n h ih =>
    obtain ⟨c, tl, e, h1⟩ := ih (by omega)
    exact ⟨c, tl ++ _, by rw [e]; rfl, h1⟩

def decStep (acc : Nat) (d : UInt8) : Nat := acc * 10 + (d.toNat - 0x30)

theorem foldl_decStep_natDigits (n acc : Nat) :
    (natDigits n).foldl decStep acc = acc * 10 ^ (natDigits n).length + n := by
  induction n using natDigits.induct generalizing acc with
  | case1 n h =>
    rw [natDigits_lt h]
    simp [decStep, digitChar_toNat h]
  | case2 n h ih =>
    have hlt : n % 10 < 10 := Nat.mod_lt n (by omega)
    rw [natDigits_ge h, List.foldl_append, ih]
    simp only [List.foldl_cons, List.foldl_nil, decStep, digitChar_toNat hlt, List.length_append,
      List.length_cons, List.length_nil]
    rw [Nat.pow_succ, Nat.add_mul, Nat.mul_assoc]
    omega

theorem digitsVal_digits (ds : Bytes) (h : ∀ d ∈ ds, IsDig d) (acc : Nat) :
    digitsVal 10 true ds acc = some (ds.foldl decStep acc) := by
  induction ds generalizing acc with
  | nil => rfl
  | cons d ds ih =>
    have hd : IsDig d := h d (by simp)
    have hlt : ¬ d.toNat - 48 ≥ 10 := by unfold IsDig at hd; omega
    simp only [digitsVal, isDig_ne_underscore hd, digitVal_of_isDig hd, hlt, Bool.false_and,
      Bool.false_eq_true, if_false, List.foldl_cons]
    exact ih (fun x hx => h x (by simp [hx])) _

theorem digitsVal_natDigits (n acc : Nat) :
    digitsVal 10 true (natDigits n) acc = some (acc * 10 ^ (natDigits n).length + n) := by
  rw [digitsVal_digits _ (natDigits_all_isDig n), foldl_decStep_natDigits]

/-! ### The digit test of the model

`Json.isDigit`, `JsonWrite.isDigit`, `Time.isDigit` (and `Grammar.isDigit`, `LineSpec.isDigit`) are one
function written once per model file. -/

theorem isDigit_iff (c : UInt8) : Json.isDigit c = true ↔ IsDig c := by
  simp [Json.isDigit, isDig_iff]

theorem isDigit_eq (c : UInt8) : JsonWrite.isDigit c = Json.isDigit c := rfl

/-! ### Value and width -/

abbrev AllDig (ds : Bytes) : Prop := ∀ c ∈ ds, IsDig c

def decVal (ds : Bytes) : Nat := ds.foldl decStep 0

theorem foldl_decStep_lt (ds : Bytes) (acc : Nat) (h : AllDig ds) :
    ds.foldl decStep acc < (acc + 1) * 10 ^ ds.length := by
  induction ds generalizing acc with
  | nil => simp
  | cons d ds ih =>
    have hd := h d (List.mem_cons_self ..)
    have := ih (decStep acc d) (fun c hc => h c (List.mem_cons_of_mem _ hc))
    simp only [List.foldl_cons, List.length_cons]
    calc _ < (decStep acc d + 1) * 10 ^ ds.length := this
      _ ≤ ((acc + 1) * 10) * 10 ^ ds.length :=
        Nat.mul_le_mul_right _ (by unfold decStep; unfold IsDig at hd; omega)
      _ = (acc + 1) * 10 ^ (ds.length + 1) := by rw [Nat.mul_assoc, Nat.pow_succ, Nat.mul_comm 10]

theorem decVal_lt {ds : Bytes} (h : AllDig ds) : decVal ds < 10 ^ ds.length := by
  have := foldl_decStep_lt ds 0 h
  rwa [Nat.zero_add, Nat.one_mul] at this

theorem decVal_snoc (l : Bytes) (c : UInt8) : decVal (l ++ [c]) = decVal l * 10 + (c.toNat - 0x30) := by
  simp only [decVal, List.foldl_append, List.foldl_cons, List.foldl_nil, decStep]

theorem decVal_natDigits (n : Nat) : decVal (natDigits n) = n := by
  simp [decVal, foldl_decStep_natDigits]

theorem natDigits_length_le (n : Nat) : ∀ w, (natDigits n).length ≤ w + 1 ↔ n < 10 ^ (w + 1) := by
  induction n using natDigits.induct with
  | case1 n h =>
    intro w
    rw [natDigits_lt h]
    have : 10 ≤ 10 ^ (w + 1) := by rw [Nat.pow_succ]; have := Nat.pow_pos (n := w) (show 0 < 10 by decide); omega
    simp only [List.length_cons, List.length_nil]; omega
  | case2 n h ih =>
    intro w
    have hpos : 0 < (natDigits (n / 10)).length := List.length_pos_iff.2 (natDigits_ne_nil _)
    rw [natDigits_ge h, List.length_append, List.length_singleton, Nat.pow_succ,
      ← Nat.div_lt_iff_lt_mul (by decide)]
    cases w with
    | zero => simp only [Nat.pow_zero]; omega
    | succ k => rw [← ih k]; omega

end Jl.IntText

-- What `Model.Time`'s `pad`, `isDigit` and `dval` do on digit strings, under that model's name.
namespace Jl.Time
open IntText

theorem isDigit_iff (c : UInt8) : isDigit c = true ↔ IsDig c := IntText.isDigit_iff c

theorem foldl_zeros (k : Nat) : (List.replicate k (0x30 : UInt8)).foldl decStep 0 = 0 := by
  induction k with
  | zero => rfl
  | succ k ih => rw [List.replicate_succ, List.foldl_cons]; exact ih

theorem decVal_pad (n w : Nat) : decVal (pad n w) = n := by
  unfold pad decVal
  rw [List.foldl_append, foldl_zeros]
  exact decVal_natDigits n

theorem pad_allDig (n w : Nat) : AllDig (pad n w) := by
  intro c hc
  unfold pad at hc
  rcases List.mem_append.1 hc with h | h
  · rw [List.eq_of_mem_replicate h]; decide
  · exact natDigits_all_isDig n c h

theorem pad_length (n w : Nat) : (pad n (w + 1)).length = w + 1 ↔ n < 10 ^ (w + 1) := by
  rw [← natDigits_length_le]
  unfold pad
  simp only [List.length_append, List.length_replicate]
  omega

theorem two_digits {ds : Bytes} (hl : ds.length = 2) (hd : AllDig ds) :
    ∃ a b, ds = [a, b] ∧ isDigit a = true ∧ isDigit b = true ∧ dval a * 10 + dval b = decVal ds := by
  match ds, hl with
  | [a, b], _ =>
    exact ⟨a, b, rfl, (isDigit_iff a).2 (hd a (by simp)), (isDigit_iff b).2 (hd b (by simp)),
      by simp [decVal, decStep, dval]⟩

theorem four_digits {ds : Bytes} (hl : ds.length = 4) (hd : AllDig ds) :
    ∃ a b c d, ds = [a, b, c, d] ∧ isDigit a = true ∧ isDigit b = true ∧ isDigit c = true ∧
      isDigit d = true ∧ dval a * 1000 + dval b * 100 + dval c * 10 + dval d = decVal ds := by
  match ds, hl with
  | [a, b, c, d], _ =>
    refine ⟨a, b, c, d, rfl, (isDigit_iff a).2 (hd a (by simp)), (isDigit_iff b).2 (hd b (by simp)),
      (isDigit_iff c).2 (hd c (by simp)), (isDigit_iff d).2 (hd d (by simp)), ?_⟩
    simp only [decVal, decStep, dval, List.foldl_cons, List.foldl_nil]
    omega


theorem pad2_digits {n : Nat} (h : n < 100) :
    ∃ a b, pad n 2 = [a, b] ∧ isDigit a = true ∧ isDigit b = true ∧ dval a * 10 + dval b = n := by
  have := two_digits ((pad_length n 1).2 h) (pad_allDig n 2)
  rwa [decVal_pad] at this

theorem pad4_digits {n : Nat} (h : n < 10000) :
    ∃ a b c d, pad n 4 = [a, b, c, d] ∧ isDigit a = true ∧ isDigit b = true ∧ isDigit c = true ∧
      isDigit d = true ∧ dval a * 1000 + dval b * 100 + dval c * 10 + dval d = n := by
  have := four_digits ((pad_length n 3).2 h) (pad_allDig n 4)
  rwa [decVal_pad] at this

theorem dval_le {c : UInt8} (h : isDigit c = true) : dval c ≤ 9 := by
  have := (isDigit_iff c).1 h; unfold IsDig at this; unfold dval; omega

theorem allDig_of {ds : Bytes} (h : ∀ c ∈ ds, isDigit c = true) : AllDig ds :=
  fun c hc => (isDigit_iff c).1 (h c hc)

end Jl.Time
