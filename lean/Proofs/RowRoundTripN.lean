/-
  Proofs.RowRoundTripN — C13 at row / line level for templates with any number of columns:
  typed columns survive write-then-read.

  `CreateRow`'s fill and `parseobject` are walks that store one cell per pair.  On the row of a
  template the walk is computed (`walk_shape`), so the created row, the text and the row read
  back are lists (`fillRow`, `autoRow`, `readBack`), and `route_N` lifts per-cell facts
  (`CellRoute`) to the whole route.  Its instance at the table of covered pairings
  (`lossless_N`) is in Proofs.RowRoundTrip, where Proofs.CellTable is at hand.
-/
import Model.Tables
import Model.Value
import Model.Template
import Model.RowPrint
import Model.CastGen
import Proofs.CastTyped
import Proofs.JsonPrint
import Proofs.Order
import Proofs.RowCells
import Proofs.DecEq

namespace Jl.RowRoundTripN
open Jl Jl.Value Jl.Template Jl.RowPrint Jl.JsonPrint Jl.JsonQuote Cast
open Jl.RowRoundTrip (Wire valueTy coveredB)


/-! ### 0. Vocabulary -/

/-- Cell prototypes, as `withCol` makes them. -/
def Proto (t : Tmpl) : Prop := ∀ kc ∈ t, ∃ f ty, kc.2 = .cell .nil f ty

def setRaw (g : Bytes → Dyn) (kc : Bytes × Val) : Bytes × Val :=
  (kc.1, .cell (g kc.1) (Cells.format kc.2) (Cells.rawType kc.2))

def fillRow (t : Tmpl) (g : Bytes → Dyn) : List (Bytes × Val) := t.map (setRaw g)

def upd (g : Bytes → Dyn) (k : Bytes) (x : Dyn) : Bytes → Dyn := fun k' => if k' = k then x else g k'

def valOfFrom (g : Bytes → Dyn) (kvs : List (Bytes × Dyn)) : Bytes → Dyn :=
  kvs.foldl (fun g kv => upd g kv.1 kv.2) g

/-- A `DynMap` is a list: should a name be repeated, the last entry counts, as `CreateRow` fills
    in order. -/
def valOf (m : DynMap) : Bytes → Dyn := valOfFrom (fun _ => .nil) m.toList

def undeclared (t : Tmpl) (kvs : List (Bytes × Dyn)) : List (Bytes × Dyn) :=
  kvs.filter fun kv => decide (kv.1 ∉ OMap.keys t)

/-- What `CreateRow` and `parseobject` store under undeclared names. -/
def autoRow (l : List (Bytes × Dyn)) : List (Bytes × Val) := l.map fun kv => (kv.1, Cells.autoCell kv.2)

/-- A hidden column is not written, so it is read back nil. -/
def readBack (t : Tmpl) (back : Bytes → Dyn) : Bytes → Dyn :=
  fun k => if k ∈ visibleKeys t then back k else .nil

theorem valOfFrom_nil (g : Bytes → Dyn) : valOfFrom g [] = g := rfl

theorem valOfFrom_cons (g : Bytes → Dyn) (k : Bytes) (x : Dyn) (kvs : List (Bytes × Dyn)) :
    valOfFrom g ((k, x) :: kvs) = valOfFrom (upd g k x) kvs := rfl

theorem valOfFrom_eq : ∀ (l : List (Bytes × Dyn)) (g : Bytes → Dyn) (k : Bytes),
    valOfFrom g l k = (walk.lastAt k l).getD (g k)
  | [], _, _ => rfl
  | (k0, x0) :: l, g, k => by
    rw [valOfFrom_cons, valOfFrom_eq l, walk.lastAt_cons]
    cases walk.lastAt k l with
    | some y => rfl
    | none =>
      rw [Option.none_or, upd]
      by_cases h : k = k0
      · subst h; simp
      · have h' : ¬ k0 = k := fun e => h e.symm
        simp [h, h']

theorem valOfFrom_keyed (h : Bytes → Dyn) (l : List (Bytes × Dyn)) (g : Bytes → Dyn) (k : Bytes) :
    valOfFrom g (l.map fun kx => (kx.1, h kx.1)) k = if k ∈ l.map Prod.fst then h k else g k := by
  rw [valOfFrom_eq]
  cases hl : walk.lastAt k (l.map fun kx => (kx.1, h kx.1)) with
  | none =>
    have : k ∉ l.map Prod.fst := by
      have := walk.lastAt_eq_none_iff.1 hl
      rwa [List.map_map] at this
    rw [if_neg this]; rfl
  | some y =>
    obtain ⟨kx, hm, e⟩ := List.mem_map.1 (walk.mem_of_mem_valuesAt (List.mem_of_getLast? hl))
    obtain ⟨e1, e2⟩ := Prod.mk.inj e
    rw [if_pos (List.mem_map.2 ⟨kx, hm, e1⟩), ← e1]
    exact e2.symm

theorem valOf_absent (m : DynMap) (k : Bytes) (h : k ∉ m.toList.map Prod.fst) : valOf m k = .nil := by
  rw [valOf, valOfFrom_eq, walk.lastAt_eq_none_iff.2 h]; rfl

/-- `hnd`: a Go map holds a name once. -/
theorem valOf_present (m : DynMap) (k : Bytes) (x : Dyn) (hnd : (m.toList.map Prod.fst).Nodup)
    (h : (k, x) ∈ m.toList) : valOf m k = x := by
  rw [valOf, valOfFrom_eq, walk.lastAt, walk.valuesAt_of_count
    (by rw [hnd.count, if_pos (List.mem_map.2 ⟨(k, x), h, rfl⟩)]) h]; rfl

theorem valOf_cases (m : DynMap) (k : Bytes) : valOf m k = .nil ∨ (k, valOf m k) ∈ m.toList := by
  rw [valOf, valOfFrom_eq]
  cases h : walk.lastAt k m.toList with
  | none => exact .inl rfl
  | some y => exact .inr (walk.mem_of_mem_valuesAt (List.mem_of_getLast? h))

/-! ### 1. Rows as lists: lookups and upserts on `fillRow t g ++ extras` -/

theorem keys_fillRow (t : Tmpl) (g : Bytes → Dyn) : OMap.keys (fillRow t g) = OMap.keys t := by
  simp [OMap.keys, fillRow, setRaw, List.map_map, Function.comp_def]

theorem visibleKeys_fillRow (t : Tmpl) (g : Bytes → Dyn) :
    visibleKeys (fillRow t g) = visibleKeys t := by
  simp [visibleKeys, fillRow, setRaw, List.filter_map, List.map_map, Function.comp_def, Cells.format]

theorem fillRow_congr (t : Tmpl) (g g' : Bytes → Dyn) (h : ∀ k ∈ OMap.keys t, g k = g' k) :
    fillRow t g = fillRow t g' := by
  apply List.map_congr_left
  intro kc hkc
  have : kc.1 ∈ OMap.keys t := List.mem_map_of_mem (f := Prod.fst) hkc
  simp only [setRaw, h _ this]

theorem fillRow_upd_undeclared (t : Tmpl) (g : Bytes → Dyn) (k : Bytes) (x : Dyn)
    (hk : k ∉ OMap.keys t) : fillRow t (upd g k x) = fillRow t g :=
  fillRow_congr t _ _ fun k' hk' => by
    have : ¬ k' = k := fun e => hk (e ▸ hk')
    simp only [upd, this, if_false]

theorem fillRow_proto (t : Tmpl) (h : Proto t) : fillRow t (fun _ => .nil) = t := by
  have : ∀ kc ∈ t, setRaw (fun _ => Dyn.nil) kc = id kc := by
    intro kc hkc
    obtain ⟨f, ty, e⟩ := h kc hkc
    obtain ⟨k, c⟩ := kc
    simp only at e
    subst e
    rfl
  rw [fillRow, List.map_congr_left this, List.map_id]

theorem lookup_fillRow (t : Tmpl) (g : Bytes → Dyn) (k : Bytes) :
    OMap.lookup (fillRow t g) k =
      (OMap.lookup t k).map fun c => .cell (g k) (Cells.format c) (Cells.rawType c) := by
  induction t with
  | nil => rfl
  | cons a t ih =>
    obtain ⟨k0, c0⟩ := a
    by_cases hk : k0 = k
    · subst hk
      simp only [fillRow, List.map_cons, setRaw, OMap.lookup_cons_self, Option.map_some]
    · have : fillRow ((k0, c0) :: t) g = (k0, _) :: fillRow t g := rfl
      rw [this, OMap.lookup_cons_ne _ _ hk, OMap.lookup_cons_ne _ _ hk, ih]

theorem upsert_fillRow (t : Tmpl) (g : Bytes → Dyn) (k : Bytes) (x : Dyn) (c : Val)
    (hnd : (OMap.keys t).Nodup) (hl : OMap.lookup t k = some c) :
    OMap.upsert (fillRow t g) k (.cell x (Cells.format c) (Cells.rawType c)) = fillRow t (upd g k x) := by
  induction t with
  | nil => cases hl
  | cons a t ih =>
    obtain ⟨k0, c0⟩ := a
    rw [OMap.keys_cons, List.nodup_cons] at hnd
    have hcons : ∀ g, fillRow ((k0, c0) :: t) g = setRaw g (k0, c0) :: fillRow t g := fun _ => rfl
    rw [hcons, hcons]
    by_cases hk : k0 = k
    · subst hk
      rw [OMap.lookup_cons_self] at hl
      cases hl
      rw [fillRow_upd_undeclared t g k0 x hnd.1]
      simp [setRaw, OMap.upsert, upd]
    · rw [OMap.lookup_cons_ne _ _ hk] at hl
      have h1 := ih hnd.2 hl
      simp only [setRaw, OMap.upsert, hk, if_false, upd]
      rw [h1]

theorem keys_autoRow (l : List (Bytes × Dyn)) : OMap.keys (autoRow l) = l.map Prod.fst := by
  simp [OMap.keys, autoRow, List.map_map, Function.comp_def]

/-! ### 2. `CreateRow(map)`: the declared columns hold the map's values, undeclared names follow -/

theorem undeclared_cons_mem (t : Tmpl) (k : Bytes) (x : Dyn) (kvs : List (Bytes × Dyn))
    (h : k ∈ OMap.keys t) : undeclared t ((k, x) :: kvs) = undeclared t kvs := by
  simp [undeclared, h]

theorem undeclared_cons_not_mem (t : Tmpl) (k : Bytes) (x : Dyn) (kvs : List (Bytes × Dyn))
    (h : k ∉ OMap.keys t) : undeclared t ((k, x) :: kvs) = (k, x) :: undeclared t kvs := by
  simp [undeclared, h]

theorem undeclared_nil_of_declared (t : Tmpl) (kvs : List (Bytes × Dyn))
    (h : ∀ kv ∈ kvs, kv.1 ∈ OMap.keys t) : undeclared t kvs = [] := by
  rw [undeclared, List.filter_eq_nil_iff]
  intro kv hkv
  simp [h kv hkv]

theorem undeclared_append (t : Tmpl) (a b : List (Bytes × Dyn))
    (ha : ∀ kv ∈ a, kv.1 ∈ OMap.keys t) (hb : ∀ kv ∈ b, kv.1 ∉ OMap.keys t) :
    undeclared t (a ++ b) = b := by
  rw [undeclared, List.filter_append, ← undeclared, undeclared_nil_of_declared t a ha,
    List.nil_append, List.filter_eq_self]
  intro kv hkv
  simpa using hb kv hkv

/-- A walk whose step keeps a declared column's descriptor and stores `w k x`, and gives a new
    name a fresh Auto cell.  `fill` (`w k x = x`) and `parseobject`'s members (`w k _ = back k`)
    are such walks. -/
theorem walk_shape {step : WalkStep Val Dyn ErrClass} (t : Tmpl) (hnd : (OMap.keys t).Nodup)
    (w : Bytes → Dyn → Dyn) (hnew : ∀ x, step none x = .ok (Cells.autoCell x, none)) :
    ∀ (l : List (Bytes × Dyn)) (g : Bytes → Dyn) (X : List (Bytes × Val)),
    (∀ k x c raw, (k, x) ∈ l → OMap.lookup t k = some c →
      step (some (.cell raw (Cells.format c) (Cells.rawType c))) x =
        .ok (.cell (w k x) (Cells.format c) (Cells.rawType c), none)) →
    (OMap.keys X ++ (undeclared t l).map Prod.fst).Nodup →
    walk step (fillRow t g ++ X) l =
      .ok (fillRow t (valOfFrom g (l.map fun kx => (kx.1, w kx.1 kx.2))) ++
        (X ++ autoRow (undeclared t l)), none)
  | [], g, X, _, _ => by
    simp only [undeclared, List.filter_nil, autoRow, List.map_nil, List.append_nil, valOfFrom_nil]
    rfl
  | (k, x) :: l, g, X, hs, hx => by
    have hs' : ∀ k' x' c raw, (k', x') ∈ l → OMap.lookup t k' = some c → _ :=
      fun k' x' c raw hm => hs k' x' c raw (List.mem_cons_of_mem _ hm)
    rw [List.map_cons, valOfFrom_cons]
    by_cases hk : k ∈ OMap.keys t
    · obtain ⟨c, hc⟩ := OMap.lookup_isSome_of_mem t k hk
      rw [undeclared_cons_mem t k x l hk] at hx ⊢
      rw [walk.cons_of_store l (store_of_step (c := .cell (w k x) (Cells.format c) (Cells.rawType c)) (by
          rw [OMap.lookup_append, lookup_fillRow, hc]
          exact hs k x c (g k) List.mem_cons_self hc)),
        OMap.upsert_append_mem _ _ _ _ (by rw [keys_fillRow]; exact hk),
        upsert_fillRow t g k (w k x) c hnd hc]
      exact walk_shape t hnd w hnew l _ X hs' hx
    · rw [undeclared_cons_not_mem t k x l hk] at hx ⊢
      have hk' : k ∉ OMap.keys (fillRow t g) := by rw [keys_fillRow]; exact hk
      have hX : k ∉ OMap.keys X := fun hm =>
        (List.nodup_append.mp hx).2.2 k hm k List.mem_cons_self rfl
      rw [walk.cons_of_store l (store_of_step (c := Cells.autoCell x) (by
          rw [OMap.lookup_append, OMap.lookup_none_of_not_mem _ _ hk',
            OMap.lookup_none_of_not_mem _ _ hX]
          exact hnew x)),
        OMap.upsert_append_not_mem _ _ _ _ hk', OMap.upsert_of_not_mem _ _ _ hX,
        ← fillRow_upd_undeclared t g k (w k x) hk]
      have := walk_shape t hnd w hnew l (upd g k (w k x)) (X ++ [(k, Cells.autoCell x)]) hs' (by
        rw [OMap.keys_append]
        simpa [OMap.keys] using hx)
      simpa [autoRow] using this

theorem createRow_shape (env : Env) (t : Tmpl) (m : DynMap) (hnd : (OMap.keys t).Nodup) (hp : Proto t)
    (h0 : ∀ k f ty, (k, Val.cell .nil f ty) ∈ t → newValue env .nil f ty = .ok (.cell .nil f ty))
    (ha : ∀ k x f ty, (k, x) ∈ m.toList → (k, Val.cell .nil f ty) ∈ t →
      newValue env x f ty = .ok (.cell x f ty))
    (hx : ((undeclared t m.toList).map Prod.fst).Nodup) :
    createRow env t (.gomap m) =
      .ok (fillRow t (valOf m) ++ autoRow (undeclared t m.toList), none) := by
  have h1 := fillPairs_walk.2 (walk_shape (step := fillStep env) t hnd (fun _ x => x) (fun _ => rfl)
    m.toList (fun _ => .nil) [] (by
      intro k x c raw hm hl
      obtain ⟨f, ty, e⟩ := hp _ (OMap.mem_of_lookup hl)
      simp only at e
      subst e
      exact fillStep_some.2 ⟨ha k x f ty hm (OMap.mem_of_lookup hl), rfl⟩)
    (by simpa [OMap.keys] using hx))
  rw [fillRow_proto t hp, List.append_nil, List.nil_append, List.map_id'] at h1
  exact Order.createRow_gomap_of_steps (Order.cloneRow_proto env t hnd hp h0) h1

/-! ### 3. The printed row and what the reader delivers for it -/

/-- The cell is marshalled, and the reader hands `d` to `Import` / `NewValueAuto` for its text. -/
def CellOut (env : Env) (c : Val) (d : Dyn) : Prop :=
  ∃ b j, marshalVal env c = .ok b ∧ ReadsAs b j ∧ ofJV env j = .ok d

/-- `ds`: the members of the text of `row`, in order — name as the reader delivers it, value as
    `handledelim` builds it. -/
inductive RowOut (env : Env) : List (Bytes × Val) → List (Bytes × Dyn) → Prop
  | nil : RowOut env [] []
  | hidden {k c row ds} : Cells.format c = .hidden → RowOut env row ds → RowOut env ((k, c) :: row) ds
  | vis {k c d row ds} : Cells.format c ≠ .hidden → CellOut env c d → RowOut env row ds →
      RowOut env ((k, c) :: row) ((sanitize k, d) :: ds)

theorem RowOut.append {env : Env} {a b : List (Bytes × Val)} {da db : List (Bytes × Dyn)}
    (ha : RowOut env a da) (hb : RowOut env b db) : RowOut env (a ++ b) (da ++ db) := by
  induction ha with
  | nil => exact hb
  | hidden h _ ih => exact .hidden h ih
  | vis h hc _ ih => exact .vis h hc ih

theorem RowOut.members {env : Env} {row : List (Bytes × Val)} {ds : List (Bytes × Dyn)}
    (h : RowOut env row ds) :
    ∃ parts ms, marshalMembers env (Members.ofList row) = .ok parts ∧ ReadsMembers parts ms ∧
      ofJVMembers env ms = .ok ds := by
  induction h with
  | nil => exact ⟨[], .nil, marshalMembers_nil env, .nil, rfl⟩
  | @hidden k c row ds hh _ ih =>
    obtain ⟨parts, ms, h1, h2, h3⟩ := ih
    exact ⟨parts, ms, by rw [Members.ofList, marshalMembers_hidden env _ _ _ hh]; exact h1, h2, h3⟩
  | @vis k c d row ds hv hc _ ih =>
    obtain ⟨parts, ms, h1, h2, h3⟩ := ih
    obtain ⟨b, j, hb, hr, hj⟩ := hc
    refine ⟨_, _, by rw [Members.ofList]; exact marshalMembers_cons env k c _ hv hb h1,
      ReadsMembers.cons hr h2, ?_⟩
    rw [ofJVMembers.eq_def]
    simp only [hj, h3]

theorem RowOut.text {env : Env} {row : List (Bytes × Val)} {ds : List (Bytes × Dyn)}
    (h : RowOut env row ds) :
    ∃ bytes ms, marshalRow env (Members.ofList row) = .ok bytes ∧ Json.unmarshal bytes = (ms, true) ∧
      ofJVMembers env ms = .ok ds := by
  obtain ⟨parts, ms, h1, h2, h3⟩ := h.members
  exact ⟨_, ms, marshalRow_eq env _ h1, unmarshal_object h2, h3⟩

theorem cellOut_of_wire (env : Env) (v : Dyn) (f : Format) (ty : Ty) (e e' : Dyn)
    (hb : exportVal env (.cell v f ty) = .ok e) (hw : Wire e e') : CellOut env (.cell v f ty) e' := by
  obtain ⟨b, j, hm, hr, hj⟩ := hw.marshal env v
  refine ⟨b, j, ?_, hr, hj⟩
  rw [marshalVal_cell_ok hb, hm]

/-- Any cell that is marshalled, nested data under an Auto column included, given that
    json.Marshal's spelling of a float is a JSON number (`FloatTextOK`). -/
theorem cellOut_of_tree (env : Env) (hx : FloatTextOK env.ext) (c : Val) (b : Bytes) (d : Dyn)
    (hm : marshalVal env c = .ok b) (hd : ofJV env (treeVal env c) = .ok d) : CellOut env c d :=
  ⟨b, treeVal env c, hm, marshalVal_tree env hx c b hm, hd⟩

/-- `Q` carries any fact about the value delivered. -/
theorem rowOut_of_cells (env : Env) (Q : Bytes → Val → Dyn → Prop) :
    ∀ (row : List (Bytes × Val)),
    (∀ k c, (k, c) ∈ row → Cells.format c ≠ .hidden →
      sanitize k = k ∧ ∃ d, CellOut env c d ∧ Q k c d) →
    ∃ ds, RowOut env row ds ∧ ds.map Prod.fst = visibleKeys row ∧
      ∀ k d, (k, d) ∈ ds → ∃ c, (k, c) ∈ row ∧ Cells.format c ≠ .hidden ∧ Q k c d
  | [], _ => ⟨[], .nil, rfl, fun _ _ h => by cases h⟩
  | (k0, c0) :: row, h => by
    obtain ⟨ds, h1, h2, h3⟩ := rowOut_of_cells env Q row
      (fun k c hm => h k c (List.mem_cons_of_mem _ hm))
    by_cases hh : Cells.format c0 = .hidden
    · refine ⟨ds, .hidden hh h1, ?_, fun k d hm => ?_⟩
      · simp [visibleKeys, hh] at h2 ⊢; exact h2
      · obtain ⟨c, hc⟩ := h3 k d hm
        exact ⟨c, List.mem_cons_of_mem _ hc.1, hc.2⟩
    · obtain ⟨hk, d, hd, hq⟩ := h k0 c0 List.mem_cons_self hh
      refine ⟨(k0, d) :: ds, ?_, ?_, fun k d' hm => ?_⟩
      · have := RowOut.vis (k := k0) hh hd h1
        rwa [hk] at this
      · simp [visibleKeys, hh] at h2 ⊢; exact h2
      · rcases List.mem_cons.mp hm with hm | hm
        · cases hm; exact ⟨c0, List.mem_cons_self, hh, hq⟩
        · obtain ⟨c, hc⟩ := h3 k d' hm
          exact ⟨c, List.mem_cons_of_mem _ hc.1, hc.2⟩

/-- What the reader delivers for the undeclared entries `E`: the name after the trip through the
    escaper, the value `handledelim` builds for the text of the Auto cell. -/
inductive Delivered (env : Env) : List (Bytes × Dyn) → List (Bytes × Dyn) → Prop
  | nil : Delivered env [] []
  | cons {k x d E ds} : CellOut env (Cells.autoCell x) d → Delivered env E ds →
      Delivered env ((k, x) :: E) ((sanitize k, d) :: ds)

theorem Delivered.keys {env : Env} {E ds : List (Bytes × Dyn)} (h : Delivered env E ds) :
    ds.map Prod.fst = E.map fun kv => sanitize kv.1 := by
  induction h with
  | nil => rfl
  | cons _ _ ih => simp [ih]

theorem rowOut_autoRow (env : Env) : ∀ (E : List (Bytes × Dyn)),
    (∀ kv ∈ E, ∃ d, CellOut env (Cells.autoCell kv.2) d) →
    ∃ ds, RowOut env (autoRow E) ds ∧ Delivered env E ds
  | [], _ => ⟨[], .nil, .nil⟩
  | (k, x) :: E, h => by
    obtain ⟨ds, h1, h2⟩ := rowOut_autoRow env E (fun kv hm => h kv (List.mem_cons_of_mem _ hm))
    obtain ⟨d, hd⟩ := h (k, x) List.mem_cons_self
    exact ⟨(sanitize k, d) :: ds, .vis (by simp [Cells.autoCell, Cells.format]) hd h1, .cons hd h2⟩

/-! ### 4. The route, and the generic N-column lifting theorem -/

/-- `CreateRow`, `row.MarshalJSON`, then `CreateRowEmpty` + `UnmarshalJSON`, every step without
    error. -/
def RouteN (env : Env) (t : Tmpl) (v : Dyn) (row : List (Bytes × Val)) (bytes : Bytes)
    (r : List (Bytes × Val)) : Prop :=
  createRow env t v = .ok (row, none) ∧
  marshalRow env (Members.ofList row) = .ok bytes ∧
  ∃ r0, createRowEmpty env t = .ok r0 ∧ unmarshalInto env r0 bytes = .ok (r, none)

/-- The same through the public entry points: `exporter.Export`, and `importer.GetRow` on the
    scanned line. -/
def LineRouteN (env : Env) (t : Tmpl) (v : Dyn) (bytes : Bytes) (r : List (Bytes × Val)) : Prop :=
  exportLine env t v = .ok (bytes ++ [0x0A], none) ∧ getRow env t bytes = .ok (r, none)

theorem RouteN.line {env : Env} {t : Tmpl} {v : Dyn} {row r : List (Bytes × Val)} {bytes : Bytes}
    (h : RouteN env t v row bytes r) : LineRouteN env t v bytes r := by
  obtain ⟨h1, h2, r0, h3, h4⟩ := h
  constructor
  · exact Order.exportLine_iff.2 ⟨row, bytes, h1, h2, rfl⟩
  · exact (Order.getRow_of_clone h3 bytes).trans h4

theorem RouteN.unique {env : Env} {t : Tmpl} {v : Dyn} {row row' r r' : List (Bytes × Val)}
    {bytes bytes' : Bytes} (h : RouteN env t v row bytes r) (h' : RouteN env t v row' bytes' r') :
    row = row' ∧ bytes = bytes' ∧ r = r' := by
  obtain ⟨a1, a2, r0, a3, a4⟩ := h
  obtain ⟨b1, b2, r0', b3, b4⟩ := h'
  rw [a1] at b1; injection b1 with b1; injection b1 with b1; subst b1
  rw [a2] at b2; injection b2 with b2; subst b2
  rw [a3] at b3; injection b3 with b3; subst b3
  rw [a4] at b4; injection b4 with b4; injection b4 with b4
  exact ⟨rfl, rfl, b4⟩

theorem RouteN.toRoute {env : Env} {key : Bytes} {f : Format} {ty : Ty} {v v' : Dyn}
    {row r : List (Bytes × Val)} {bytes : Bytes}
    (h : RouteN env (withCol [] key f ty) (.gomap (.cons key v .nil)) row bytes r)
    (hv : (lookup r key).map Cells.raw = some v') : RowRoundTrip.Route env key f ty v v' := by
  obtain ⟨h1, h2, r0, h3, h4⟩ := h
  exact ⟨row, bytes, r0, r, h1, h2, h3, h4, hv⟩

/-- What `route_N` asks of a visible column `(f, ty)` holding `v`. -/
def CellRoute (env : Env) (f : Format) (ty : Ty) (v v' : Dyn) : Prop :=
  ∃ d, CellOut env (.cell v f ty) d ∧ importCell env f ty d = .ok (.cell v' f ty, none)

theorem CellRoute.of_pairing {env : Env} {f : Format} {ty : Ty} {v v' : Dyn}
    (h : RowRoundTrip.Pairing env f ty v v') : CellRoute env f ty v v' := by
  obtain ⟨e, e', hw, hb, hd⟩ := h
  exact ⟨e', cellOut_of_wire env v f ty e e' hb hw, hd⟩

/-- A column the map does not hold, or holds as nil. -/
theorem cellRoute_nil (env : Env) (f : Format) (ty : Ty) : CellRoute env f ty .nil .nil :=
  .of_pairing (.nil env f ty)

theorem mem_visibleKeys {t : List (Bytes × Val)} {k : Bytes} {c : Val} (hm : (k, c) ∈ t)
    (hv : Cells.format c ≠ .hidden) : k ∈ visibleKeys t := by
  simp only [visibleKeys, List.mem_map, List.mem_filter, bne_iff_ne, ne_eq]
  exact ⟨(k, c), ⟨hm, hv⟩, rfl⟩

theorem of_mem_visibleKeys {t : List (Bytes × Val)} {k : Bytes} (h : k ∈ visibleKeys t) :
    ∃ c, (k, c) ∈ t ∧ Cells.format c ≠ .hidden := by
  simp only [visibleKeys, List.mem_map, List.mem_filter, bne_iff_ne, ne_eq] at h
  obtain ⟨⟨k', c⟩, ⟨hm, hv⟩, rfl⟩ := h
  exact ⟨c, hm, hv⟩

/-- What `route_N` asks of the entries under names `t` does not declare; it is needed
    (`Clash.clash`). -/
def ExtrasOK (env : Env) (t : Tmpl) (m : DynMap) : Prop :=
  ((undeclared t m.toList).map fun kv => sanitize kv.1).Nodup ∧
  (∀ kv ∈ undeclared t m.toList, sanitize kv.1 ∉ OMap.keys t) ∧
  (∀ kv ∈ undeclared t m.toList, ∃ d, CellOut env (Cells.autoCell kv.2) d)

/-- The lifting theorem, for any environment and cast tables.  `ha` includes the hidden columns:
    `CreateRow` fills them too.  `hcell` asks of the VISIBLE ones only (at nil if the map holds
    nothing under the name: `cellRoute_nil`).  `hext` is vacuous when every name of the map is
    declared.  The declared columns come in declaration order whatever the order of the map; a
    hidden column is not written and is read back nil. -/
theorem route_N (env : Env) (t : Tmpl) (m : DynMap) (back : Bytes → Dyn)
    (hnd : (OMap.keys t).Nodup) (hp : Proto t) (hkeys : ∀ k ∈ visibleKeys t, sanitize k = k)
    (h0 : ∀ k f ty, (k, Val.cell .nil f ty) ∈ t → newValue env .nil f ty = .ok (.cell .nil f ty))
    (ha : ∀ k x f ty, (k, x) ∈ m.toList → (k, Val.cell .nil f ty) ∈ t →
      newValue env x f ty = .ok (.cell x f ty))
    (hcell : ∀ k f ty, (k, Val.cell .nil f ty) ∈ t → f ≠ .hidden →
      CellRoute env f ty (valOf m k) (back k))
    (hext : ExtrasOK env t m) :
    ∃ bytes dsE, Delivered env (undeclared t m.toList) dsE ∧
      RouteN env t (.gomap m) (fillRow t (valOf m) ++ autoRow (undeclared t m.toList)) bytes
        (fillRow t (readBack t back) ++ autoRow dsE) ∧
      Order.inputKeys bytes =
        visibleKeys t ++ (undeclared t m.toList).map fun kv => sanitize kv.1 := by
  obtain ⟨hxk, hxt, hxo⟩ := hext
  have hx : ((undeclared t m.toList).map Prod.fst).Nodup := by
    have : ((undeclared t m.toList).map Prod.fst).map sanitize =
        (undeclared t m.toList).map fun kv => sanitize kv.1 := by
      simp [List.map_map, Function.comp_def]
    rw [← this] at hxk
    exact List.Pairwise.of_map sanitize (fun a b h e => h (congrArg sanitize e)) hxk
  have hcreate := createRow_shape env t m hnd hp h0 ha hx
  obtain ⟨ds, hout, hdk, hdq⟩ := rowOut_of_cells env
    (fun k c d => importCell env (Cells.format c) (Cells.rawType c) d =
      .ok (.cell (back k) (Cells.format c) (Cells.rawType c), none)) (fillRow t (valOf m)) (by
    intro k c' hm hv
    obtain ⟨⟨k', c⟩, hmt, he⟩ := List.mem_map.mp hm
    cases he
    obtain ⟨f, ty, e⟩ := hp _ hmt
    simp only at e
    subst e
    obtain ⟨d, hco, hd⟩ := hcell k' f ty hmt hv
    exact ⟨hkeys k' (mem_visibleKeys hmt hv), d, hco, hd⟩)
  rw [visibleKeys_fillRow] at hdk
  obtain ⟨dsE, houtE, hdel⟩ := rowOut_autoRow env (undeclared t m.toList) hxo
  obtain ⟨bytes, ms, hmar, hun, hof⟩ := (hout.append houtE).text
  -- `parseobject` is the same walk, over `ds ++ dsE`, storing `back k`
  have hD : ∀ kv ∈ ds, kv.1 ∈ OMap.keys t := fun kv hkv => by
    obtain ⟨c, hc, _⟩ := of_mem_visibleKeys (hdk ▸ List.mem_map_of_mem (f := Prod.fst) hkv)
    exact List.mem_map_of_mem (f := Prod.fst) hc
  have hE : ∀ kv ∈ dsE, kv.1 ∉ OMap.keys t := fun kv hkv => by
    have := List.mem_map_of_mem (f := Prod.fst) hkv
    rw [hdel.keys] at this
    obtain ⟨kv', hkv', e⟩ := List.mem_map.mp this
    exact e ▸ hxt kv' hkv'
  have hund := undeclared_append t ds dsE hD hE
  have hparse := (parseMembers_eq_walk env _ _).trans (walk_shape (step := memberStep env) t hnd
    (fun k _ => back k) (fun _ => rfl) (ds ++ dsE) (fun _ => .nil) [] (by
      intro k d c raw hm hl
      rcases List.mem_append.mp hm with hm | hm
      · obtain ⟨c', hc', _, hq⟩ := hdq k d hm
        have := (OMap.lookup_of_mem (by rw [keys_fillRow]; exact hnd) hc').symm.trans
          (lookup_fillRow t _ k)
        rw [hl] at this
        cases this
        exact hq
      · exact absurd (OMap.mem_keys_of_lookup hl) (hE _ hm)) (by
      rw [hund, hdel.keys]
      simpa [OMap.keys] using hxk))
  rw [fillRow_proto t hp, List.append_nil, List.nil_append, hund,
    fillRow_congr t _ (readBack t back) (fun k hk => by
      have : k ∉ dsE.map Prod.fst := fun h => by
        obtain ⟨kv, hkv, e⟩ := List.mem_map.mp h
        exact hE kv hkv (e ▸ hk)
      rw [valOfFrom_keyed]
      simp only [readBack, List.map_append, List.mem_append, hdk, this, or_false])] at hparse
  refine ⟨bytes, dsE, hdel, ⟨hcreate, hmar, t, Order.cloneRow_proto env t hnd hp h0,
    Order.unmarshalInto_of_steps hun hof hparse⟩, ?_⟩
  rw [Order.inputKeys, hun, ← Order.ofJVMembers_keys env ms _ hof, List.map_append, hdk, hdel.keys]

theorem extrasOK_of_declared (env : Env) (t : Tmpl) (m : DynMap)
    (h : ∀ kv ∈ m.toList, kv.1 ∈ OMap.keys t) : ExtrasOK env t m := by
  unfold ExtrasOK
  rw [undeclared_nil_of_declared t _ h]
  refine ⟨by simp, ?_, ?_⟩ <;> intro _ h <;> cases h

theorem cellOut_auto_of_wire (env : Env) {x x' : Dyn} (hw : Wire x x') :
    CellOut env (Cells.autoCell x) x' := by
  apply cellOut_of_wire env x .auto .none x x' ?_ hw
  exact exportVal_auto env x .none

/-- `hk` holds of ASCII and of well-formed UTF-8 names. -/
theorem extrasOK_of_scalars (env : Env) (t : Tmpl) (m : DynMap)
    (hk : ∀ kv ∈ undeclared t m.toList, sanitize kv.1 = kv.1)
    (hnd : ((undeclared t m.toList).map Prod.fst).Nodup)
    (hw : ∀ kv ∈ undeclared t m.toList, ∃ x', Wire kv.2 x') : ExtrasOK env t m := by
  have e : ((undeclared t m.toList).map fun kv => sanitize kv.1) =
      (undeclared t m.toList).map Prod.fst := List.map_congr_left hk
  refine ⟨by rw [e]; exact hnd, fun kv hkv => ?_, fun kv hkv => ?_⟩
  · rw [hk kv hkv]
    have := (List.mem_filter.mp hkv).2
    simpa using this
  · obtain ⟨x', hx'⟩ := hw kv hkv
    exact ⟨x', cellOut_auto_of_wire env hx'⟩

/-! ### 5. Reading the result column by column -/

theorem lookup_declared (t : Tmpl) (g : Bytes → Dyn) (X : List (Bytes × Val)) (k : Bytes) (f : Format)
    (ty : Ty) (hnd : (OMap.keys t).Nodup) (hm : (k, Val.cell .nil f ty) ∈ t) :
    lookup (fillRow t g ++ X) k = some (.cell (g k) f ty) := by
  rw [lookup, OMap.lookup_append, lookup_fillRow, OMap.lookup_of_mem hnd hm]
  rfl

theorem keys_result (t : Tmpl) (g : Bytes → Dyn) (ds : List (Bytes × Dyn)) :
    OMap.keys (fillRow t g ++ autoRow ds) = OMap.keys t ++ ds.map Prod.fst := by
  rw [OMap.keys_append, keys_fillRow, keys_autoRow]

theorem readBack_visible (t : Tmpl) (back : Bytes → Dyn) (k : Bytes) (c : Val) (hm : (k, c) ∈ t)
    (hv : Cells.format c ≠ .hidden) : readBack t back k = back k := by
  simp only [readBack, mem_visibleKeys hm hv, if_true]

theorem readBack_hidden (t : Tmpl) (back : Bytes → Dyn) (k : Bytes) (c : Val)
    (hnd : (OMap.keys t).Nodup) (hm : (k, c) ∈ t) (hh : Cells.format c = .hidden) :
    readBack t back k = .nil := by
  have : k ∉ visibleKeys t := by
    intro hk
    obtain ⟨c', hm', hv'⟩ := of_mem_visibleKeys hk
    have := (OMap.lookup_of_mem hnd hm').symm.trans (OMap.lookup_of_mem hnd hm)
    cases this
    exact hv' hh
  simp only [readBack, this, if_false]

theorem lookup_delivered {env : Env} {E ds : List (Bytes × Dyn)} (hd : Delivered env E ds)
    (B : List (Bytes × Val)) (hB : ∀ kv ∈ E, sanitize kv.1 ∉ OMap.keys B)
    (hnd : (E.map fun kv => sanitize kv.1).Nodup) :
    ∀ kv ∈ E, ∃ d, CellOut env (Cells.autoCell kv.2) d ∧
      lookup (B ++ autoRow ds) (sanitize kv.1) = some (Cells.autoCell d) := by
  induction hd generalizing B with
  | nil => intro kv h; cases h
  | @cons k x d E ds hc _ ih =>
    intro kv hkv
    simp only [List.map_cons, List.nodup_cons] at hnd
    have hsplit : B ++ autoRow ((sanitize k, d) :: ds) =
        (B ++ [(sanitize k, Cells.autoCell d)]) ++ autoRow ds := by simp [autoRow]
    rcases List.mem_cons.mp hkv with h | h
    · subst h
      refine ⟨d, hc, ?_⟩
      rw [lookup, OMap.lookup_append, OMap.lookup_none_of_not_mem _ _ (hB _ List.mem_cons_self)]
      simp [autoRow, OMap.lookup]
    · rw [hsplit]
      refine ih (B ++ [(sanitize k, Cells.autoCell d)]) ?_ hnd.2 kv h
      intro kv' hkv'
      rw [OMap.keys_append, List.mem_append, not_or]
      refine ⟨hB kv' (List.mem_cons_of_mem _ hkv'), ?_⟩
      simp only [OMap.keys, List.map_cons, List.map_nil, List.mem_singleton]
      intro e
      exact hnd.1 (e ▸ List.mem_map_of_mem (f := fun kv => sanitize kv.1) hkv')

/-- `route_N` takes a function `back : Bytes → Dyn`; the per-column facts come as `∃ v'`.  With
    distinct names a name has one descriptor, so one choice per name serves every column. -/
theorem choose_back (t : Tmpl) (hnd : (OMap.keys t).Nodup) (R : Bytes → Format → Ty → Dyn → Prop)
    (h : ∀ k f ty, (k, Val.cell .nil f ty) ∈ t → f ≠ .hidden → ∃ v', R k f ty v') :
    ∃ back : Bytes → Dyn, ∀ k f ty, (k, Val.cell .nil f ty) ∈ t → f ≠ .hidden → R k f ty (back k) := by
  have : ∀ k, ∃ v', ∀ f ty, (k, Val.cell .nil f ty) ∈ t → f ≠ .hidden → R k f ty v' := by
    intro k
    by_cases hex : ∃ f ty, (k, Val.cell .nil f ty) ∈ t ∧ f ≠ .hidden
    · obtain ⟨f, ty, hm, hv⟩ := hex
      obtain ⟨v', hv'⟩ := h k f ty hm hv
      refine ⟨v', fun f' ty' hm' _ => ?_⟩
      have := (OMap.lookup_of_mem hnd hm').symm.trans (OMap.lookup_of_mem hnd hm)
      cases this
      exact hv'
    · exact ⟨.nil, fun f ty hm hv => absurd ⟨f, ty, hm, hv⟩ hex⟩
  exact ⟨fun k => Classical.choose (this k), fun k => Classical.choose_spec (this k)⟩

/-- On the row `r` read back: a VISIBLE declared column holds a value equal to the map's (same Go
    type, `Tables.sameValue`; nil for a name the map does not hold); a HIDDEN one holds nil
    whatever the map held, which is why `Tables.lossless` excludes hidden columns. -/
def ColumnsSurvive (t : Tmpl) (m : DynMap) (r : List (Bytes × Val)) : Prop :=
  ∀ k f ty, (k, Val.cell .nil f ty) ∈ t →
    (f ≠ .hidden → ∃ v', lookup r k = some (.cell v' f ty) ∧ Tables.sameValue (valOf m k) v' = true) ∧
    (f = .hidden → lookup r k = some (.cell .nil f ty))

/-- In the form of the one-column `RowRoundTrip.Route`. -/
theorem ColumnsSurvive.raw {t : Tmpl} {m : DynMap} {r : List (Bytes × Val)} (h : ColumnsSurvive t m r)
    (k : Bytes) (f : Format) (ty : Ty) (hm : (k, Val.cell .nil f ty) ∈ t) (hv : f ≠ .hidden) :
    ∃ v', (lookup r k).map Cells.raw = some v' ∧ Tables.sameValue (valOf m k) v' = true := by
  obtain ⟨v', h1, h2⟩ := (h k f ty hm).1 hv
  exact ⟨v', by rw [h1]; simp [Cells.raw], h2⟩

/-- The whole N-column statement, the conclusion of `lossless_N`. -/
def RowLosslessN (env : Env) (t : Tmpl) (m : DynMap) : Prop :=
  ∃ (row : List (Bytes × Val)) (bytes : Bytes) (r : List (Bytes × Val)),
    RouteN env t (.gomap m) row bytes r ∧ LineRouteN env t (.gomap m) bytes r ∧
    OMap.keys row = OMap.keys t ++ (undeclared t m.toList).map Prod.fst ∧
    Order.inputKeys bytes = visibleKeys t ++ (undeclared t m.toList).map (fun kv => sanitize kv.1) ∧
    OMap.keys r = OMap.keys t ++ (undeclared t m.toList).map (fun kv => sanitize kv.1) ∧
    ColumnsSurvive t m r ∧
    (∀ kv ∈ undeclared t m.toList, ∃ d, CellOut env (Cells.autoCell kv.2) d ∧
      lookup r (sanitize kv.1) = some (Cells.autoCell d))

/-! ### 6. The regenerated tables -/

/-! The lossless pairings outside `covered` / `coveredExt`, as `CellRoute`s (one column: the
    `row_…` theorems of Proofs.RowRoundTrip). -/

/-- The domain: the literals that are well-formed UTF-8, or valid numbers. -/
theorem gen_cell_string_num (ext : Ext) (v : Dyn) (hty : v = .nil ∨ typeOf v = .num)
    (hd : Tables.inDomain .string .num v = true) :
    ∃ v', CellRoute ⟨genTables, ext⟩ .string .num v v' ∧ Tables.sameValue v v' = true := by
  rcases hty with rfl | hty
  · exact ⟨.nil, cellRoute_nil _ _ _, rfl⟩
  obtain ⟨l, rfl⟩ := CastTyped.typeOf_inv hty
  exact ⟨.num l, .of_pairing (RowRoundTrip.pairing_string_num ext l (RowRoundTrip.sanitize_num_of_inDomain hd)),
    by simp [Tables.sameValue]⟩

/-- `Tables.inDomain` does not bound the `Nat` that models the bits, hence `hb`. -/
theorem gen_cell_binary_f64 (ext : Ext) (b : Nat) (hb : b < 2 ^ 64) :
    CellRoute ⟨genTables, ext⟩ .binary .f64 (.f64 b) (.f64 b) :=
  .of_pairing (RowRoundTrip.pairing_binary_fixed ext (v := .f64 b) rfl rfl hb)

theorem gen_cell_binary_f32 (ext : Ext) (b : Nat) (hb : b < 2 ^ 32) :
    CellRoute ⟨genTables, ext⟩ .binary .f32 (.f32 b) (.f32 b) :=
  .of_pairing (RowRoundTrip.pairing_binary_fixed ext (v := .f32 b) rfl rfl hb)

/-- `hfm`, `hp`: strconv's answers for this value. -/
theorem gen_cell_text_f64 (ext : Ext) (b : Nat) (s : Bytes) (hfm : ext.fmtFloat b 64 = some s)
    (hp : ext.parseFloat s 64 = some (some b)) (hs : JsonWrite.isValidNumber s = true) :
    CellRoute ⟨genTables, ext⟩ .string .f64 (.f64 b) (.f64 b) ∧
    CellRoute ⟨genTables, ext⟩ .numeric .f64 (.f64 b) (.f64 b) :=
  ⟨.of_pairing (RowRoundTrip.pairing_text_float ext .f64 b b s hfm hp rfl hs).1,
   .of_pairing (RowRoundTrip.pairing_text_float ext .f64 b b s hfm hp rfl hs).2⟩

theorem gen_cell_text_f32 (ext : Ext) (b r : Nat) (s : Bytes)
    (hfm : ext.fmtFloat (Float.f32to64 b) 32 = some s) (hp : ext.parseFloat s 32 = some (some r))
    (hr : Float.f64to32 r = b) (hs : JsonWrite.isValidNumber s = true) :
    CellRoute ⟨genTables, ext⟩ .string .f32 (.f32 b) (.f32 b) ∧
    CellRoute ⟨genTables, ext⟩ .numeric .f32 (.f32 b) (.f32 b) :=
  ⟨.of_pairing (RowRoundTrip.pairing_text_float ext .f32 b r s hfm hp hr hs).1,
   .of_pairing (RowRoundTrip.pairing_text_float ext .f32 b r s hfm hp hr hs).2⟩

theorem gen_route_N (ext : Ext) (t : Tmpl) (m : DynMap) (back : Bytes → Dyn)
    (hnd : (OMap.keys t).Nodup) (hp : Proto t) (hkeys : ∀ k ∈ visibleKeys t, sanitize k = k)
    (ha : ∀ k x f ty, (k, x) ∈ m.toList → (k, Val.cell .nil f ty) ∈ t →
      castTo genTables ext ty x = .ok x)
    (hcell : ∀ k f ty, (k, Val.cell .nil f ty) ∈ t → f ≠ .hidden →
      CellRoute ⟨genTables, ext⟩ f ty (valOf m k) (back k))
    (hx : ExtrasOK ⟨genTables, ext⟩ t m) :
    ∃ bytes dsE, Delivered ⟨genTables, ext⟩ (undeclared t m.toList) dsE ∧
      RouteN ⟨genTables, ext⟩ t (.gomap m) (fillRow t (valOf m) ++ autoRow (undeclared t m.toList))
        bytes (fillRow t (readBack t back) ++ autoRow dsE) ∧
      Order.inputKeys bytes =
        visibleKeys t ++ (undeclared t m.toList).map fun kv => sanitize kv.1 :=
  route_N ⟨genTables, ext⟩ t m back hnd hp hkeys
    (fun _ f ty _ => LineCast.gen_newValue_nil ext f ty)
    (fun k x f ty h1 h2 => RowRoundTrip.newValue_of_castTo ⟨genTables, ext⟩ x f ty (ha k x f ty h1 h2))
    hcell hx

/-- Under a VISIBLE column the value is nil or of the column's Go type (`RowRoundTrip.valueTy`:
    the raw type, or the format's default type when there is none) and in the property's domain;
    under a HIDDEN one it is nil or of the raw type — `CreateRow` casts it too, although it is
    never written. -/
def WellTypedMap (t : Tmpl) (m : DynMap) : Prop :=
  ∀ k x f ty, (k, x) ∈ m.toList → (k, Val.cell .nil f ty) ∈ t →
    (f ≠ .hidden → (x = .nil ∨ typeOf x = valueTy f ty) ∧ Tables.inDomain f ty x = true) ∧
    (f = .hidden → x = .nil ∨ ty = .none ∨ typeOf x = ty)

theorem WellTypedMap.valOf {t : Tmpl} {m : DynMap} (h : WellTypedMap t m) (k : Bytes) (f : Format)
    (ty : Ty) (hm : (k, Val.cell .nil f ty) ∈ t) (hv : f ≠ .hidden) :
    (valOf m k = .nil ∨ typeOf (valOf m k) = valueTy f ty) ∧
      Tables.inDomain f ty (valOf m k) = true := by
  rcases valOf_cases m k with h0 | h1
  · rw [h0]; exact ⟨.inl rfl, rfl⟩
  · exact (h k _ f ty h1 hm).1 hv

theorem WellTypedMap.newValue {t : Tmpl} {m : DynMap} (h : WellTypedMap t m) (ext : Ext) (k : Bytes)
    (x : Dyn) (f : Format) (ty : Ty) (h1 : (k, x) ∈ m.toList) (h2 : (k, Val.cell .nil f ty) ∈ t) :
    newValue ⟨genTables, ext⟩ x f ty = .ok (.cell x f ty) := by
  by_cases hv : f = .hidden
  · exact LineCast.newValue_keeps ext f ((h k x f ty h1 h2).2 hv)
  · exact LineCast.newValue_keeps ext f (RowRoundTrip.typed_of_valueTy ((h k x f ty h1 h2).1 hv).1)

/-- Entry by entry: a finite check on a concrete template and map. -/
theorem WellTypedMap.of_entries {t : Tmpl} {m : DynMap}
    (h : ∀ kx ∈ m.toList, ∀ kc ∈ t, kx.1 = kc.1 →
      (Cells.format kc.2 ≠ .hidden →
        (kx.2 = .nil ∨ typeOf kx.2 = valueTy (Cells.format kc.2) (Cells.rawType kc.2)) ∧
          Tables.inDomain (Cells.format kc.2) (Cells.rawType kc.2) kx.2 = true) ∧
      (Cells.format kc.2 = .hidden →
        kx.2 = .nil ∨ Cells.rawType kc.2 = .none ∨ typeOf kx.2 = Cells.rawType kc.2)) :
    WellTypedMap t m :=
  fun k x f ty h1 h2 => h (k, x) h1 (k, .cell .nil f ty) h2 rfl

/-- `hcol`: every visible column comes with its cell-level theorem
    (`RowRoundTrip.gen_pairing_covered`, `gen_pairing_coveredExt`, or any other
    `RowRoundTrip.Pairing`). -/
theorem gen_lossless_N_of_cols (ext : Ext) (t : Tmpl) (m : DynMap)
    (hnd : (OMap.keys t).Nodup) (hp : Proto t) (hkeys : ∀ k ∈ visibleKeys t, sanitize k = k)
    (hcol : ∀ k f ty, (k, Val.cell .nil f ty) ∈ t → f ≠ .hidden → Tables.lossless f ty = true ∧
      ∀ v, (v = .nil ∨ typeOf v = valueTy f ty) → Tables.inDomain f ty v = true →
        ∃ v', RowRoundTrip.Pairing ⟨genTables, ext⟩ f ty v v' ∧ Tables.sameValue v v' = true)
    (hm : WellTypedMap t m) (hx : ExtrasOK ⟨genTables, ext⟩ t m) :
    (∀ k f ty, (k, Val.cell .nil f ty) ∈ t → f ≠ .hidden → Tables.lossless f ty = true) ∧
    RowLosslessN ⟨genTables, ext⟩ t m := by
  obtain ⟨back, hback⟩ := choose_back t hnd
    (fun k f ty v' => CellRoute ⟨genTables, ext⟩ f ty (valOf m k) v' ∧ Tables.sameValue (valOf m k) v' = true)
    (fun k f ty h1 hv => by
      obtain ⟨v', hp', hs⟩ := (hcol k f ty h1 hv).2 _ (hm.valOf k f ty h1 hv).1 (hm.valOf k f ty h1 hv).2
      exact ⟨v', .of_pairing hp', hs⟩)
  obtain ⟨bytes, dsE, hdel, hroute, hin⟩ := route_N ⟨genTables, ext⟩ t m back hnd hp hkeys
    (fun _ f ty _ => LineCast.gen_newValue_nil ext f ty) (fun k x f ty h1 h2 => hm.newValue ext k x f ty h1 h2)
    (fun k f ty hm hv => (hback k f ty hm hv).1) hx
  refine ⟨fun k f ty h1 hv => (hcol k f ty h1 hv).1, _, bytes, _, hroute, hroute.line, ?_, hin, ?_,
    fun k f ty hm => ⟨fun hv => ?_, fun hh => ?_⟩, ?_⟩
  · rw [keys_result]
  · rw [keys_result, hdel.keys]
  · refine ⟨back k, ?_, (hback k f ty hm hv).2⟩
    rw [lookup_declared t _ _ k f ty hnd hm, readBack_visible t back k _ hm hv]
  · rw [lookup_declared t _ _ k f ty hnd hm, readBack_hidden t back k _ hnd hm hh]
  · exact lookup_delivered hdel _ (fun kv hkv => by rw [keys_fillRow]; exact hx.2.1 kv hkv) hx.1

/-! ### 7. Hidden columns do not survive -/

theorem sameValue_nil_right (v : Dyn) (h : v ≠ .nil) : Tables.sameValue v .nil = false := by
  cases v <;> first | exact absurd rfl h | rfl

theorem hidden_lost {t : Tmpl} {m : DynMap} {r : List (Bytes × Val)} (h : ColumnsSurvive t m r)
    (k : Bytes) (ty : Ty) (hm : (k, Val.cell .nil .hidden ty) ∈ t) (hv : valOf m k ≠ .nil) :
    ∃ v', (lookup r k).map Cells.raw = some v' ∧ Tables.sameValue (valOf m k) v' = false := by
  refine ⟨.nil, ?_, sameValue_nil_right _ hv⟩
  rw [(h k .hidden ty hm).2 rfl]
  simp [Cells.raw]

/-! ### 8. Templates built by `With(name, format, rawtype)` -/

def ofCols (cols : List (Bytes × Format × Ty)) : Tmpl :=
  cols.foldl (fun t c => withCol t c.1 c.2.1 c.2.2) []

def protoRow (cols : List (Bytes × Format × Ty)) : Tmpl :=
  cols.map fun c => (c.1, .cell .nil c.2.1 c.2.2)

theorem keys_protoRow (cols : List (Bytes × Format × Ty)) :
    OMap.keys (protoRow cols) = cols.map Prod.fst := by
  simp [OMap.keys, protoRow, List.map_map, Function.comp_def]

theorem foldl_withCol (cols : List (Bytes × Format × Ty)) : ∀ (acc : Tmpl),
    (OMap.keys acc ++ cols.map Prod.fst).Nodup →
    cols.foldl (fun t c => withCol t c.1 c.2.1 c.2.2) acc = acc ++ protoRow cols := by
  induction cols with
  | nil => intro acc _; simp [protoRow]
  | cons c cols ih =>
    intro acc hnd
    have hc : c.1 ∉ OMap.keys acc := by
      intro hm
      rw [List.map_cons, List.nodup_append] at hnd
      exact hnd.2.2 _ hm _ List.mem_cons_self rfl
    rw [List.foldl_cons, withCol, upsert, OMap.upsert_of_not_mem _ _ _ hc, ih]
    · simp [protoRow]
    · rw [OMap.keys_append]
      simpa [OMap.keys] using hnd

theorem foldl_withCol_inv (cols : List (Bytes × Format × Ty)) : ∀ (acc : Tmpl),
    (OMap.keys acc).Nodup → Proto acc →
    (OMap.keys (cols.foldl (fun t c => withCol t c.1 c.2.1 c.2.2) acc)).Nodup ∧
      Proto (cols.foldl (fun t c => withCol t c.1 c.2.1 c.2.2) acc) := by
  induction cols with
  | nil => intro acc h1 h2; exact ⟨h1, h2⟩
  | cons c cols ih =>
    intro acc h1 h2
    rw [List.foldl_cons]
    apply ih
    · exact OMap.nodup_upsert _ _ _ h1
    · intro kc hkc
      rcases OMap.mem_upsert hkc with h | h
      · exact h2 kc h
      · exact ⟨_, _, congrArg Prod.snd h⟩

/-- The hypotheses `(OMap.keys t).Nodup` and `Proto t` are no restriction on a template built by
    `With` calls (`With` on a name already declared replaces the column in place). -/
theorem ofCols_ok (cols : List (Bytes × Format × Ty)) :
    (OMap.keys (ofCols cols)).Nodup ∧ Proto (ofCols cols) :=
  foldl_withCol_inv cols [] (by simp [OMap.keys]) (fun _ h => by cases h)

theorem ofCols_eq (cols : List (Bytes × Format × Ty)) (hnd : (cols.map Prod.fst).Nodup) :
    ofCols cols = protoRow cols := by
  have := foldl_withCol cols [] (by simpa [OMap.keys] using hnd)
  simpa [ofCols] using this

theorem proto_protoRow (cols : List (Bytes × Format × Ty)) : Proto (protoRow cols) := by
  intro kc hkc
  obtain ⟨c, _, rfl⟩ := List.mem_map.mp hkc
  exact ⟨c.2.1, c.2.2, rfl⟩

theorem mem_protoRow {cols : List (Bytes × Format × Ty)} {k : Bytes} {f : Format} {ty : Ty} :
    (k, Val.cell .nil f ty) ∈ protoRow cols ↔ (k, f, ty) ∈ cols := by
  simp only [protoRow, List.mem_map, Prod.mk.injEq, Val.cell.injEq, true_and]
  constructor
  · rintro ⟨⟨k', f', ty'⟩, hm, rfl, rfl, rfl⟩; exact hm
  · intro h; exact ⟨(k, f, ty), h, rfl, rfl, rfl⟩

/-- From a check of the entries: a finite check on a concrete template. -/
theorem forall_cols {t : Tmpl} {P : Bytes → Format → Ty → Prop}
    (h : ∀ kc ∈ t, P kc.1 (Cells.format kc.2) (Cells.rawType kc.2)) :
    ∀ k f ty, (k, Val.cell .nil f ty) ∈ t → P k f ty :=
  fun k f ty hm => h (k, .cell .nil f ty) hm

/-! ### 9. The hypothesis on undeclared names is needed -/

namespace Clash
open Json

/-- U+FFFD -/
def kr : Bytes := [0xEF, 0xBF, 0xBD]
/-- not UTF-8: the writer spells it `\ufffd` -/
def kbad : Bytes := [0xFF]

def tmpl : Tmpl := withCol [] kr .string .none
def m : DynMap := .cons kbad (.str [0x78]) .nil

/-- `{"<U+FFFD>":null,"\ufffd":"x"}` -/
def text : Bytes :=
  [0x7B, 0x22, 0xEF, 0xBF, 0xBD, 0x22, 0x3A, 0x6E, 0x75, 0x6C, 0x6C, 0x2C,
   0x22, 0x5C, 0x75, 0x66, 0x66, 0x66, 0x64, 0x22, 0x3A, 0x22, 0x78, 0x22, 0x7D]

def created : List (Bytes × Val) := [(kr, .cell .nil .string .none), (kbad, .cell (.str [0x78]) .auto .none)]
def readRow : List (Bytes × Val) := [(kr, .cell (.str [0x78]) .string .none)]

theorem create (ext : Ext) : createRow ⟨genTables, ext⟩ tmpl (.gomap m) = .ok (created, none) := by
  rfl

theorem marshal (ext : Ext) : marshalRow ⟨genTables, ext⟩ (Members.ofList created) = .ok text := by
  have h1 : marshalVal ⟨genTables, ext⟩ (.cell .nil .string .none) = .ok RowPrint.null := by
    rw [marshalVal_cell_ok (exportVal_nil ..), marshalExported_nil]
  have h2 : marshalVal ⟨genTables, ext⟩ (.cell (.str [0x78]) .auto .none) =
      .ok (JsonWrite.quote [0x78]) := by
    rw [marshalVal_auto, marshalDyn_str]
  have := marshalRow_eq ⟨genTables, ext⟩ _
    (marshalMembers_cons ⟨genTables, ext⟩ kr _ _ (by decide) h1
      (marshalMembers_cons ⟨genTables, ext⟩ kbad _ .nil (by decide) h2 (marshalMembers_nil _)))
  rwa [show (0x7B :: (joinComma _ ++ [0x7D]) : Bytes) = text by decide +kernel] at this

theorem read : Json.unmarshal text = (.cons kr .null (.cons kr (.str [0x78]) .nil), true) := by
  decide +kernel

/-- The map holds NOTHING under the declared name U+FFFD, and yet the column is read back holding
    "x": the undeclared name `FF`, which the writer spells `\ufffd`, comes back under the declared
    name.  Every hypothesis of `lossless_N` holds (`other_hypotheses`) except `ExtrasOK`. -/
theorem clash (ext : Ext) :
    RouteN ⟨genTables, ext⟩ tmpl (.gomap m) created text readRow ∧
    valOf m kr = .nil ∧
    (lookup readRow kr).map Cells.raw = some (.str [0x78]) ∧
    Tables.sameValue (valOf m kr) (.str [0x78]) = false ∧
    ¬ ExtrasOK ⟨genTables, ext⟩ tmpl m := by
  refine ⟨⟨create ext, marshal ext, tmpl, by rfl,
    Order.unmarshalInto_of_steps read (by rfl) (by rfl)⟩,
    by decide +kernel, by rfl, by decide +kernel, fun h => ?_⟩
  -- `sanitize [0xFF]` is U+FFFD, the declared name
  exact h.2.1 (kbad, .str [0x78]) (by decide +kernel) (by decide +kernel)

theorem other_hypotheses :
    (OMap.keys tmpl).Nodup ∧ Proto tmpl ∧ (∀ k ∈ visibleKeys tmpl, sanitize k = k) ∧
    (∀ k f ty, (k, Val.cell .nil f ty) ∈ tmpl → f ≠ .hidden → coveredB f ty = true) ∧
    WellTypedMap tmpl m :=
  ⟨(ofCols_ok [(kr, .string, .none)]).1, (ofCols_ok [(kr, .string, .none)]).2, by decide +kernel,
    forall_cols (by decide), .of_entries (by decide +kernel)⟩

end Clash
end Jl.RowRoundTripN
