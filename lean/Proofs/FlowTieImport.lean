/-
  Proofs.FlowTieImport — importer.go: NewImporter (scanner sizes), Import, Err, GetRow = `getRow`, ReadOne
  (overview: Proofs/FlowTie.lean)
-/
import Proofs.FlowTieDefs

namespace Jl.FlowTie
open Jl Jl.Flow Jl.Value Jl.Template

theorem newImporter_as_modelled : Gen.flowTable.newImporter = .scanner 0 65536 10485760 := by decide +kernel

theorem importerWithTemplate_as_modelled : Gen.flowTable.importerWithTemplate = .storesArg := by decide +kernel

theorem import_as_modelled : Gen.flowTable.importerImport = .scan := by decide +kernel

theorem err_as_modelled : Gen.flowTable.importerErr = .scannerErr := by decide +kernel

theorem getRow_as_modelled : Gen.flowTable.getRow = .scannerErrThenParse .nil .wrapped := by decide +kernel

theorem readOne_as_modelled : Gen.flowTable.readOne = .importThenGetRow := by decide +kernel

theorem getRow_is_getRow (env : Env) (t : Tmpl) (line : Bytes) :
    getRowG Gen.flowTable.getRow Gen.flowTable.createRowEmpty env t line = some (getRow env t line) := rfl

/-- The scanner's initial buffer and token limit are the constants Gen.Sites reads from importer.go, the
    values the drivers and Props.C07 use; no `Split` call (the shape `scanner` has none). -/
theorem scanner_sizes :
    Gen.flowTable.newImporter = .scanner 0 Gen.initialBufferSize Gen.maximumBufferSize
    ∧ Gen.initialBufferSize = 65536 ∧ Gen.maximumBufferSize = 10485760 := by decide +kernel

end Jl.FlowTie
